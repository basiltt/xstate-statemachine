/-
Persisted actor TREES: the `actors` / `system` part of `get_persisted_snapshot` / `from_snapshot`
(base_interpreter.py), for hierarchies of any depth and width.

Parametric in the per-interpreter payload `σ` (status, context, configuration, history, output, error: what
`Xsm/Model/Snapshot.lean` models for ONE interpreter), so this file does not depend on the engine model.

* `Snap σ`  — a persisted snapshot: `own`, `actors` (the dict of records in insertion order: actor id, the
              record's `src`, the child's snapshot) and `system` (systemId -> actor id).
* `Live σ`  — an interpreter object with everything below it: `own`, `kids` (`_actors`: id, `_actor_sources.get(id)`,
              child), `parked` (`_pending_actor_snapshots`: records kept verbatim because their service was not
              registered when this interpreter was restored), `sys` (`_system`: systemId -> the id of the registered
              actor object) and `pend` (`_pending_system_ids`, repair F62: systemIds that name a parked actor or an
              actor inside a parked record).
* `snapTree`     = `get_persisted_snapshot` (`_persist_actors`: live records first, then `setdefault` of the parked
                   ones; `system` = `{**pending, **live}`).
* `restoreV v svc` = `from_snapshot` with `services` abstracted to `svc : String → Bool` ("the key resolves to a
                   machine": `_resolve_actor_machine`; a record without `src` never resolves — that is what happens to
                   a child started by machine-`invoke` on the async engine). A record that resolves is rebuilt
                   recursively and its `src` recorded (`if record.get("src")`: a non-empty string), one that does not is
                   parked. Then every `system` entry whose actor is found is registered; `v : Variant` says HOW it is
                   looked up and what happens to the others:
     `deep`     : in the whole restored tree (`_find_actor_by_id`, repair F60) / among the direct children only
                  (`interpreter._actors.get(actor_id)`, the code before F60);
     `keepPend` : an entry that names a parked actor (or an actor inside a parked record) is kept in `pend`
                  (repair F62) / dropped (the code before F62).
  `restoreTree` is the repaired code (`deep`, `keepPend`), `restoreAsIs` the code at commit a8e5c14 (before both repairs);
  the library since 48e7e52 (F60 repaired, F62 open) is `restoreV ⟨true, false⟩`.
-/
namespace XSM.SnapTree

inductive Snap (σ : Type) where
  | mk (own : σ) (actors : List (String × Option String × Snap σ)) (system : List (String × String))

inductive Live (σ : Type) where
  | mk (own : σ) (kids : List (String × Option String × Live σ))
       (parked : List (String × Option String × Snap σ))
       (sys : List (String × String)) (pend : List (String × String))

abbrev SRec (σ : Type) := String × Option String × Snap σ
abbrev LKid (σ : Type) := String × Option String × Live σ

namespace Snap
variable {σ : Type}
def own : Snap σ → σ | mk o _ _ => o
def actors : Snap σ → List (SRec σ) | mk _ a _ => a
def system : Snap σ → List (String × String) | mk _ _ s => s
end Snap

namespace Live
variable {σ : Type}
def own : Live σ → σ | mk o _ _ _ _ => o
def kids : Live σ → List (LKid σ) | mk _ k _ _ _ => k
def parked : Live σ → List (SRec σ) | mk _ _ p _ _ => p
def sys : Live σ → List (String × String) | mk _ _ _ s _ => s
def pend : Live σ → List (String × String) | mk _ _ _ _ p => p
end Live

variable {σ : Type}

/-- `key in dict` for a dict kept as an association list -/
def hasKey {β : Type} (k : String) (l : List (String × β)) : Bool := l.any (fun e => e.1 == k)

/-- `actor_id == parked_id or actor_id.startswith(f"{parked_id}:")` -/
def under (pid aid : String) : Bool := aid == pid || (pid ++ ":").isPrefixOf aid

/-- `{**pend, **live}`: the keys of `pend` first (a live registration overrides the value), then the new live keys -/
def mergeSys (pend live : List (String × String)) : List (String × String) :=
  pend.map (fun e => (e.1, ((live.find? (fun x => x.1 == e.1)).map (·.2)).getD e.2))
    ++ live.filter (fun e => !hasKey e.1 pend)

-- snapshot --------------------------------------------------------------------------------------------
mutual
/-- `get_persisted_snapshot` -/
def snapTree : Live σ → Snap σ
  | .mk own kids parked sys pend =>
    .mk own (snapKids kids ++ parked.filter (fun r => !hasKey r.1 kids)) (mergeSys pend sys)
/-- the records of the live children (`_persist_actors`, first part) -/
def snapKids : List (LKid σ) → List (SRec σ)
  | [] => []
  | (id, src, c) :: rest => (id, src, snapTree c) :: snapKids rest
end

-- restore ---------------------------------------------------------------------------------------------
/-- `_resolve_actor_machine(record.get("src")) is not None` -/
def avail (svc : String → Bool) : Option String → Bool
  | none => false
  | some k => svc k

/-- `if record.get("src"): _actor_sources[actor_id] = record["src"]` -/
def recSrc : Option String → Option String
  | none => none
  | some k => if k = "" then none else some k

/-- the records that are parked: `_pending_actor_snapshots[actor_id] = record` -/
def parkedOf (svc : String → Bool) (recs : List (SRec σ)) : List (SRec σ) :=
  recs.filter (fun r => !avail svc r.2.1)

mutual
/-- is there a live actor with this id anywhere below (`_find_actor_by_id`) -/
def Live.has : Live σ → String → Bool
  | .mk _ kids _ _ _, aid => hasIn kids aid
def hasIn : List (LKid σ) → String → Bool
  | [], _ => false
  | (id, _, c) :: rest, aid => id == aid || c.has aid || hasIn rest aid
end

/-- is there a DIRECT child with this id (`_actors.get(actor_id)`: the lookup before repair F60) -/
def hasDirect (kids : List (LKid σ)) (aid : String) : Bool := hasKey aid kids

mutual
/-- `_is_parked`: the id names a record parked by this interpreter or by a live descendant, or an actor inside one -/
def Live.isParked : Live σ → String → Bool
  | .mk _ kids parked _ _, aid => parked.any (fun r => under r.1 aid) || parkedInKids kids aid
def parkedInKids : List (LKid σ) → String → Bool
  | [], _ => false
  | (_, _, c) :: rest, aid => c.isParked aid || parkedInKids rest aid
end

structure Variant where
  deep : Bool
  keepPend : Bool
deriving DecidableEq, Repr

def repaired : Variant := ⟨true, true⟩
def asIs : Variant := ⟨false, false⟩

def found (v : Variant) (kids : List (LKid σ)) (aid : String) : Bool :=
  if v.deep then hasIn kids aid else hasDirect kids aid

mutual
/-- `from_snapshot` -/
def restoreV (v : Variant) (svc : String → Bool) : Snap σ → Live σ
  | .mk own actors system =>
    .mk own (restoreKids v svc actors) (parkedOf svc actors)
      (system.filter (fun e => found v (restoreKids v svc actors) e.2))
      (if v.keepPend then
         system.filter (fun e => !found v (restoreKids v svc actors) e.2 &&
           ((parkedOf svc actors).any (fun r => under r.1 e.2) || parkedInKids (restoreKids v svc actors) e.2))
       else [])
def restoreKids (v : Variant) (svc : String → Bool) : List (SRec σ) → List (LKid σ)
  | [] => []
  | (id, src, s) :: rest =>
    if avail svc src then (id, recSrc src, restoreV v svc s) :: restoreKids v svc rest
    else restoreKids v svc rest
end

/-- `from_snapshot` with the repairs F60 and F62 -/
def restoreTree (svc : String → Bool) (s : Snap σ) : Live σ := restoreV repaired svc s
/-- `from_snapshot` at a8e5c14 (before F60 / F62) -/
def restoreAsIs (svc : String → Bool) (s : Snap σ) : Live σ := restoreV asIs svc s

/-- one save/restore cycle seen from the persisted side -/
def cycle (svc : String → Bool) (s : Snap σ) : Snap σ := snapTree (restoreTree svc s)

-- what a snapshot says about liveness (no reference to `restore`) ------------------------------------------
mutual
/-- the record of `aid` and the records of all its ancestors resolve: the actor comes back alive -/
def liveIn (svc : String → Bool) : List (SRec σ) → String → Bool
  | [], _ => false
  | (id, src, s) :: rest, aid =>
    (avail svc src && (id == aid || liveInSnap svc s aid)) || liveIn svc rest aid
def liveInSnap (svc : String → Bool) : Snap σ → String → Bool
  | .mk _ actors _, aid => liveIn svc actors aid
end

mutual
/-- `aid` is (inside) a record that does not resolve while all the records above it do: it is parked -/
def parkedIn (svc : String → Bool) : List (SRec σ) → String → Bool
  | [], _ => false
  | (id, src, s) :: rest, aid =>
    (if avail svc src then parkedInSnap svc s aid else under id aid) || parkedIn svc rest aid
def parkedInSnap (svc : String → Bool) : Snap σ → String → Bool
  | .mk _ actors _, aid => parkedIn svc actors aid
end

-- well-formedness ----------------------------------------------------------------------------------------
mutual
/-- a live hierarchy as `from_snapshot` leaves it and as a run keeps it: every child's service key is recorded and
    resolves, parked records do not resolve and do not collide with a child, every registered id is a live actor of the
    tree (C15's `RegLive`), every pending systemId names a parked actor and no live one, no systemId is both live and
    pending -/
def WFLive (svc : String → Bool) : Live σ → Prop
  | .mk _ kids parked sys pend =>
    WFKids svc kids ∧
    (∀ r ∈ parked, avail svc r.2.1 = false ∧ hasKey r.1 kids = false) ∧
    (∀ e ∈ sys, hasIn kids e.2 = true) ∧
    (∀ e ∈ pend, hasIn kids e.2 = false ∧ (parked.any (fun r => under r.1 e.2) || parkedInKids kids e.2) = true) ∧
    (∀ e ∈ sys, hasKey e.1 pend = false)
def WFKids (svc : String → Bool) : List (LKid σ) → Prop
  | [] => True
  | (_, src, c) :: rest => (∃ k, src = some k ∧ k ≠ "" ∧ svc k = true) ∧ WFLive svc c ∧ WFKids svc rest
end

mutual
/-- a decoded snapshot: the record ids of one `actors` object are pairwise different and so are the keys of one
    `system` object (JSON objects decode to dicts), no record has the empty string as `src`; at every level -/
def WFSnap : Snap σ → Prop
  | .mk _ actors system => WFRecs actors ∧ (actors.map (·.1)).Nodup ∧ (system.map (·.1)).Nodup
def WFRecs : List (SRec σ) → Prop
  | [] => True
  | (_, src, s) :: rest => src ≠ some "" ∧ WFSnap s ∧ WFRecs rest
end

mutual
/-- every record resolves, at every level (no documented exception applies) -/
def AllAvail (svc : String → Bool) : Snap σ → Prop
  | .mk _ actors _ => AllAvailRecs svc actors
def AllAvailRecs (svc : String → Bool) : List (SRec σ) → Prop
  | [] => True
  | (_, src, s) :: rest => avail svc src = true ∧ AllAvail svc s ∧ AllAvailRecs svc rest
end

mutual
/-- every `system` entry, at every level, names an actor of that level's subtree that comes back alive -/
def SysLive (svc : String → Bool) : Snap σ → Prop
  | .mk _ actors system => (∀ e ∈ system, liveIn svc actors e.2 = true) ∧ SysLiveRecs svc actors
def SysLiveRecs (svc : String → Bool) : List (SRec σ) → Prop
  | [] => True
  | (_, _, s) :: rest => SysLive svc s ∧ SysLiveRecs svc rest
end

end XSM.SnapTree

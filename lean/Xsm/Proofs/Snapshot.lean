import Xsm.Model.Snapshot
import Xsm.Proofs.Perm
import Xsm.Proofs.History
/-
Helper lemmas for C12.  Ids: `get_state_by_id` inverts `id` when neither the machine id nor a key contains
'.' (`stateById_idOf`).  Reading a snapshot: `shapeErr` is the first failing row of a table (`shapeRows`), and
on a snapshot that passed it `restoreCore` can only fail at an unknown state id (`restoreCore_no_shape`).
Round trip: `restore m (snap m s)` is `restored m s` (`restore_snap_core`), whose snapshot is `snap m s` again.
Last, the equivalence `St.equiv` of C16 lifted from one transition to `send` for both engines, for any
invariant of the run (`RunInv`) that provides the side conditions at the transitions actually executed.
-/
namespace XSM
namespace Snap
open Hist Spec

/-- a machine whose id and keys contain no '.' (ids are then injective and `get_state_by_id` inverts `id`) -/
structure MDot (m : Machine) : Prop where
  id : '.' ∉ m.id.toList
  keys : ∀ p, (m.root.at p).isSome → ∀ k ∈ p, '.' ∉ k.toList

theorem stateById_idOf (m : Machine) (hd : MDot m) (p : Path) (hv : (m.root.at p).isSome) :
    stateById m (m.idOf p) = some p := by
  unfold stateById
  rw [splitDot_idTail _ _ p (idOf_toList m p) hd.id (hd.keys p hv)]
  simp only [if_true]
  cases h : m.root.at p with
  | none => rw [h] at hv; cases hv
  | some n => rfl

theorem strList_map (f : Path → String) : ∀ ps : List Path, strList (ps.map (fun p => J.str (f p))) = some (ps.map f)
  | [] => rfl
  | p :: ps => by simp [strList, strList_map f ps]

theorem filterMap_stateById (m : Machine) (hd : MDot m) : ∀ ps : List Path, (∀ p ∈ ps, (m.root.at p).isSome) →
    (ps.map m.idOf).filterMap (stateById m) = ps
  | [], _ => rfl
  | p :: ps, h => by
    simp only [List.map_cons, List.filterMap_cons, stateById_idOf m hd p (h p (by simp)),
      filterMap_stateById m hd ps (fun q hq => h q (List.mem_cons_of_mem _ hq))]

theorem restoreIds_eq (m : Machine) : ∀ ids : List String, restoreIds m ids =
    match ids.find? (fun id => (stateById m id).isNone) with
    | some id => .error (.stateNotFound id)
    | none => .ok (ids.filterMap (stateById m))
  | [] => rfl
  | id :: ids => by
    rw [restoreIds, restoreIds_eq m ids, List.find?_cons, List.filterMap_cons]
    cases stateById m id with
    | none => rfl
    | some p => cases ids.find? _ <;> rfl

theorem find?_unknown {m : Machine} {ids : List String} {id : String}
    (h : ids.find? (fun id => (stateById m id).isNone) = some id) : id ∈ ids ∧ stateById m id = none :=
  ⟨List.mem_of_find?_eq_some h,
    Option.isNone_iff_eq_none.1 (List.find?_some (p := fun id => (stateById m id).isNone) h)⟩

theorem restoreIds_idOf (m : Machine) (hd : MDot m) (ps : List Path) (h : ∀ p ∈ ps, (m.root.at p).isSome) :
    restoreIds m (ps.map m.idOf) = .ok ps := by
  have hnone : (ps.map m.idOf).find? (fun id => (stateById m id).isNone) = none :=
    List.find?_eq_none.2 fun id hid => by
      obtain ⟨p, hp, rfl⟩ := List.mem_map.1 hid
      rw [stateById_idOf m hd p (h p hp)]; exact Bool.false_ne_true
  rw [restoreIds_eq, hnone, filterMap_stateById m hd ps h]

theorem restoreIds_error (m : Machine) (ids : List String) (e : RErr) (h : restoreIds m ids = .error e) :
    ∃ id ∈ ids, stateById m id = none ∧ e = .stateNotFound id := by
  rw [restoreIds_eq] at h
  split at h
  · rename_i id hid
    cases h
    exact ⟨id, (find?_unknown hid).1, (find?_unknown hid).2, rfl⟩
  · cases h

theorem restoreIds_ok_mem (m : Machine) (ids : List String) (ps : List Path) (h : restoreIds m ids = .ok ps) :
    ∀ id ∈ ids, ∃ p ∈ ps, stateById m id = some p := by
  rw [restoreIds_eq] at h
  split at h
  · cases h
  · rename_i hnone
    cases h
    intro id hid
    cases hp : stateById m id with
    | none => exact absurd (by rw [hp]; rfl) (List.find?_eq_none.1 hnone id hid)
    | some p => exact ⟨p, List.mem_filterMap.2 ⟨id, hid, hp⟩, rfl⟩

theorem restoreIds_unknown (m : Machine) (ids : List String) (h : ∃ id ∈ ids, stateById m id = none) :
    ∃ id ∈ ids, stateById m id = none ∧ restoreIds m ids = .error (.stateNotFound id) := by
  rw [restoreIds_eq]
  cases hf : ids.find? (fun id => (stateById m id).isNone) with
  | none =>
    obtain ⟨id, hid, hn⟩ := h
    exact absurd (by rw [hn]; rfl) (List.find?_eq_none.1 hf id hid)
  | some id => exact ⟨id, (find?_unknown hf).1, (find?_unknown hf).2, rfl⟩

theorem restoreCtx_snap : ∀ c : Ctx, restoreCtx (c.map (fun kv => (kv.1, J.num kv.2))) = c
  | [] => rfl
  | kv :: c => by
    have := restoreCtx_snap c
    simp only [restoreCtx] at this ⊢
    simp [this]

theorem idLe_total (m : Machine) (a b : Path) : idLe m a b = true ∨ idLe m b a = true := by
  simp only [idLe, decide_eq_true_eq]; exact String.le_total _ _
theorem idLe_trans (m : Machine) (a b c : Path) (h1 : idLe m a b = true) (h2 : idLe m b c = true) :
    idLe m a c = true := by
  simp only [idLe, decide_eq_true_eq] at *; exact String.le_trans h1 h2
theorem idLe_antisymm (m : Machine) (a b : Path) (h1 : idLe m a b = true) (h2 : idLe m b a = true) :
    m.idOf a = m.idOf b := by
  simp only [idLe, decide_eq_true_eq] at *; exact String.le_antisymm h1 h2

theorem mem_sortIds (m : Machine) (q : Path) (ps : List Path) : q ∈ sortIds m ps ↔ q ∈ ps := mem_sortBy _ _ _
theorem sortIds_perm (m : Machine) (ps : List Path) : (sortIds m ps).Perm ps := sortBy_perm _ _

theorem sortIds_perm_eq (m : Machine) {xs ys : List Path} (hp : xs.Perm ys) (hinj : IdInj m xs) :
    sortIds m xs = sortIds m ys :=
  sortBy_perm_eq (idLe m) hp (fun a _ b _ => idLe_total m a b) (fun a _ b _ c _ => idLe_trans m a b c)
    (fun a ha b hb h1 h2 => hinj a ha b hb (idLe_antisymm m a b h1 h2))

theorem sortIds_idem (m : Machine) (xs : List Path) (hinj : IdInj m xs) : sortIds m (sortIds m xs) = sortIds m xs :=
  (sortIds_perm_eq m (sortIds_perm m xs).symm hinj).symm

theorem depthIdLeM_eq (m : Machine) : depthIdLeM m = depthIdLe m := rfl

theorem mem_sortDI (m : Machine) (q : Path) (ps : List Path) : q ∈ sortDI m ps ↔ q ∈ ps := mem_sortBy _ _ _
theorem sortDI_perm (m : Machine) (ps : List Path) : (sortDI m ps).Perm ps := sortBy_perm _ _

theorem sortDI_perm_eq (m : Machine) {xs ys : List Path} (hp : xs.Perm ys) (hinj : IdInj m xs) :
    sortDI m xs = sortDI m ys :=
  sortBy_leAsc_perm List.length m.idOf hp hinj

/-- the key of the first row that fails, in a table of keys with the outcome of their check -/
def firstBad : List (String × Bool) → Option RErr
  | [] => none
  | r :: rs => if !r.2 then some (.shape r.1) else firstBad rs

theorem firstBad_none : ∀ rows, firstBad rows = none ↔ ∀ r ∈ rows, r.2 = true
  | [] => ⟨fun _ _ h => (nomatch h), fun _ => rfl⟩
  | (k, false) :: _ => ⟨fun h => (nomatch h), fun h => (nomatch h (k, false) (List.mem_cons_self ..))⟩
  | (_, true) :: rs => (firstBad_none rs).trans
      ⟨fun h => List.forall_mem_cons.2 ⟨rfl, h⟩, fun h => (List.forall_mem_cons.1 h).2⟩

theorem firstBad_some (e : RErr) : ∀ rows, firstBad rows = some e → ∃ r ∈ rows, e = .shape r.1
  | (_, false) :: _, h => ⟨_, List.mem_cons_self .., (Option.some.inj h).symm⟩
  | (_, true) :: rs, h =>
    let ⟨r, hr, he⟩ := firstBad_some e rs h
    ⟨r, List.mem_cons_of_mem _ hr, he⟩

/-- the table of `_validate_snapshot_shape`: each key with the outcome of its row -/
def shapeRows (j : J) : List (String × Bool) :=
  [("status", shapeRowOk j "status" true isStr), ("context", shapeRowOk j "context" true isObj),
   ("configuration", shapeRowOk j "configuration" false isIds),
   ("state_ids", shapeRowOk j "state_ids" (stateIdsRequired j) isIds),
   ("history", shapeRowOk j "history" false (isMapOf isIds)),
   ("actors", shapeRowOk j "actors" false (isMapOf isActorRec)),
   ("system", shapeRowOk j "system" false (isMapOf isStr))]

theorem shapeErr_eq (j : J) : shapeErr j = firstBad (shapeRows j) := rfl

theorem shapeErr_none {j : J} (h : shapeErr j = none) {i : Nat} {k : String} {b : Bool}
    (hi : (shapeRows j)[i]? = some (k, b)) : b = true :=
  (firstBad_none _).1 (shapeErr_eq j ▸ h) (k, b) (List.mem_of_getElem? hi)

theorem shapeErr_of_row {j : J} {i : Nat} {k : String} (hi : (shapeRows j)[i]? = some (k, false)) :
    shapeErr j ≠ none :=
  fun h => nomatch shapeErr_none h hi

theorem shapeErr_some {j : J} {e : RErr} (h : shapeErr j = some e) :
    ∃ k ∈ (shapeRows j).map (·.1), e = .shape k :=
  let ⟨r, hr, he⟩ := firstBad_some e _ (shapeErr_eq j ▸ h)
  ⟨r.1, List.mem_map_of_mem hr, he⟩

theorem shapeRowOk_present {j : J} {key : String} {req : Bool} {check : J → Bool} {v : J}
    (hv : j.get? key = some v) (hn : v ≠ .null) : shapeRowOk j key req check = check v := by
  unfold shapeRowOk
  rw [hv]
  cases v <;> first | rfl | exact absurd rfl hn

theorem shapeRowOk_required {j : J} {key : String} {check : J → Bool} (h : shapeRowOk j key true check = true) :
    ∃ v, j.get? key = some v ∧ v ≠ .null ∧ check v = true := by
  unfold shapeRowOk at h
  split at h
  · cases h
  · cases h
  · rename_i v hn hv
    exact ⟨v, hv, fun hc => hn hc, h⟩

theorem isIds_inv {v : J} (h : isIds v = true) : ∃ xs ids, v = .arr xs ∧ strList xs = some ids := by
  cases v with
  | arr xs =>
    obtain ⟨ids, hi⟩ := Option.isSome_iff_exists.1 h
    exact ⟨xs, ids, rfl, hi⟩
  | _ => cases h

theorem restoreIdsJ_of_shape (j : J) (h : shapeErr j = none) : ∃ ids, restoreIdsJ j = .ok ids := by
  have h3 : shapeRowOk j "configuration" false isIds = true := shapeErr_none h (i := 2) rfl
  have h4 : shapeRowOk j "state_ids" (stateIdsRequired j) isIds = true := shapeErr_none h (i := 3) rfl
  have hst : stateIdsRequired j = true → ∃ ids,
      (match j.get? "state_ids" with
       | some (.arr ys) =>
         (match strList ys with
          | some ids => .ok ids
          | none => .error (.shape "state_ids"))
       | _ => .error (.shape "state_ids") : Except RErr (List String)) = .ok ids := by
    intro hr
    rw [hr] at h4
    obtain ⟨v, hv, _, hc⟩ := shapeRowOk_required h4
    obtain ⟨xs, ids, rfl, hi⟩ := isIds_inv hc
    exact ⟨ids, by rw [hv]; simp only [hi]⟩
  unfold restoreIdsJ
  unfold shapeRowOk at h3
  unfold stateIdsRequired at hst
  cases hc : j.get? "configuration" with
  | none => rw [hc] at hst; exact hst rfl
  | some v =>
    rw [hc] at hst h3
    cases v with
    | null => exact hst rfl
    | arr xs =>
      cases xs with
      | nil => exact hst rfl
      | cons x xs =>
        obtain ⟨_, ids, hx, hi⟩ := isIds_inv h3
        cases hx
        exact ⟨ids, by simp only [hi]⟩
    | _ => cases h3

theorem restoreHist_of_shape (m : Machine) (ord : List Path → List Path) : ∀ kvs : List (String × J),
    kvs.all (fun kv => isIds kv.2) = true → ∃ h, restoreHist m ord kvs = .ok h
  | [], _ => ⟨[], rfl⟩
  | kv :: kvs, hall => by
    simp only [List.all_cons, Bool.and_eq_true] at hall
    obtain ⟨h', ih⟩ := restoreHist_of_shape m ord kvs hall.2
    obtain ⟨xs, ids, hx, hi⟩ := isIds_inv hall.1
    have hent : ∃ o, restoreHistEntry m ord kv = .ok o := by
      unfold restoreHistEntry
      rw [hx]
      simp only [hi]
      split
      · exact ⟨_, rfl⟩
      · split <;> exact ⟨_, rfl⟩
    obtain ⟨o, ho⟩ := hent
    simp only [restoreHist, ho, ih]
    cases o <;> exact ⟨_, rfl⟩

/-- on a validated snapshot the history is readable (unknown ids are dropped, not reported) -/
theorem restoreHistJ_of_shape (m : Machine) (ord : List Path → List Path) (j : J) (h : shapeErr j = none) :
    ∃ hh, restoreHistJ m ord j = .ok hh := by
  have h5 : shapeRowOk j "history" false (isMapOf isIds) = true := shapeErr_none h (i := 4) rfl
  unfold restoreHistJ
  unfold shapeRowOk at h5
  cases hc : j.get? "history" with
  | none => exact ⟨[], rfl⟩
  | some v =>
    rw [hc] at h5
    cases v with
    | null => exact ⟨[], rfl⟩
    | obj kvs => exact restoreHist_of_shape m ord kvs h5
    | _ => cases h5

/-- the interpreter `from_snapshot` assembles from the parts it has read -/
def rebuilt (st : String) (c : List (String × J)) (h : List (Path × List Path)) (ps : List Path) : St :=
  { cfg := closeUp ps, hist := h, queue := [], status := st, trace := [], err := none, ctx := restoreCtx c,
    raiseDepth := 0, errors := 0 }

theorem restoreCore_of_parts {m : Machine} {ord : List Path → List Path} {j : J} {st : String}
    {c : List (String × J)} {ids : List String} {h : List (Path × List Path)}
    (hst : j.get? "status" = some (.str st)) (hc : j.get? "context" = some (.obj c))
    (hids : restoreIdsJ j = .ok ids) (hh : restoreHistJ m ord j = .ok h) :
    restoreCore m ord j = (restoreIds m ids).map (rebuilt st c h) := by
  unfold restoreCore
  rw [hc, hst, hids, hh]
  dsimp only
  cases restoreIds m ids <;> rfl

/-- **after the validation only the state ids are left to fail**: every part of a snapshot that passed
    `_validate_snapshot_shape` is readable, and none of the `shape` branches of `restoreCore` is taken -/
theorem restoreCore_no_shape (m : Machine) (ord : List Path → List Path) {j : J} (h : shapeErr j = none) :
    ∃ st c ids hh, j.get? "status" = some (.str st) ∧ j.get? "context" = some (.obj c) ∧
      restoreIdsJ j = .ok ids ∧ restoreHistJ m ord j = .ok hh ∧
      restoreCore m ord j = (restoreIds m ids).map (rebuilt st c hh) := by
  obtain ⟨v1, hv1, _, hc1⟩ := shapeRowOk_required (shapeErr_none h (i := 0) rfl)  -- row "status"
  obtain ⟨v2, hv2, _, hc2⟩ := shapeRowOk_required (shapeErr_none h (i := 1) rfl)  -- row "context"
  obtain ⟨ids, hids⟩ := restoreIdsJ_of_shape _ h
  obtain ⟨hh, hhist⟩ := restoreHistJ_of_shape m ord _ h
  cases v1 <;> try cases hc1
  cases v2 <;> try cases hc2
  exact ⟨_, _, ids, hh, hv1, hv2, hids, hhist, restoreCore_of_parts hv1 hv2 hids hhist⟩

theorem restoreWith_obj (m : Machine) (ord : List Path → List Path) (kvs : List (String × J)) :
    restoreWith m ord (.obj kvs) =
      (match shapeErr (.obj kvs) with
       | some e => .error e
       | none => restoreCore m ord (.obj kvs)) := rfl

/-- everything `restore` checks before it accepts a snapshot (the contrapositive of every rejection) -/
theorem restoreWith_ok_inv (m : Machine) (ord : List Path → List Path) (j : J) (s : St)
    (h : restoreWith m ord j = .ok s) :
    shapeErr j = none ∧
    (∃ kvs, j = .obj kvs) ∧ (∃ c, j.get? "context" = some (.obj c) ∧ s.ctx = restoreCtx c) ∧
    j.get? "status" = some (.str s.status) ∧
    (∃ ids ps, restoreIdsJ j = .ok ids ∧ restoreIds m ids = .ok ps ∧ s.cfg = closeUp ps) ∧
    restoreHistJ m ord j = .ok s.hist ∧ s.queue = [] ∧ s.raiseDepth = 0 ∧ s.err = none := by
  cases j with
  | obj kvs =>
    cases hsh : shapeErr (.obj kvs) with
    | some e => rw [restoreWith_obj, hsh] at h; cases h
    | none =>
      obtain ⟨st, c, ids, hh, hst, hc, hids, hhist, hr⟩ := restoreCore_no_shape m ord hsh
      rw [restoreWith_obj, hsh] at h
      replace h : restoreCore m ord (.obj kvs) = .ok s := h
      rw [hr] at h
      cases hps : restoreIds m ids with
      | error e => rw [hps] at h; cases h
      | ok ps =>
        rw [hps] at h
        cases h
        exact ⟨rfl, ⟨kvs, rfl⟩, ⟨c, hc, rfl⟩, hst, ⟨ids, ps, hids, hps, rfl⟩, hhist, rfl, rfl, rfl⟩
  | _ => cases h

/-- a key of the table that is present, not `null` and fails its check: never accepted -/
theorem restoreWith_rejects_row (m : Machine) (ord : List Path → List Path) (j : J) {i : Nat} {key : String}
    {req : Bool} {check : J → Bool} (hi : (shapeRows j)[i]? = some (key, shapeRowOk j key req check)) {v : J}
    (hv : j.get? key = some v) (hn : v ≠ .null) (hbad : check v = false) : ∀ s, restoreWith m ord j ≠ .ok s := by
  intro s hs
  rw [shapeRowOk_present hv hn, hbad] at hi
  exact shapeErr_of_row hi (restoreWith_ok_inv m ord j s hs).1

theorem restore_ok_inv (m : Machine) (j : J) (s : St) (h : restore m j = .ok s) :
    (∃ kvs, j = .obj kvs) ∧ (∃ c, j.get? "context" = some (.obj c) ∧ s.ctx = restoreCtx c) ∧
    j.get? "status" = some (.str s.status) ∧
    (∃ ids ps, restoreIdsJ j = .ok ids ∧ restoreIds m ids = .ok ps ∧ s.cfg = closeUp ps) ∧
    restoreHistJ m (sortDI m) j = .ok s.hist ∧ s.queue = [] ∧ s.raiseDepth = 0 ∧ s.err = none :=
  (restoreWith_ok_inv m (sortDI m) j s h).2

/-- what a snapshot needs of the state it is taken from. A hypothesis of the C12 theorems, which the driver evaluates at
    every cut; expected of every state a run reaches (the configuration is `Legal` — C01 — and `_record_history` only stores
    non-empty lists of active states), but that is proved nowhere (`cfgNodup` and "no empty remembered list" are the
    parts `Legal` and `HistAll` do not give). -/
structure SnapOK (m : Machine) (s : St) : Prop where
  cfgValid : ∀ p ∈ s.cfg, (m.root.at p).isSome
  cfgClosed : ∀ p ∈ s.cfg, p.dropLast ∈ s.cfg
  cfgNodup : s.cfg.Nodup
  histValid : ∀ kv ∈ s.hist, (m.root.at kv.1).isSome ∧ kv.2 ≠ [] ∧ ∀ q ∈ kv.2, (m.root.at q).isSome

/-- the history as it comes back: same owners in the same order, every remembered list sorted by id
    (the snapshot) and then ordered by `ord` (`from_snapshot`) -/
def histOrd (m : Machine) (ord : List Path → List Path) (h : List (Path × List Path)) : List (Path × List Path) :=
  h.map (fun kv => (kv.1, ord (sortIds m kv.2)))

/-- the state `restoreWith m ord` rebuilds from the snapshot of `s` -/
def restoredWith (m : Machine) (ord : List Path → List Path) (s : St) : St :=
  { cfg := closeUp (sortIds m s.cfg), hist := histOrd m ord s.hist, queue := [], status := s.status,
    trace := [], err := none, ctx := s.ctx, raiseDepth := 0, errors := 0 }

/-- the state `from_snapshot` rebuilds from the snapshot of `s`: remembered lists in (depth, id) order -/
def restored (m : Machine) (s : St) : St := restoredWith m (sortDI m) s

theorem get_context (m : Machine) (s : St) : (snap m s).get? "context" = some (snapCtx s.ctx) := by
  simp [snap, J.get?, List.find?]
theorem get_status (m : Machine) (s : St) : (snap m s).get? "status" = some (.str s.status) := by
  simp [snap, J.get?, List.find?]
theorem get_configuration (m : Machine) (s : St) :
    (snap m s).get? "configuration" = some (jIds m (sortIds m s.cfg)) := by
  simp [snap, J.get?, List.find?]
theorem get_state_ids (m : Machine) (s : St) :
    (snap m s).get? "state_ids" = some (jIds m (sortIds m (s.cfg.filter (isLeafState m)))) := by
  simp [snap, J.get?, List.find?]
theorem get_history (m : Machine) (s : St) : (snap m s).get? "history" = some (snapHist m s.hist) := by
  simp [snap, J.get?, List.find?]
theorem get_actors (m : Machine) (s : St) : (snap m s).get? "actors" = some (.obj []) := by
  simp [snap, J.get?, List.find?]
theorem get_system (m : Machine) (s : St) : (snap m s).get? "system" = some (.obj []) := by
  simp [snap, J.get?, List.find?]

theorem isIds_jIds (m : Machine) (ps : List Path) : isIds (jIds m ps) = true := by
  simp [isIds, jIds, strList_map]

theorem shapeErr_snap (m : Machine) (s : St) : shapeErr (snap m s) = none := by
  have hrow : ∀ {key : String} {req : Bool} {check : J → Bool} {v : J}, (snap m s).get? key = some v → v ≠ .null →
      check v = true → shapeRowOk (snap m s) key req check = true :=
    fun hv hn hc => (shapeRowOk_present hv hn).trans hc
  have hh : isMapOf isIds (snapHist m s.hist) = true :=
    List.all_eq_true.2 fun kv hkv => by
      obtain ⟨kv', _, rfl⟩ := List.mem_map.1 hkv
      exact isIds_jIds m _
  rw [shapeErr_eq, firstBad_none]
  simp only [shapeRows, List.forall_mem_cons]
  exact ⟨hrow (get_status m s) nofun rfl, hrow (get_context m s) nofun rfl,
    hrow (get_configuration m s) nofun (isIds_jIds m _), hrow (get_state_ids m s) nofun (isIds_jIds m _),
    hrow (get_history m s) nofun hh, hrow (get_actors m s) nofun rfl, hrow (get_system m s) nofun rfl,
    fun _ h => nomatch h⟩

theorem sortIds_nil_iff (m : Machine) (ps : List Path) : sortIds m ps = [] ↔ ps = [] :=
  sortBy_eq_nil _ ps

theorem restoreIdsJ_snap (m : Machine) (s : St) :
    restoreIdsJ (snap m s) = .ok ((sortIds m s.cfg).map m.idOf) := by
  unfold restoreIdsJ
  rw [get_configuration, get_state_ids]
  cases hc : sortIds m s.cfg with
  | nil =>
    have : s.cfg = [] := (sortIds_nil_iff m _).1 hc
    simp [jIds, this, sortIds, sortBy, strList]
  | cons x xs =>
    simp only [jIds, List.map_cons]
    have := strList_map m.idOf (x :: xs)
    simp only [List.map_cons] at this
    rw [this]

theorem restoreHist_snap (m : Machine) (hd : MDot m) (ord : List Path → List Path) : ∀ h : List (Path × List Path),
    (∀ kv ∈ h, (m.root.at kv.1).isSome ∧ kv.2 ≠ [] ∧ ∀ q ∈ kv.2, (m.root.at q).isSome) →
    restoreHist m ord (h.map (fun kv => (m.idOf kv.1, jIds m (sortIds m kv.2)))) = .ok (histOrd m ord h)
  | [], _ => rfl
  | kv :: h, hv => by
    obtain ⟨hP, hne, hR⟩ := hv kv (by simp)
    have ih := restoreHist_snap m hd ord h (fun x hx => hv x (List.mem_cons_of_mem _ hx))
    have hfm : ((sortIds m kv.2).map m.idOf).filterMap (stateById m) = sortIds m kv.2 :=
      filterMap_stateById m hd _ (fun q hq => hR q ((mem_sortIds m q kv.2).1 hq))
    have hne' : (sortIds m kv.2).isEmpty = false := by
      cases h' : sortIds m kv.2 with
      | nil => exact absurd ((sortIds_nil_iff m _).1 h') hne
      | cons _ _ => rfl
    have hent : restoreHistEntry m ord (m.idOf kv.1, jIds m (sortIds m kv.2)) =
        .ok (some (kv.1, ord (sortIds m kv.2))) := by
      simp only [restoreHistEntry, jIds, strList_map, hfm, hne', stateById_idOf m hd kv.1 hP]
      simp
    simp only [List.map_cons, restoreHist, hent, ih, histOrd]

theorem restoreHistJ_snap (m : Machine) (hd : MDot m) (ord : List Path → List Path) (s : St) (hs : SnapOK m s) :
    restoreHistJ m ord (snap m s) = .ok (histOrd m ord s.hist) := by
  unfold restoreHistJ
  rw [get_history]
  simp only [snapHist]
  exact restoreHist_snap m hd ord s.hist hs.histValid

theorem restoreWith_snap_core (m : Machine) (hd : MDot m) (ord : List Path → List Path) (s : St) (hs : SnapOK m s) :
    restoreWith m ord (snap m s) = .ok (restoredWith m ord s) := by
  obtain ⟨kvs, hk⟩ : ∃ kvs, snap m s = .obj kvs := ⟨_, rfl⟩
  rw [hk, restoreWith_obj, ← hk, shapeErr_snap]
  show restoreCore m ord (snap m s) = _
  rw [restoreCore_of_parts (get_status m s) (get_context m s) (restoreIdsJ_snap m s) (restoreHistJ_snap m hd ord s hs),
    restoreIds_idOf m hd _ (fun p hp => hs.cfgValid p ((mem_sortIds m p s.cfg).1 hp))]
  show Except.ok (rebuilt _ _ _ _) = _
  simp only [rebuilt, restoredWith, restoreCtx_snap]

theorem restore_snap_core (m : Machine) (hd : MDot m) (s : St) (hs : SnapOK m s) :
    restore m (snap m s) = .ok (restored m s) := restoreWith_snap_core m hd (sortDI m) s hs

theorem mem_closeUp {ps : List Path} {q : Path} : q ∈ closeUp ps ↔ ∃ p ∈ ps, q <+: p := by
  simp only [closeUp, List.mem_eraseDups, List.mem_flatMap, mem_chainUp_iff]

theorem closeUp_nodup (ps : List Path) : (closeUp ps).Nodup := nodup_eraseDups _ _ (Nat.le_refl _)

theorem closeUp_perm (m : Machine) (cfg : List Path) (hcl : ∀ p ∈ cfg, p.dropLast ∈ cfg) (hnd : cfg.Nodup) :
    (closeUp (sortIds m cfg)).Perm cfg := by
  apply (List.perm_ext_iff_of_nodup (closeUp_nodup _) hnd).2
  intro q
  rw [mem_closeUp]
  constructor
  · rintro ⟨p, hp, hq⟩
    exact prefix_closed hcl hq ((mem_sortIds m p cfg).1 hp)
  · intro hq
    exact ⟨q, (mem_sortIds m q cfg).2 hq, List.prefix_refl q⟩

theorem idInj_of_valid (m : Machine) (hd : MDot m) (c : List Path) (hv : ∀ p ∈ c, (m.root.at p).isSome) :
    IdInj m c :=
  fun a ha b hb h => idOf_injective m a b (hd.keys a (hv a ha)) (hd.keys b (hv b hb)) h

theorem snapHist_ord (m : Machine) (hd : MDot m) (ord : List Path → List Path) (hord : ∀ l, (ord l).Perm l) :
    ∀ h : List (Path × List Path),
    (∀ kv ∈ h, ∀ q ∈ kv.2, (m.root.at q).isSome) → snapHist m (histOrd m ord h) = snapHist m h := by
  intro h hv
  simp only [snapHist, histOrd, List.map_map]
  congr 1
  apply List.map_congr_left
  intro kv hkv
  simp only [Function.comp]
  have hinj := idInj_of_valid m hd kv.2 (hv kv hkv)
  rw [← sortIds_perm_eq m (((hord _).trans (sortIds_perm m kv.2)).symm) hinj]

/-- **re-snapshot**: the snapshot of the restored state is the snapshot it was restored from (whatever
    order the remembered lists were given: the snapshot sorts them) -/
theorem snap_restoredWith (m : Machine) (hd : MDot m) (ord : List Path → List Path) (hord : ∀ l, (ord l).Perm l)
    (s : St) (hs : SnapOK m s) : snap m (restoredWith m ord s) = snap m s := by
  have hp : (closeUp (sortIds m s.cfg)).Perm s.cfg := closeUp_perm m s.cfg hs.cfgClosed hs.cfgNodup
  have hinj : IdInj m s.cfg := idInj_of_valid m hd s.cfg hs.cfgValid
  have h1 : sortIds m (closeUp (sortIds m s.cfg)) = sortIds m s.cfg :=
    (sortIds_perm_eq m hp.symm hinj).symm
  have h2 : sortIds m ((closeUp (sortIds m s.cfg)).filter (isLeafState m)) =
      sortIds m (s.cfg.filter (isLeafState m)) :=
    (sortIds_perm_eq m (hp.symm.filter _) (hinj.sub (fun q hq => (List.mem_filter.1 hq).1))).symm
  have h3 := snapHist_ord m hd ord hord s.hist (fun kv hkv => (hs.histValid kv hkv).2.2)
  simp only [snap, restoredWith, h1, h2, h3]

theorem snap_restored (m : Machine) (hd : MDot m) (s : St) (hs : SnapOK m s) :
    snap m (restored m s) = snap m s := snap_restoredWith m hd (sortDI m) (sortDI_perm m) s hs

/-- An invariant `P` of a run that provides the side conditions of `microstep_equiv` at every
    transition the run actually executes.  Selected candidates have an active source, and either all of
    them satisfy a static predicate `C`, or exactly one is selected and it satisfies a predicate `E` of
    the state it is selected in; from a `P`-state such a transition keeps `P`, and the configuration it
    builds has at most one active child per compound state.  `P` looks at the configuration and the
    history only.  (`SnapshotRun.lean` instantiates it from C01/C11: `P` = "`cfg` is `Legal` and every
    remembered list is a legal selection", `C` = plain or root target, `E` = history target whose owner
    is inactive.) -/
structure RunInv (m : Machine) (u : UEnv) (h : Hooks) (fl : Flavor) (P : St → Prop) (C : Cand → Prop)
    (E : St → Cand → Prop) : Prop where
  inj : ∀ s, P s → IdInj m s.cfg
  sel : ∀ s ev sel, P s → selectTransitions m s.cfg (u.genv s.ctx ev.type) ev = .ok sel →
    (∀ c ∈ sel, c.src ∈ s.cfg) ∧ ((∀ c ∈ sel, C c) ∨ ∃ c, sel = [c] ∧ E s c)
  uniq : ∀ s ev c, P s → (C c ∨ E s c) → c.src ∈ s.cfg → (planTransition m s.cfg s.hist c).internal = false →
    CompUniq (runPlan h fl m ev (planTransition m s.cfg s.hist c) s).cfg [] m.root
  step : ∀ s ev c, P s → (C c ∨ E s c) → c.src ∈ s.cfg →
    P (execute h fl m ev (planTransition m s.cfg s.hist c) s)
  frame : ∀ s t, s.cfg = t.cfg → s.hist = t.hist → P s → P t

section lift
variable {m : Machine} {u : UEnv} {h : Hooks} {fl : Flavor} {P : St → Prop} {C : Cand → Prop}
  {E : St → Cand → Prop}

theorem RunInv.fail (hP : RunInv m u h fl P C E) (s : St) (e : EErr) (hs : P s) : P (s.fail e) :=
  hP.frame s _ (fail_cfg s e).symm (fail_hist s e).symm hs

theorem processEvent_eq (h : Hooks) (fl : Flavor) (m : Machine) (u : UEnv) (ev : Ev) (s : St) :
    processEvent h fl m u ev s =
      match selectTransitions m s.cfg (u.genv s.ctx ev.type) ev with
      | .error (.missing n) => s.fail (.missingGuard n)
      | .ok sel => sel.foldl (stepSel h fl m ev (decide (sel.length > 1))) s := rfl

theorem stepSel_equiv_run (hok : HooksOK h) (hh : HooksPerm m h) (ev : Ev) (hP : RunInv m u h fl P C E) (b : Bool)
    (c : Cand) {s s' : St} (he : St.equiv m s s') (hs : P s) (hc : C c ∨ E s c) (hsrc : b = false → c.src ∈ s.cfg) :
    St.equiv m (stepSel h fl m ev b s c) (stepSel h fl m ev b s' c) ∧ P (stepSel h fl m ev b s c) := by
  unfold stepSel
  refine rel_ite_and (by rw [he.err]) (fun _ => ⟨he, hs⟩) fun _ => ?_
  refine rel_ite_and (by rw [he.status]) (fun _ => ⟨he, hs⟩) fun _ => ?_
  refine rel_ite_and (by rw [he.cfg.contains_eq]) (fun _ => ⟨he, hs⟩) fun h3 => ?_
  have hsrc : c.src ∈ s.cfg := by
    cases b with
    | false => exact hsrc rfl
    | true => simpa using h3
  exact ⟨microstep_equiv hok hh fl ev c he (hP.inj s hs) (hP.uniq s ev c hs hc hsrc), hP.step s ev c hs hc hsrc⟩

theorem selFold_equiv_run (hok : HooksOK h) (hh : HooksPerm m h) (ev : Ev) (hP : RunInv m u h fl P C E) :
    ∀ (l : List Cand) {s s' : St}, St.equiv m s s' → P s → (∀ c ∈ l, C c) →
      St.equiv m (l.foldl (stepSel h fl m ev true) s) (l.foldl (stepSel h fl m ev true) s') ∧
        P (l.foldl (stepSel h fl m ev true) s)
  | [], _, _, he, hs, _ => ⟨he, hs⟩
  | c :: l, _, _, he, hs, hC => by
    obtain ⟨he', hs'⟩ := stepSel_equiv_run hok hh ev hP true c he hs (Or.inl (hC c (List.mem_cons_self ..))) nofun
    exact selFold_equiv_run hok hh ev hP l he' hs' (fun c' hc' => hC c' (List.mem_cons_of_mem _ hc'))

theorem processEvent_equiv_run (hok : HooksOK h) (hh : HooksPerm m h) (ev : Ev) (hP : RunInv m u h fl P C E)
    {s s' : St} (he : St.equiv m s s') (hs : P s) :
    St.equiv m (processEvent h fl m u ev s) (processEvent h fl m u ev s') ∧ P (processEvent h fl m u ev s) := by
  rw [processEvent_eq, processEvent_eq, ← select_equiv m u ev ev.type he (hP.inj s hs)]
  split
  · exact ⟨he.fail _, hP.fail _ _ hs⟩
  · rename_i sel hsel
    obtain ⟨hsrc, hC⟩ := hP.sel s ev sel hs hsel
    match sel, hsrc, hC with
    | [], _, _ => exact ⟨he, hs⟩
    | [c], hsrc, hC =>
      refine stepSel_equiv_run hok hh ev hP _ c he hs ?_ (fun _ => hsrc c (List.mem_singleton_self c))
      rcases hC with hC | ⟨c0, h0, hE⟩
      · exact Or.inl (hC c (List.mem_singleton_self c))
      · cases h0; exact Or.inr hE
    | c :: c' :: l, _, hC =>
      rcases hC with hC | ⟨_, h0, _⟩
      · exact selFold_equiv_run hok hh ev hP _ he hs hC
      · cases h0

theorem transientLoop_equiv_run (hok : HooksOK h) (hh : HooksPerm m h) (hP : RunInv m u h fl P C E) (fuel : Nat)
    {s s' : St} (he : St.equiv m s s') (hs : P s) :
    St.equiv m (transientLoop h fl m u fuel s) (transientLoop h fl m u fuel s') ∧ P (transientLoop h fl m u fuel s) :=
  transientLoop_equiv_of hP.inj hP.fail (processEvent_equiv_run hok hh _ hP) fuel he hs
end lift

section sync
variable {m : Machine} {u : UEnv} {P : St → Prop} {C : Cand → Prop} {E : St → Cand → Prop}

theorem drainLoop_equiv (hP : RunInv m u (hooksFlagged u m) .sync P C E) :
    ∀ (fuel c : Nat) {s s' : St}, St.equiv m s s' → P s →
      St.equiv m (drainLoop m u fuel c s) (drainLoop m u fuel c s') ∧ P (drainLoop m u fuel c s) := by
  intro fuel
  induction fuel with
  | zero =>
    intro c s s' he hs
    rw [drainLoop_zero, drainLoop_zero, ← he.queue]
    split
    · exact ⟨he, hs⟩
    · exact ⟨he.setQueue _, hP.frame s _ rfl rfl hs⟩
  | succ b ih =>
    intro c s s' he hs
    cases hq : s.queue with
    | nil =>
      have hq' : s'.queue = [] := he.queue ▸ hq
      rw [drainLoop_nil m u b c s hq, drainLoop_nil m u b c s' hq']
      exact ⟨he, hs⟩
    | cons q rest =>
      have hq' : s'.queue = q :: rest := he.queue ▸ hq
      by_cases hst : s.status = "running"
      · have hst' : s'.status = "running" := he.status ▸ hst
        cases ht : syncTrips m c q with
        | true =>
          rw [drainLoop_trip m u b c s q rest hq hst ht, drainLoop_trip m u b c s' q rest hq' hst' ht]
          have e1 : St.equiv m (syncPurge s) (syncPurge s') := by
            unfold syncPurge; rw [← he.queue]; exact he.setQueue _
          exact ih 0 e1 (hP.frame s _ rfl rfl hs)
        | false =>
          rw [drainLoop_step m u b c s q rest hq hst ht, drainLoop_step m u b c s' q rest hq' hst' ht]
          have e1 : St.equiv m (emit ("#recv:" ++ q.ev.type) { s with queue := rest })
              (emit ("#recv:" ++ q.ev.type) { s' with queue := rest }) := (he.setQueue rest).emit _
          have p1 : P (emit ("#recv:" ++ q.ev.type) { s with queue := rest }) := hP.frame s _ rfl rfl hs
          obtain ⟨e2, p2⟩ := processEvent_equiv_run (hooksFlagged_ok u m) (hooksFlagged_perm u m) q.ev hP e1 p1
          obtain ⟨e3, p3⟩ := transientLoop_equiv_run (hooksFlagged_ok u m) (hooksFlagged_perm u m) hP m.maxIterations e2 p2
          have e3' : St.equiv m (syncMacro m u q.ev { s with queue := rest }) (syncMacro m u q.ev { s' with queue := rest }) := e3
          have p3' : P (syncMacro m u q.ev { s with queue := rest }) := p3
          exact rel_ite_and (by rw [e3'.err]) (fun _ => ⟨e3', p3'⟩) fun _ => ih _ e3' p3'
      · have hst' : ¬ s'.status = "running" := he.status ▸ hst
        rw [drainLoop_not_running m u b c hst, drainLoop_not_running m u b c hst', ← he.queue]
        split
        · exact ⟨he, hs⟩
        · exact ⟨he.setQueue _, hP.frame s _ rfl rfl hs⟩

theorem drainFuel_congr (m : Machine) {s s' : St} (h : s.queue = s'.queue) : drainFuel m s = drainFuel m s' := by
  unfold drainFuel; rw [h]

theorem syncSend_equiv (hP : RunInv m u (hooksFlagged u m) .sync P C E) (e : Ev) {s s' : St}
    (he : St.equiv m s s') (hs : P s) :
    St.equiv m (syncSend m u e s) (syncSend m u e s') ∧ P (syncSend m u e s) := by
  unfold syncSend sndUnflagged drainFlagged
  refine rel_ite_and (by rw [he.status]) (fun _ => ?_) fun _ => ⟨he, hs⟩
  rw [← he.queue,
    drainFuel_congr m (s := { s' with queue := s.queue ++ [⟨e, false⟩] }) (s' := { s with queue := s.queue ++ [⟨e, false⟩] }) rfl]
  exact drainLoop_equiv hP _ _ (he.setQueue _) (hP.frame s _ rfl rfl hs)
end sync

section async
variable {m : Machine} {u : UEnv} {P : St → Prop} {C : Cand → Prop} {E : St → Cand → Prop}

theorem asyncChainEnd_equiv (hP : RunInv m u (hooksAsync u m) .async P C E) (b : Nat) {s s' : St}
    (he : St.equiv m s s') (hs : P s) :
    St.equiv m (asyncChainEnd b s) (asyncChainEnd b s') ∧ P (asyncChainEnd b s) := by
  unfold asyncChainEnd
  rw [← he.raiseDepth, ← he.queue]
  split
  · exact ⟨(he.setRaiseDepth 0).setQueue s.queue, hP.frame s _ rfl rfl hs⟩
  · exact ⟨he, hs⟩

theorem asyncPurge_equiv (hP : RunInv m u (hooksAsync u m) .async P C E) {s s' : St}
    (he : St.equiv m s s') (hs : P s) :
    St.equiv m (asyncPurge s) (asyncPurge s') ∧ P (asyncPurge s) := by
  unfold asyncPurge
  rw [← he.queue]
  exact ⟨(he.setRaiseDepth 0).setQueue _, hP.frame s _ rfl rfl hs⟩

theorem asyncProcess_equiv (hP : RunInv m u (hooksAsync u m) .async P C E) (e : Ev) {s s' : St}
    (he : St.equiv m s s') (hs : P s) :
    St.equiv m (asyncProcess m u e s) (asyncProcess m u e s') ∧ P (asyncProcess m u e s) := by
  unfold asyncProcess
  rw [← he.raiseDepth]
  have e1 : St.equiv m (emit ("#recv:" ++ e.type) s) (emit ("#recv:" ++ e.type) s') := he.emit _
  have p1 : P (emit ("#recv:" ++ e.type) s) := hP.frame s _ rfl rfl hs
  obtain ⟨e2, p2⟩ := processEvent_equiv_run (hooksAsync_ok u m) (hooksAsync_perm u m) e hP e1 p1
  obtain ⟨e3, p3⟩ := transientLoop_equiv_run (hooksAsync_ok u m) (hooksAsync_perm u m) hP m.maxIterations e2 p2
  simp only
  generalize transientLoop (hooksAsync u m) .async m u m.maxIterations
    (processEvent (hooksAsync u m) .async m u e (emit ("#recv:" ++ e.type) s)) = r at e3 p3
  generalize transientLoop (hooksAsync u m) .async m u m.maxIterations
    (processEvent (hooksAsync u m) .async m u e (emit ("#recv:" ++ e.type) s')) = r' at e3
  apply asyncChainEnd_equiv hP
  · by_cases herr : r.err.isSome = true
    · have herr' : r'.err.isSome = true := e3.err ▸ herr
      rw [if_pos herr, if_pos herr', ← e3.errors]
      exact { e3 with err := rfl, errors := rfl }
    · have herr' : ¬ r'.err.isSome = true := e3.err ▸ herr
      rw [if_neg herr, if_neg herr']
      exact e3
  · split
    · exact hP.frame r _ rfl rfl p3
    · exact p3

theorem asyncStep_equiv (hP : RunInv m u (hooksAsync u m) .async P C E) (q : QEv) {s s' : St}
    (he : St.equiv m s s') (hs : P s) :
    St.equiv m (asyncStep m u q s) (asyncStep m u q s') ∧ P (asyncStep m u q s) := by
  unfold asyncStep
  rw [← he.raiseDepth]
  obtain ⟨e0, p0⟩ := asyncPurge_equiv hP he hs
  refine rel_ite_and Iff.rfl (fun _ => ?_) fun _ => asyncProcess_equiv hP q.ev he hs
  split
  · exact ⟨e0, p0⟩
  · exact asyncProcess_equiv hP q.ev e0 p0

theorem asyncDrain_equiv (hP : RunInv m u (hooksAsync u m) .async P C E) :
    ∀ (fuel : Nat) {s s' : St}, St.equiv m s s' → P s →
      St.equiv m (asyncDrain m u fuel s) (asyncDrain m u fuel s') ∧ P (asyncDrain m u fuel s) := by
  intro fuel
  induction fuel with
  | zero =>
    intro s s' he hs
    simp only [asyncDrain]
    rw [← he.queue, ← he.status]
    split
    · exact ⟨he, hs⟩
    · exact ⟨(he.setStatus "HANG").setQueue s.queue, hP.frame s _ rfl rfl hs⟩
  | succ f ih =>
    intro s s' he hs
    by_cases hst : s.status = "running"
    · have hst' : s'.status = "running" := he.status ▸ hst
      cases hq : s.queue with
      | nil =>
        have hq' : s'.queue = [] := he.queue ▸ hq
        simp only [asyncDrain, hst, hst', hq, hq', ne_eq, not_true_eq_false, if_false]
        exact ⟨he, hs⟩
      | cons q rest =>
        have hq' : s'.queue = q :: rest := he.queue ▸ hq
        simp only [asyncDrain, hst, hst', hq, hq', ne_eq, not_true_eq_false, if_false]
        obtain ⟨e2, p2⟩ := asyncStep_equiv hP q ((he.setQueue rest).setStatus "running") (hP.frame s _ rfl rfl hs)
        exact ih e2 p2
    · have hst' : ¬ s'.status = "running" := he.status ▸ hst
      simp only [asyncDrain, hst, hst', ne_eq, not_false_eq_true, if_true]
      exact ⟨he, hs⟩

theorem asyncSend_equiv (hP : RunInv m u (hooksAsync u m) .async P C E) (e : Ev) {s s' : St}
    (he : St.equiv m s s') (hs : P s) :
    St.equiv m (asyncSend m u e s) (asyncSend m u e s') ∧ P (asyncSend m u e s) := by
  unfold asyncSend
  refine rel_ite_and (by rw [he.status]) (fun _ => ?_) fun _ => ⟨he, hs⟩
  rw [← he.queue]
  exact asyncDrain_equiv hP _ (he.setQueue _) (hP.frame s _ rfl rfl hs)
end async

/-- the hooks the engine of flavour `fl` processes a sent event with -/
def hooksOf (fl : Flavor) (u : UEnv) (m : Machine) : Hooks :=
  match fl with
  | .sync => hooksFlagged u m
  | .async => hooksAsync u m

theorem send_equiv {m : Machine} {u : UEnv} {P : St → Prop} {C : Cand → Prop} {E : St → Cand → Prop} (fl : Flavor)
    (hP : RunInv m u (hooksOf fl u m) fl P C E) (e : Ev) {s s' : St} (he : St.equiv m s s') (hs : P s) :
    St.equiv m (send fl m u e s) (send fl m u e s') ∧ P (send fl m u e s) := by
  cases fl with
  | sync => exact syncSend_equiv hP e he hs
  | async => exact asyncSend_equiv hP e he hs

/-- what the observer forgets between two commands: the trace, the error flag and the failure count of
    the previous command (the driver's `runCmd`, the harness's `log.clear()`) — and `_expansion_cut`,
    which is dead between commands (the code resets it at the next top-level built-in before any read) -/
def obsReset (s : St) : St := { s with trace := [], err := none, errors := 0, expCut := false }

/-- one command as observed: `send`, from a cleared observation -/
def cmdO (fl : Flavor) (m : Machine) (u : UEnv) (s : St) (e : Ev) : St := send fl m u e (obsReset s)

/-- **snapshot equivalence**: same configuration as a set, same history, context, status, queue and
    chain-breaker counter; nothing is said about what the previous command logged -/
def SnapEquiv (m : Machine) (s s' : St) : Prop := St.equiv m (obsReset s) (obsReset s')

/-- the six components `obsReset` leaves to compare -/
theorem SnapEquiv.intro {m : Machine} {s s' : St} (cfg : s.cfg.Perm s'.cfg) (hist : s.hist = s'.hist)
    (queue : s.queue = s'.queue) (status : s.status = s'.status) (ctx : s.ctx = s'.ctx)
    (raiseDepth : s.raiseDepth = s'.raiseDepth) : SnapEquiv m s s' :=
  { cfg, hist, queue, status, ctx, raiseDepth, trace := TraceEq.nil, err := rfl, errors := rfl, expCut := rfl }

theorem SnapEquiv.of_equiv {m : Machine} {s s' : St} (h : St.equiv m s s') : SnapEquiv m s s' :=
  .intro h.cfg h.hist h.queue h.status h.ctx h.raiseDepth

theorem run_equiv {m : Machine} {u : UEnv} {P : St → Prop} {C : Cand → Prop} {E : St → Cand → Prop} (fl : Flavor)
    (hP : RunInv m u (hooksOf fl u m) fl P C E) : ∀ (evs : List Ev) {s s' : St}, SnapEquiv m s s' → P s →
      SnapEquiv m (evs.foldl (cmdO fl m u) s) (evs.foldl (cmdO fl m u) s') ∧ P (evs.foldl (cmdO fl m u) s)
  | [], _, _, he, hs => ⟨he, hs⟩
  | e :: evs, s, _, he, hs => by
    simp only [List.foldl_cons]
    obtain ⟨e1, p1⟩ := send_equiv fl hP e he (hP.frame s _ rfl rfl hs)
    exact run_equiv fl hP evs (SnapEquiv.of_equiv e1) p1

end Snap
end XSM

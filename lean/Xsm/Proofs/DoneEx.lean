import Xsm.Proofs.Done
/-
The runs of the witness machines of C10 (`Xsm/Properties/C10.lean`; the machines are `XSM.Done.Ex`, at the end of
`Xsm/Proofs/Done.lean`), evaluated once per machine.
-/
namespace XSM.C10
open XSM XSM.Spec XSM.Done XSM.Done.Ex

theorem nestedM_facts :
    -- which states are done in `nestedCfg` (`A2` unfinished)
    (doneNode nestedCfg ["P"] nestedP = false ∧
     isStateDone nestedM nestedCfg ["P"] = false ∧
     isStateDone nestedM nestedCfg ["P", "A"] = false ∧
     isStateDone nestedM nestedCfg ["P", "A", "A1"] = true ∧
     isStateDone nestedM nestedCfg ["P", "B"] = true) ∧
    -- … in `nestedCfgAll`, and with no child of `B` active
    (isStateDone nestedM nestedCfgAll ["P"] = true ∧
     isStateDone nestedM nestedCfgAll ["P", "B", "b"] = false ∧
     isStateDone nestedM [[], ["P"], ["P", "B"]] ["P", "B"] = false) ∧
    -- entering `a1f` in `nestedCfg` raises nothing; entering `a2f` completes nothing
    firingAncestor nestedM nestedCfg ["P", "A", "A1", "a1f"] = none ∧
    (enterOne (hooksFlagged exU nestedM) .sync nestedM none { cfg := nestedCfg, status := "running" }
      ⟨["P", "A", "A2", "a2f"], true⟩).status = "running" := by decide +kernel

theorem rootOnDoneM_plainM_runs :
    -- `rootOnDoneM`: entering `f`; `start()`
    ((let s := checkAndFireOnDone (hooksFlagged exU rootOnDoneM) rootOnDoneM ["f"] rootOnDoneS
      (s.status, evTypes s) = ("running", ["done.state.m"])) ∧
     (let s := syncStart rootOnDoneM exU {}
      (s.status, s.cfg, s.trace) = ("running", [[], ["f"]], ["#t:m,m.f", "x@done.state.m", "#recv:done.state.m"]))) ∧
    -- `plainM` (no root `onDone`): `start()`; entering `f` on the sync engine, on the async engine
    (syncStart plainM exU {}).status = "done" ∧
    (let s := enterOne (hooksFlagged exU plainM) .sync plainM none { cfg := [[]], status := "running" } ⟨["f"], true⟩
     (s.status, s.cfg, s.trace) = ("done", [[], ["f"]], ["bye@entry.m.f"])) ∧
    (enterOne (hooksAsync exU plainM) .async plainM (some "E") { cfg := [[]], status := "running" }
      ⟨["f"], true⟩).status = "done" := by decide +kernel

theorem goM_runs :
    -- `GO` after `start()`; then three more events (sync), two more (async)
    (let s := syncSend goM exU (.user "GO") (syncStart goM exU {})
     (s.status, s.cfg, s.trace) = ("done", [[], ["f"]], ["#t:m,m.f", "bye@GO", "going@GO", "#recv:GO"])) ∧
    (let s := syncSend goM exU (.user "GO") (syncStart goM exU {})
     let r := [Ev.user "GO", .user "X", .done "done.state.m" "m"].foldl (cmd .sync goM exU) s
     (r.status, r.cfg, r.trace, evTypes r) = (s.status, s.cfg, s.trace, evTypes s)) ∧
    (let s := asyncSend goM exU (.user "GO") (asyncStart goM exU {})
     let r := [Ev.user "GO", .user "X"].foldl (cmd .async goM exU) s
     (s.status, r.status, r.cfg, r.trace == s.trace) = ("done", "done", [[], ["f"]], true)) ∧
    -- a queue drained on the completed machine
    (let s : St := { status := "done", queue := [⟨.user "A", false⟩, ⟨.user "B", false⟩], cfg := [[], ["f"]] }
     let r := drainFlagged goM exU s
     (evTypes r, r.trace, r.cfg, r.status) = ([], [], [[], ["f"]], "done")) := by decide +kernel

theorem f26M_runs :
    -- `start()`
    ((syncStart f26M exU {}).cfg = f26S.cfg ∧ (syncStart f26M exU {}).status = "running") ∧
    -- event `D` in the start configuration, step by step: the first candidate; then the second executed regardless;
    -- then the second through `peStep`
    ((let s1 := peStep (hooksFlagged exU f26M) .sync f26M (.user "D") 2 f26S ⟨["p", "r2", "x"], f26XT⟩
      (s1.status, s1.cfg, s1.cfg.contains [], s1.trace) =
        ("done", [[], ["f"]], true, ["#t:m,m.f", "en:f@D", "tr:p.r2.x:D:0@D"])) ∧
     (let s1 := peStep (hooksFlagged exU f26M) .sync f26M (.user "D") 2 f26S ⟨["p", "r2", "x"], f26XT⟩
      let s2 := execute (hooksFlagged exU f26M) .sync f26M (.user "D") (planTransition f26M s1.cfg s1.hist ⟨[], f26RootT⟩) s1
      (s2.status, s2.cfg.contains ["f"], s2.trace.take 3) =
        ("done", false, ["#t:m,m.p,m.p.r2,m.p.r2.x,m.p.r1,m.p.r1.b", "tr::D:0@D", "ex:f@D"])) ∧
     (let s1 := peStep (hooksFlagged exU f26M) .sync f26M (.user "D") 2 f26S ⟨["p", "r2", "x"], f26XT⟩
      let s2 := peStep (hooksFlagged exU f26M) .sync f26M (.user "D") 2 s1 ⟨[], f26RootT⟩
      (s2.status, s2.cfg, s2.trace) = (s1.status, s1.cfg, s1.trace))) ∧
    -- `D` as one event; through `send` on the sync engine, on the async engine
    ((let s := processEvent (hooksFlagged exU f26M) .sync f26M exU (.user "D") f26S
      (s.status, s.cfg, s.trace) = ("done", [[], ["f"]], ["#t:m,m.f", "en:f@D", "tr:p.r2.x:D:0@D"])) ∧
     (let s := syncSend f26M exU (.user "D") (syncStart f26M exU {})
      (s.status, s.cfg, s.trace) = ("done", [[], ["f"]], ["#t:m,m.f", "en:f@D", "tr:p.r2.x:D:0@D", "#recv:D"])) ∧
     (let s := asyncSend f26M exU (.user "D") (asyncStart f26M exU {})
      (s.status, s.cfg, s.trace) = ("done", [[], ["f"]], ["#t:m,m.f", "en:f@D", "tr:p.r2.x:D:0@D", "#recv:D"]))) := by
  decide +kernel

end XSM.C10

import Xsm.Model.Guard
import Xsm.Model.Select
import Xsm.Model.Parse
import Xsm.Proofs.Tree
/-!
Helper definitions and lemmas for property C06 (guards).

* evaluator: `and` / `or` as the two instances of one short-circuit evaluation (`ShortCircuit`), a
  denotational (plain Boolean) semantics `denote`, the list `reached` of user guard names that
  evaluation actually looks up, and `evalGuard_spec`, which ties evaluation to the two;
  "raises = false" (`evalGuard_congr`, `deraise`);
* `stateIn`: the suffix test of `isStateIn` against membership in the configuration;
* parser: unfolding lemma for the (well-founded) `parseGuard`, operand spellings;
* selection: a candidate whose guard is false (e.g. raises) is dropped without affecting the others
  (`SameRun`: runs of a candidate producer compared up to the guard cache entry of that candidate).
-/
namespace XSM

/-- the leaves of a guard expression -/
inductive GAtom where
  | named (name : String) (params : Option J)
  | stateIn (params : Option J)

/-- value of a user guard outcome: a raising guard is false, a missing one has no value -/
def outVal : GOut → Option Bool
  | .t => some true | .f => some false | .raises => some false | .missing => none

theorem outVal_eq_none {o : GOut} : outVal o = none ↔ o = .missing := by
  cases o <;> simp [outVal]

section Eval
variable (m : Machine) (cfg : List Path) (env : GEnv)

@[simp] theorem evalGuard_and (cs : List GuardExpr) :
    evalGuard m cfg env (.and cs) = evalAll m cfg env cs := by simp [evalGuard]
@[simp] theorem evalGuard_or (cs : List GuardExpr) :
    evalGuard m cfg env (.or cs) = evalAny m cfg env cs := by simp [evalGuard]

theorem evalGuard_not (c : GuardExpr) :
    evalGuard m cfg env (.not c) =
      (match evalGuard m cfg env c with | .ok b => .ok (!b) | .error e => .error e) := by
  simp only [evalGuard, bind, Except.bind, pure, Except.pure]
  cases evalGuard m cfg env c <;> rfl

theorem evalAll_nil : evalAll m cfg env [] = .ok true := by simp [evalAll, pure, Except.pure]
theorem evalAny_nil : evalAny m cfg env [] = .ok false := by simp [evalAny, pure, Except.pure]

theorem evalAll_cons (c : GuardExpr) (cs : List GuardExpr) :
    evalAll m cfg env (c :: cs) =
      (match evalGuard m cfg env c with
       | .ok true => evalAll m cfg env cs
       | .ok false => .ok false
       | .error e => .error e) := by
  simp only [evalAll, bind, Except.bind, pure, Except.pure]
  cases evalGuard m cfg env c with
  | error e => rfl
  | ok b => cases b <;> rfl

theorem evalAny_cons (c : GuardExpr) (cs : List GuardExpr) :
    evalAny m cfg env (c :: cs) =
      (match evalGuard m cfg env c with
       | .ok true => .ok true
       | .ok false => evalAny m cfg env cs
       | .error e => .error e) := by
  simp only [evalAny, bind, Except.bind, pure, Except.pure]
  cases evalGuard m cfg env c with
  | error e => rfl
  | ok b => cases b <;> rfl

theorem evalGuard_named (n : String) (p : Option J) :
    evalGuard m cfg env (.named n p) =
      (match outVal (env n) with | some b => .ok b | none => .error (.missing n)) := by
  simp only [evalGuard, pure, Except.pure]
  cases env n <;> rfl

theorem evalGuard_stateIn (p : Option J) :
    evalGuard m cfg env (.stateIn p) =
      .ok ((outVal (env "stateIn")).getD (isStateIn m cfg p)) := by
  simp only [evalGuard, pure, Except.pure]
  cases env "stateIn" <;> rfl

/-! ## Short-circuit characterisation -/

/-- `F` evaluates a list of children from the left: it goes on after a child that evaluates to
`ok z` and stops at the first child that evaluates to anything else, with that child's result.
`and` does so with `z = true` (Python's `all` over a generator), `or` with `z = false` (`any`). -/
structure ShortCircuit (z : Bool) (F : List GuardExpr → Except GErr Bool) : Prop where
  nil : F [] = .ok z
  go : ∀ c cs, evalGuard m cfg env c = .ok z → F (c :: cs) = F cs
  stop : ∀ c cs, evalGuard m cfg env c ≠ .ok z → F (c :: cs) = evalGuard m cfg env c

namespace ShortCircuit
variable {m cfg env} {z : Bool} {F : List GuardExpr → Except GErr Bool}

theorem first (h : ShortCircuit m cfg env z F) (cs : List GuardExpr) :
    ((∀ x ∈ cs, evalGuard m cfg env x = .ok z) ∧ F cs = .ok z) ∨
    (∃ pre c post, cs = pre ++ c :: post ∧ (∀ x ∈ pre, evalGuard m cfg env x = .ok z) ∧
      evalGuard m cfg env c ≠ .ok z ∧ F cs = evalGuard m cfg env c ∧
      ∀ post', F (pre ++ c :: post') = evalGuard m cfg env c) := by
  induction cs with
  | nil => exact Or.inl ⟨nofun, h.nil⟩
  | cons x cs ih =>
    by_cases hx : evalGuard m cfg env x = .ok z
    · rcases ih with ⟨hall, hF⟩ | ⟨pre, c, post, rfl, hpre, hc, hF, hpost⟩
      · exact Or.inl ⟨List.forall_mem_cons.2 ⟨hx, hall⟩, (h.go x cs hx).trans hF⟩
      · exact Or.inr ⟨x :: pre, c, post, rfl, List.forall_mem_cons.2 ⟨hx, hpre⟩, hc,
          (h.go x _ hx).trans hF, fun post' => (h.go x _ hx).trans (hpost post')⟩
    · exact Or.inr ⟨[], x, cs, rfl, nofun, hx, h.stop x cs hx, fun post' => h.stop x post' hx⟩

theorem iff (h : ShortCircuit m cfg env z F) (cs : List GuardExpr) :
    F cs = .ok z ↔ ∀ x ∈ cs, evalGuard m cfg env x = .ok z := by
  rcases h.first cs with ⟨hall, hF⟩ | ⟨pre, c, post, rfl, _, hc, hF, _⟩
  · exact ⟨fun _ => hall, fun _ => hF⟩
  · exact ⟨fun e => absurd (hF.symm.trans e) hc,
      fun hall => absurd (hall c (List.mem_append_right _ List.mem_cons_self)) hc⟩

end ShortCircuit

theorem shortCircuit_and :
    ShortCircuit m cfg env true (fun cs => evalGuard m cfg env (.and cs)) := by
  refine ⟨evalAll_nil m cfg env, fun c cs hc => ?_, fun c cs hc => ?_⟩
  · rw [evalGuard_and, evalGuard_and, evalAll_cons, hc]
  · rw [evalGuard_and, evalAll_cons]
    revert hc
    cases evalGuard m cfg env c with
    | error e => exact fun _ => rfl
    | ok b => cases b <;> simp

theorem shortCircuit_or :
    ShortCircuit m cfg env false (fun cs => evalGuard m cfg env (.or cs)) := by
  refine ⟨evalAny_nil m cfg env, fun c cs hc => ?_, fun c cs hc => ?_⟩
  · rw [evalGuard_or, evalGuard_or, evalAny_cons, hc]
  · rw [evalGuard_or, evalAny_cons]
    revert hc
    cases evalGuard m cfg env c with
    | error e => exact fun _ => rfl
    | ok b => cases b <;> simp

/-! ## Denotational semantics -/

/-- value of an atom: a user guard by its outcome; `stateIn` by the user guard of that name when
there is one, else by the built-in test on the configuration -/
def atomVal (m : Machine) (cfg : List Path) (env : GEnv) : GAtom → Option Bool
  | .named n _ => outVal (env n)
  | .stateIn p => some ((outVal (env "stateIn")).getD (isStateIn m cfg p))

mutual
/-- ordinary Boolean meaning (atoms without a value read as `false`; `eval_bool_semantics` only
uses it when every atom has a value, `eval_sound` shows the default never matters) -/
def denote (m : Machine) (cfg : List Path) (env : GEnv) : GuardExpr → Bool
  | .named n p => (atomVal m cfg env (.named n p)).getD false
  | .stateIn p => (atomVal m cfg env (.stateIn p)).getD false
  | .and cs => denoteAll m cfg env cs
  | .or cs => denoteAny m cfg env cs
  | .not c => !(denote m cfg env c)
def denoteAll (m : Machine) (cfg : List Path) (env : GEnv) : List GuardExpr → Bool
  | [] => true
  | c :: cs => denote m cfg env c && denoteAll m cfg env cs
def denoteAny (m : Machine) (cfg : List Path) (env : GEnv) : List GuardExpr → Bool
  | [] => false
  | c :: cs => denote m cfg env c || denoteAny m cfg env cs
end

theorem denote_and (cs : List GuardExpr) :
    denote m cfg env (.and cs) = cs.all (denote m cfg env) := by
  rw [denote]
  induction cs with
  | nil => rfl
  | cons c cs ih => rw [denoteAll, ih, List.all_cons]

theorem denote_or (cs : List GuardExpr) :
    denote m cfg env (.or cs) = cs.any (denote m cfg env) := by
  rw [denote]
  induction cs with
  | nil => rfl
  | cons c cs ih => rw [denoteAny, ih, List.any_cons]

theorem denote_not (c : GuardExpr) : denote m cfg env (.not c) = !(denote m cfg env c) := by
  rw [denote]

mutual
def guardNames : GuardExpr → List String
  | .named n _ => [n]
  | .stateIn _ => []
  | .and cs => guardNamesL cs
  | .or cs => guardNamesL cs
  | .not c => guardNames c
def guardNamesL : List GuardExpr → List String
  | [] => []
  | c :: cs => guardNames c ++ guardNamesL cs
end

theorem guardNamesL_eq_flatMap (cs : List GuardExpr) : guardNamesL cs = cs.flatMap guardNames := by
  induction cs with
  | nil => simp [guardNamesL]
  | cons c cs ih => simp [guardNamesL, ih]

mutual
/-- names of the user guards that evaluation actually looks up, in order: evaluation of `and`
moves on to the next child only after `ok true`, of `or` only after `ok false` -/
def reached (m : Machine) (cfg : List Path) (env : GEnv) : GuardExpr → List String
  | .named n _ => [n]
  | .stateIn _ => []
  | .and cs => reachedAll m cfg env cs
  | .or cs => reachedAny m cfg env cs
  | .not c => reached m cfg env c
def reachedAll (m : Machine) (cfg : List Path) (env : GEnv) : List GuardExpr → List String
  | [] => []
  | c :: cs => reached m cfg env c ++
      (match evalGuard m cfg env c with | .ok true => reachedAll m cfg env cs | _ => [])
def reachedAny (m : Machine) (cfg : List Path) (env : GEnv) : List GuardExpr → List String
  | [] => []
  | c :: cs => reached m cfg env c ++
      (match evalGuard m cfg env c with | .ok false => reachedAny m cfg env cs | _ => [])
end

end Eval

/-- what an evaluation result `r` has to do with the meaning `d` and the names `ns` looked up on
the way: a value is the meaning, and every name looked up had an implementation; an error names the
one name looked up that had none -/
def EvalSpec (env : GEnv) (r : Except GErr Bool) (d : Bool) (ns : List String) : Prop :=
  match r with
  | .ok b => b = d ∧ ∀ n ∈ ns, env n ≠ .missing
  | .error (.missing n) => ∀ n', (n' ∈ ns ∧ env n' = .missing) ↔ n' = n

namespace EvalSpec
variable {env : GEnv} {r : Except GErr Bool} {d : Bool} {ns : List String}

theorem sound (h : EvalSpec env r d ns) {b : Bool} (hr : r = .ok b) : b = d := by
  subst hr; exact h.1

theorem error_iff (h : EvalSpec env r d ns) (n : String) :
    r = .error (.missing n) ↔ (n ∈ ns ∧ env n = .missing) := by
  match r, h with
  | .ok b, h => exact ⟨nofun, fun hn => absurd hn.2 (h.2 n hn.1)⟩
  | .error (.missing n'), h =>
    rw [h n]
    exact ⟨fun e => by cases e; rfl, fun e => by rw [e]⟩

theorem prepend (pre : List String) (hpre : ∀ n ∈ pre, env n ≠ .missing)
    (h : EvalSpec env r d ns) : EvalSpec env r d (pre ++ ns) := by
  match r, h with
  | .ok b, h => exact ⟨h.1, fun n hn => (List.mem_append.1 hn).elim (hpre n) (h.2 n)⟩
  | .error (.missing n), h =>
    intro n'
    rw [← h n', List.mem_append]
    exact ⟨fun ⟨h1, h2⟩ => ⟨h1.resolve_left (fun hp => hpre n' hp h2), h2⟩,
      fun ⟨h1, h2⟩ => ⟨Or.inr h1, h2⟩⟩

end EvalSpec

section Spec
variable (m : Machine) (cfg : List Path) (env : GEnv)

/-- evaluation is total and short-circuit: it returns the Boolean meaning, having looked up
implemented guards only, or stops at the one reached guard that has no implementation -/
theorem evalGuard_spec (g : GuardExpr) :
    EvalSpec env (evalGuard m cfg env g) (denote m cfg env g) (reached m cfg env g) := by
  refine GuardExpr.rec
    (motive_1 := fun g =>
      EvalSpec env (evalGuard m cfg env g) (denote m cfg env g) (reached m cfg env g))
    (motive_2 := fun cs =>
      EvalSpec env (evalAll m cfg env cs) (denoteAll m cfg env cs) (reachedAll m cfg env cs) ∧
      EvalSpec env (evalAny m cfg env cs) (denoteAny m cfg env cs) (reachedAny m cfg env cs))
    ?_ ?_ ?_ ?_ ?_ ?_ ?_ g
  · intro n p
    rw [evalGuard_named, denote, atomVal, reached]
    cases h : outVal (env n) with
    | none =>
      exact fun n' => ⟨fun h' => List.mem_singleton.1 h'.1,
        fun e => e.symm ▸ ⟨List.mem_singleton_self n, outVal_eq_none.1 h⟩⟩
    | some b =>
      refine ⟨rfl, fun n' hn' e => ?_⟩
      rw [List.mem_singleton.1 hn'] at e
      rw [outVal_eq_none.2 e] at h
      cases h
  · intro p
    rw [evalGuard_stateIn, denote, atomVal, reached]
    exact ⟨rfl, fun _ h => nomatch h⟩
  · intro cs ih
    rw [evalGuard_and, denote, reached]; exact ih.1
  · intro cs ih
    rw [evalGuard_or, denote, reached]; exact ih.2
  · intro c ih
    rw [evalGuard_not, denote, reached]
    revert ih
    cases evalGuard m cfg env c with
    | error e => exact fun ih => ih
    | ok b => exact fun ih => ⟨congrArg (!·) ih.1, ih.2⟩
  · rw [evalAll_nil, evalAny_nil, denoteAll, denoteAny, reachedAll, reachedAny]
    exact ⟨⟨rfl, fun _ h => nomatch h⟩, rfl, fun _ h => nomatch h⟩
  · intro c cs ihc ihcs
    rw [evalAll_cons, evalAny_cons, denoteAll, denoteAny, reachedAll, reachedAny]
    revert ihc
    cases evalGuard m cfg env c with
    | error e => exact fun ihc => ⟨by rwa [List.append_nil], by rwa [List.append_nil]⟩
    | ok b =>
      intro ihc
      cases b with
      | true =>
        rw [← ihc.1, Bool.true_and, Bool.true_or, List.append_nil]
        exact ⟨ihcs.1.prepend _ ihc.2, rfl, ihc.2⟩
      | false =>
        rw [← ihc.1, Bool.false_and, Bool.false_or, List.append_nil]
        exact ⟨⟨rfl, ihc.2⟩, ihcs.2.prepend _ ihc.2⟩

theorem reached_subset_names (g : GuardExpr) : reached m cfg env g ⊆ guardNames g := by
  refine GuardExpr.rec
    (motive_1 := fun g => reached m cfg env g ⊆ guardNames g)
    (motive_2 := fun cs =>
      reachedAll m cfg env cs ⊆ guardNamesL cs ∧ reachedAny m cfg env cs ⊆ guardNamesL cs)
    ?_ ?_ ?_ ?_ ?_ ?_ ?_ g
  · intro n p; rw [reached, guardNames]; exact List.Subset.refl _
  · intro p; rw [reached]; exact List.nil_subset _
  · intro cs ih; rw [reached, guardNames]; exact ih.1
  · intro cs ih; rw [reached, guardNames]; exact ih.2
  · intro c ih; rw [reached, guardNames]; exact ih
  · rw [reachedAll, reachedAny]; exact ⟨List.nil_subset _, List.nil_subset _⟩
  · intro c cs ihc ihcs
    rw [reachedAll, reachedAny, guardNamesL]
    refine ⟨List.append_subset.2 ⟨List.subset_append_of_subset_left _ ihc,
        List.subset_append_of_subset_right _ ?_⟩,
      List.append_subset.2 ⟨List.subset_append_of_subset_left _ ihc,
        List.subset_append_of_subset_right _ ?_⟩⟩
    · split
      · exact ihcs.1
      · exact List.nil_subset _
    · split
      · exact ihcs.2
      · exact List.nil_subset _

end Spec

/-! ## Evaluation sees an outcome only through its value: a raising guard is a false guard -/

theorem evalGuard_congr (m : Machine) (cfg : List Path) {env env' : GEnv}
    (h : ∀ n, outVal (env n) = outVal (env' n)) (g : GuardExpr) :
    evalGuard m cfg env g = evalGuard m cfg env' g := by
  refine GuardExpr.rec
    (motive_1 := fun g => evalGuard m cfg env g = evalGuard m cfg env' g)
    (motive_2 := fun cs =>
      evalAll m cfg env cs = evalAll m cfg env' cs ∧ evalAny m cfg env cs = evalAny m cfg env' cs)
    ?_ ?_ ?_ ?_ ?_ ?_ ?_ g
  · intro n p; rw [evalGuard_named, evalGuard_named, h]
  · intro p; rw [evalGuard_stateIn, evalGuard_stateIn, h]
  · intro cs ih; rw [evalGuard_and, evalGuard_and]; exact ih.1
  · intro cs ih; rw [evalGuard_or, evalGuard_or]; exact ih.2
  · intro c ih; rw [evalGuard_not, evalGuard_not, ih]
  · exact ⟨by rw [evalAll_nil, evalAll_nil], by rw [evalAny_nil, evalAny_nil]⟩
  · intro c cs ihc ihcs
    exact ⟨by rw [evalAll_cons, evalAll_cons, ihc, ihcs.1],
      by rw [evalAny_cons, evalAny_cons, ihc, ihcs.2]⟩

/-- the environment in which the guards selected by `P` return `False` instead of raising -/
def deraise (P : String → Bool) (env : GEnv) : GEnv :=
  fun n => if P n && env n == .raises then .f else env n

theorem outVal_deraise (P : String → Bool) (env : GEnv) (n : String) :
    outVal (deraise P env n) = outVal (env n) := by
  unfold deraise
  cases P n <;> cases env n <;> rfl

theorem passes_deraise (m : Machine) (cfg : List Path) (env : GEnv) (P : String → Bool) (c : GCache)
    (t : Trans) : passes m cfg (deraise P env) c t = passes m cfg env c t := by
  have hg : guardOk m cfg (deraise P env) t.guard = guardOk m cfg env t.guard := by
    cases t.guard with
    | none => rfl
    | some g => exact evalGuard_congr m cfg (outVal_deraise P env) g
  simp only [passes, hg]

/-! ## `stateIn`: the suffix test against membership -/

/-- the state id the built-in test compares with: a leading `#` is dropped -/
def stateInNorm (t : String) : String := if sStartsWith t "#" then sDrop t 1 else t

/-- the built-in `stateIn` test says "yes" because of active state `q`: its id equals `t` or ends
with `"." ++ t` -/
def Confusable (m : Machine) (t : String) (q : Path) : Prop :=
  m.idOf q = t ∨ sEndsWith (m.idOf q) ("." ++ t) = true

theorem isStateIn_eq_true_iff (m : Machine) (cfg : List Path) (params : Option J) (t : String)
    (ht : stateInTarget params = some t) :
    isStateIn m cfg params = true ↔ ∃ q ∈ cfg, Confusable m (stateInNorm t) q := by
  simp only [isStateIn, ht, List.any_eq_true, Bool.or_eq_true, beq_iff_eq, Confusable, stateInNorm]

/-- what the resolver asks of a target string: whether it is empty, its first character, the rest -/
theorem first_char {s : String} {c : Char} {cs : List Char} (hl : s.toList = c :: cs) :
    s ≠ "" ∧ sStartsWith s "#" = ('#' == c) ∧ sStartsWith s "." = ('.' == c) ∧
    sDrop s 1 = String.ofList cs ∧ (s = "." → c = '.' ∧ cs = []) := by
  refine ⟨?_, ?_, ?_, ?_, ?_⟩
  · intro e; rw [e] at hl; cases hl
  · simp only [sStartsWith, hl]
    show List.isPrefixOf ['#'] (c :: cs) = _
    simp [List.isPrefixOf]
  · simp only [sStartsWith, hl]
    show List.isPrefixOf ['.'] (c :: cs) = _
    simp [List.isPrefixOf]
  · simp only [sDrop, hl]; rfl
  · intro e
    rw [e] at hl
    have h := List.cons.inj (show '.' :: [] = c :: cs from hl)
    exact ⟨h.1.symm, h.2.symm⟩

theorem hash_prefix (t : String) :
    ("#" ++ t) ≠ "" ∧ sStartsWith ("#" ++ t) "#" = true ∧ sDrop ("#" ++ t) 1 = t := by
  obtain ⟨h1, h2, _, h4, _⟩ := first_char (s := "#" ++ t) (c := '#') (cs := t.toList) (by rw [String.toList_append]; rfl)
  exact ⟨h1, by simpa using h2, by simpa using h4⟩

theorem stateInNorm_hash (s : String) : stateInNorm ("#" ++ s) = s := by
  obtain ⟨_, h1, h2⟩ := hash_prefix s
  simp [stateInNorm, h1, h2]

theorem stateInNorm_plain (s : String) (h : sStartsWith s "#" = false) : stateInNorm s = s := by
  simp [stateInNorm, h]

theorem stateIn_builtin_iff (m : Machine) (cfg : List Path) (params : Option J) (t : String)
    (p : Path) (ht : stateInTarget params = some t)
    (hid : (t = m.idOf p ∧ sStartsWith t "#" = false) ∨ t = "#" ++ m.idOf p) :
    isStateIn m cfg params = decide (p ∈ cfg) ↔
      (p ∉ cfg → ∀ q ∈ cfg, ¬ Confusable m (m.idOf p) q) := by
  have hn : stateInNorm t = m.idOf p := by
    rcases hid with ⟨rfl, h⟩ | rfl
    · exact stateInNorm_plain _ h
    · exact stateInNorm_hash _
  have hiff := isStateIn_eq_true_iff m cfg params t ht
  rw [hn] at hiff
  by_cases hp : p ∈ cfg
  · have : isStateIn m cfg params = true := hiff.2 ⟨p, hp, Or.inl rfl⟩
    simp [this, hp]
  · simp only [hp, decide_false, not_false_eq_true, forall_const]
    constructor
    · intro h q hq hc
      have : isStateIn m cfg params = true := hiff.2 ⟨q, hq, hc⟩
      rw [h] at this; cases this
    · intro h
      cases hb : isStateIn m cfg params with
      | false => rfl
      | true =>
        obtain ⟨q, hq, hc⟩ := hiff.1 hb
        exact absurd hc (h q hq)

/-! ### a structural sufficient condition: dot-free keys, no key equal to the machine id -/

theorem not_confusable_of_dotfree (m : Machine) (p q : Path)
    (hm : '.' ∉ m.id.toList)
    (hq : ∀ k ∈ q, '.' ∉ k.toList ∧ k ≠ m.id)
    (hp : ∀ k ∈ p, '.' ∉ k.toList)
    (hne : q ≠ p) : ¬ Confusable m (m.idOf p) q := by
  have segq : splitDotL (m.idOf q).toList = m.id.toList :: q.map String.toList := by
    rw [idOf_toList, splitDotL_idTail _ _ (fun k hk => (hq k hk).1), splitDotL_dotfree _ hm]; rfl
  have segp : splitDotL (m.idOf p).toList = m.id.toList :: p.map String.toList := by
    rw [idOf_toList, splitDotL_idTail _ _ hp, splitDotL_dotfree _ hm]; rfl
  rintro (heq | hsuf)
  · rw [heq, segp] at segq
    have := (List.map_inj_right (f := String.toList) (fun x y h => String.toList_injective h)).1
      (List.cons.inj segq).2
    exact hne this.symm
  · simp only [sEndsWith, String.toList_append] at hsuf
    obtain ⟨pre, hpre⟩ := List.isSuffixOf_iff_suffix.1 hsuf
    have hdot : ".".toList = ['.'] := rfl
    rw [hdot] at hpre
    have e := congrArg splitDotL hpre
    rw [List.singleton_append, splitDotL_append_dot, segq, segp] at e
    cases hs : splitDotL pre with
    | nil => exact absurd hs (splitDotL_ne_nil pre)
    | cons s0 S =>
      rw [hs] at e
      have e2 := (List.cons.inj e).2
      have hmem : m.id.toList ∈ q.map String.toList := by rw [← e2]; simp
      obtain ⟨k, hk, hkeq⟩ := List.mem_map.1 hmem
      exact (hq k hk).2 (String.toList_injective hkeq)

theorem idOf_not_hash (m : Machine) (p : Path) (h : sStartsWith m.id "#" = false) :
    sStartsWith (m.idOf p) "#" = false := by
  simp only [sStartsWith, idOf_toList] at h ⊢
  have hh : "#".toList = ['#'] := rfl
  rw [hh] at h ⊢
  cases hm : m.id.toList with
  | nil =>
    cases p with
    | nil => simp [idTail]
    | cons k ks => simp [idTail, List.isPrefixOf]
  | cons c cs =>
    rw [hm] at h
    simpa [List.isPrefixOf] using h

/-! ## Parser: unfolding `parseGuard`, operand spellings -/

theorem mapM_attach_val {m : Type → Type} [Monad m] [LawfulMonad m] {α β : Type} (f : α → m β) (l : List α) :
    l.attach.mapM (fun c => f c.val) = l.mapM f := by
  rw [List.mapM_subtype (g := f) (fun _ _ => rfl), List.unattach_attach]

/-- the defining equation of `parseGuard` on objects, without the termination bookkeeping -/
theorem parseGuard_obj (kvs : List (String × J)) :
    parseGuard (.obj kvs) = (do
      let ty ← guardTypeOf (.obj kvs)
      let children ←
        (guardChildrenJ (.obj kvs) (ty = "and" || ty = "or" || ty = "not")).mapM parseGuard
      finishGuard ty ((J.obj kvs).get? "params") children) := by
  rw [parseGuard.eq_2]
  simp only [mapM_attach_val]

/-- a guard object `{"type": op, ...rest}` -/
def opJ (op : String) (rest : List (String × J)) : J := .obj (("type", .str op) :: rest)

def IsCompositeOp (op : String) : Prop := op = "and" ∨ op = "or" ∨ op = "not"

/-- what every operand spelling of a composite guard parses to: the operands are parsed left to
right, then the shape is checked -/
def parseOperands (op : String) (cs : List J) : Except PErr GuardExpr := do
  let children ← cs.mapM parseGuard
  finishGuard op none children

theorem guardTypeOf_opJ (op : String) (rest : List (String × J)) (h : op ≠ "") :
    guardTypeOf (opJ op rest) = .ok op := by
  simp [guardTypeOf, opJ, J.get?, h, pure, Except.pure]

namespace IsCompositeOp

theorem ne_empty {op : String} (h : IsCompositeOp op) : op ≠ "" := by
  rcases h with rfl | rfl | rfl <;> decide

theorem flag {op : String} (h : IsCompositeOp op) :
    (decide (op = "and") || decide (op = "or") || decide (op = "not")) = true := by
  rcases h with rfl | rfl | rfl <;> decide

end IsCompositeOp

theorem finishGuard_composite (op : String) (h : IsCompositeOp op) (p1 p2 : Option J)
    (ch : List GuardExpr) : finishGuard op p1 ch = finishGuard op p2 ch := by
  rcases h with rfl | rfl | rfl <;> simp [finishGuard]

theorem finishGuard_named {ty : String} {p : Option J} {ch : List GuardExpr} {n : String}
    {ps : Option J} (h : finishGuard ty p ch = .ok (.named n ps)) : ty = n ∧ p = ps := by
  simp only [finishGuard] at h
  by_cases hc : (decide (ty = "and") || decide (ty = "or") || decide (ty = "not")) = true
  · rw [if_pos hc] at h
    by_cases he : ch.isEmpty = true
    · rw [if_pos he] at h; cases h
    · rw [if_neg he] at h
      by_cases hn : ty = "not"
      · rw [if_pos hn] at h
        match ch, h with
        | [], h => cases h
        | [c], h => cases h
        | _ :: _ :: _, h => cases h
      · rw [if_neg hn] at h
        by_cases ha : ty = "and"
        · rw [if_pos ha] at h; cases h
        · rw [if_neg ha] at h; cases h
  · rw [if_neg hc] at h
    by_cases hs : ty = "stateIn"
    · rw [if_pos hs] at h; cases h
    · rw [if_neg hs] at h; cases h; exact ⟨rfl, rfl⟩

theorem guardChildrenJ_children (op : String) (cs : List J) (hcs : cs ≠ []) (b : Bool) :
    guardChildrenJ (opJ op [("children", .arr cs)]) b = cs := by
  simp [guardChildrenJ, opJ, truthyList, J.get?, truthy, ensureList, hcs]

theorem guardChildrenJ_params (op k : String) (hk : k = "guards" ∨ k = "children") (cs : List J)
    (hcs : cs ≠ []) (b : Bool) :
    guardChildrenJ (opJ op [("params", .obj [(k, .arr cs)])]) b = cs := by
  rcases hk with rfl | rfl <;>
    simp [guardChildrenJ, opJ, truthyList, J.get?, truthy, ensureList, hcs, paramsOperands]

theorem guardChildrenJ_params_guard (op : String) (c : J) (hc : c ≠ .null) :
    guardChildrenJ (opJ op [("params", .obj [("guard", c)])]) true = [c] := by
  simp [guardChildrenJ, opJ, truthyList, J.get?, paramsOperands, paramsGuard]

theorem parseGuard_opJ (op : String) (h : IsCompositeOp op) (rest : List (String × J)) :
    parseGuard (opJ op rest) = parseOperands op (guardChildrenJ (opJ op rest) true) := by
  unfold opJ
  rw [parseGuard_obj]
  have := guardTypeOf_opJ op rest h.ne_empty
  unfold opJ at this
  rw [this]
  simp only [bind, Except.bind, parseOperands, h.flag]
  cases List.mapM parseGuard (guardChildrenJ (J.obj (("type", J.str op) :: rest)) true) with
  | error e => rfl
  | ok ch => exact finishGuard_composite op h _ _ ch

theorem parseOperands_and_or (cs : List J) (gs : List GuardExpr) (hcs : cs ≠ [])
    (h : cs.mapM parseGuard = .ok gs) :
    parseOperands "and" cs = .ok (.and gs) ∧ parseOperands "or" cs = .ok (.or gs) := by
  have hne : gs ≠ [] := by
    rintro rfl
    obtain ⟨c, cs, rfl⟩ := List.exists_cons_of_ne_nil hcs
    rw [List.mapM_cons] at h
    cases hx : parseGuard c <;> cases hxs : cs.mapM parseGuard <;>
      simp [hx, hxs, bind, Except.bind, pure, Except.pure] at h
  constructor <;> simp [parseOperands, h, bind, Except.bind, finishGuard, hne, pure, Except.pure]

theorem parseOperands_not (c : J) (g : GuardExpr) (h : parseGuard c = .ok g) :
    parseOperands "not" [c] = .ok (.not g) := by
  simp [parseOperands, List.mapM_cons, h, bind, Except.bind, finishGuard, pure, Except.pure]

/-! ## `cond` = `guard` -/

theorem get?_mid_ne (pre post : List (String × J)) (k0 k : String) (g : J) (h : k0 ≠ k) :
    (J.obj (pre ++ (k0, g) :: post)).get? k = (J.obj (pre ++ post)).get? k := by
  simp [J.get?, List.find?_append, h]

theorem get?_mid_eq (pre post : List (String × J)) (k : String) (g : J)
    (h : ∀ kv ∈ pre, kv.1 ≠ k) : (J.obj (pre ++ (k, g) :: post)).get? k = some g := by
  have : pre.find? (fun kv => kv.1 == k) = none := by
    rw [List.find?_eq_none]; intro kv hkv; simpa using h kv hkv
  simp [J.get?, List.find?_append, this]

theorem hasKey_mid (pre post : List (String × J)) (k0 k : String) (g : J) :
    (J.obj (pre ++ (k0, g) :: post)).hasKey k =
      (decide (k0 = k) || (J.obj (pre ++ post)).hasKey k) := by
  simp only [J.hasKey, List.any_append, List.any_cons]
  by_cases h : k0 = k <;>
    cases pre.any (fun kv => kv.1 == k) <;> cases post.any (fun kv => kv.1 == k) <;> simp [h]

theorem hasKey_false_of (kvs : List (String × J)) (k : String) (h : ∀ kv ∈ kvs, kv.1 ≠ k) :
    (J.obj kvs).hasKey k = false := by
  simp only [J.hasKey]
  rw [List.any_eq_false]
  intro kv hkv; simpa using h kv hkv

theorem rawGuardOf_cond_mid (pre post : List (String × J)) (g : J)
    (h : ∀ kv ∈ pre ++ post, kv.1 ≠ "guard" ∧ kv.1 ≠ "cond") :
    rawGuardOf (.obj (pre ++ ("cond", g) :: post)) = some g := by
  have hk : (J.obj (pre ++ ("cond", g) :: post)).hasKey "guard" = false := by
    rw [hasKey_mid, hasKey_false_of _ _ (fun kv hkv => (h kv hkv).1)]; decide
  simp only [rawGuardOf, hk]
  exact get?_mid_eq pre post "cond" g (fun kv hkv => (h kv (by simp [hkv])).2)

theorem rawGuardOf_guard_mid (pre post : List (String × J)) (g : J)
    (h : ∀ kv ∈ pre, kv.1 ≠ "guard") :
    rawGuardOf (.obj (pre ++ ("guard", g) :: post)) = some g := by
  have hk : (J.obj (pre ++ ("guard", g) :: post)).hasKey "guard" = true := by
    rw [hasKey_mid]; simp
  simp only [rawGuardOf, hk]
  exact get?_mid_eq pre post "guard" g h

theorem parseTransition_congr (ev : String) (c1 c2 : J)
    (ha : c1.get? "actions" = c2.get? "actions")
    (hg : rawGuardOf c1 = rawGuardOf c2)
    (ht : c1.get? "target" = c2.get? "target")
    (hr : c1.get? "reenter" = c2.get? "reenter")
    (hf : c1.get? "__forbidden__" = c2.get? "__forbidden__") :
    parseTransition ev c1 = parseTransition ev c2 := by
  simp only [parseTransition, ha, hg, ht, hr, hf]

theorem parseTransition_run (ev : String) (cfg : J) (s : PState) {as : List ActionRef} {g : Option GuardExpr}
    (ha : parseActions (cfg.get? "actions") = .ok as) (hg : parseGuardOpt (rawGuardOf cfg) = .ok g) :
    (parseTransition ev cfg).run s = .ok (
      { tid := s.nextTid, event := ev,
        target := match cfg.get? "target" with | some (.str t) => some t | _ => none,
        guard := g, actions := as,
        reenter := match cfg.get? "reenter" with | some v => truthy v | none => false,
        forbidden := match cfg.get? "__forbidden__" with | some v => truthy v | none => false },
      { s with nextTid := s.nextTid + 1 }) := by
  unfold parseTransition
  rw [ha, hg]
  rfl

theorem parseTransition_cond (ev : String) (pre post : List (String × J)) (g : J)
    (h : ∀ kv ∈ pre ++ post, kv.1 ≠ "guard" ∧ kv.1 ≠ "cond") :
    parseTransition ev (.obj (pre ++ ("cond", g) :: post)) =
      parseTransition ev (.obj (pre ++ ("guard", g) :: post)) := by
  have other : ∀ k, "cond" ≠ k → "guard" ≠ k →
      (J.obj (pre ++ ("cond", g) :: post)).get? k = (J.obj (pre ++ ("guard", g) :: post)).get? k :=
    fun k h1 h2 => (get?_mid_ne _ _ _ _ _ h1).trans (get?_mid_ne _ _ _ _ _ h2).symm
  exact parseTransition_congr ev _ _
    (ha := other "actions" (by decide +kernel) (by decide +kernel))
    (hg := by rw [rawGuardOf_cond_mid pre post g h,
      rawGuardOf_guard_mid pre post g (fun kv hkv => (h kv (by simp [hkv])).1)])
    (ht := other "target" (by decide +kernel) (by decide +kernel))
    (hr := other "reenter" (by decide +kernel) (by decide +kernel))
    (hf := other "__forbidden__" (by decide +kernel) (by decide +kernel))

/-! ## Selection: a candidate whose guard is false is dropped, nothing else changes -/

def AgreeExcept (k : Nat) (c c' : GCache) : Prop :=
  ∀ k', k' ≠ k → c.find? (fun kv => kv.1 = k') = c'.find? (fun kv => kv.1 = k')

namespace AgreeExcept

theorem refl (k : Nat) (c : GCache) : AgreeExcept k c c := fun _ _ => rfl

theorem trans {k : Nat} {a b c : GCache} (h1 : AgreeExcept k a b) (h2 : AgreeExcept k b c) :
    AgreeExcept k a c := fun k' hk' => (h1 k' hk').trans (h2 k' hk')

theorem snoc {k : Nat} {c c' : GCache} (h : AgreeExcept k c c') (kv : Nat × Bool) :
    AgreeExcept k (c ++ [kv]) (c' ++ [kv]) := by
  intro k' hk'
  rw [List.find?_append, List.find?_append, h k' hk']

theorem snoc_left (k : Nat) (c : GCache) (b : Bool) : AgreeExcept k (c ++ [(k, b)]) c := by
  intro k' hk'
  have : decide (k = k') = false := decide_eq_false (Ne.symm hk')
  rw [List.find?_append, List.find?_cons, this, List.find?_nil, Option.or_none]

end AgreeExcept

def SameRun {α : Type} (k : Nat) : Except GErr (α × GCache) → Except GErr (α × GCache) → Prop
  | .error e, .error e' => e = e'
  | .ok (x, c), .ok (x', c') => x = x' ∧ AgreeExcept k c c'
  | _, _ => False

namespace SameRun
variable {α β : Type} {k : Nat} {r r' : Except GErr (α × GCache)}

theorem map_eq (h : SameRun k r r') {f : α × GCache → β} (hf : ∀ x c c', f (x, c) = f (x, c')) :
    r.map f = r'.map f := by
  cases r with
  | error e =>
    cases r' with
    | error e' => exact congrArg Except.error (h : e = e')
    | ok p' => exact h.elim
  | ok p =>
    cases r' with
    | error e' => exact h.elim
    | ok p' =>
      obtain ⟨x, c⟩ := p
      obtain ⟨x', c'⟩ := p'
      obtain ⟨rfl, _⟩ := h
      exact congrArg Except.ok (hf x c c')

theorem bind (h : SameRun k r r') {f f' : α × GCache → Except GErr (β × GCache)}
    (hf : ∀ x c c', r = .ok (x, c) → AgreeExcept k c c' → SameRun k (f (x, c)) (f' (x, c'))) :
    SameRun k (r >>= f) (r' >>= f') := by
  cases r with
  | error e =>
    cases r' with
    | error e' => exact h
    | ok p' => exact h.elim
  | ok p =>
    cases r' with
    | error e' => exact h.elim
    | ok p' =>
      obtain ⟨x, c⟩ := p
      obtain ⟨x', c'⟩ := p'
      obtain ⟨rfl, hc⟩ := h
      exact hf x c c' rfl hc

end SameRun

section Filter
variable (m : Machine) (cfg : List Path) (env : GEnv) (src : Path)

theorem passes_sameRun (k : Nat) (t : Trans) (ht : t.tid ≠ k) {c c' : GCache}
    (h : AgreeExcept k c c') : SameRun k (passes m cfg env c t) (passes m cfg env c' t) := by
  unfold passes
  rw [← h t.tid ht]
  cases c.find? (fun kv => kv.1 = t.tid) with
  | some kv => exact ⟨rfl, h⟩
  | none =>
    cases guardOk m cfg env t.guard with
    | error e => exact rfl
    | ok b => exact ⟨rfl, h.snoc _⟩

theorem passes_find (k : Nat) (t : Trans) (ht : t.tid ≠ k) {c c1 : GCache} {b : Bool}
    (h : passes m cfg env c t = .ok (b, c1)) :
    c1.find? (fun kv => kv.1 = k) = c.find? (fun kv => kv.1 = k) := by
  unfold passes at h
  split at h
  · cases h; rfl
  · cases hg : guardOk m cfg env t.guard with
    | error e => rw [hg] at h; cases h
    | ok b0 =>
      rw [hg] at h
      cases h
      exact AgreeExcept.snoc_left t.tid c _ k (Ne.symm ht)

theorem filterPassing_sameRun (k : Nat) (ts : List Trans) (hts : ∀ t ∈ ts, t.tid ≠ k)
    {c c' : GCache} (h : AgreeExcept k c c') :
    SameRun k (filterPassing m cfg env src ts c) (filterPassing m cfg env src ts c') := by
  induction ts generalizing c c' with
  | nil => exact ⟨rfl, h⟩
  | cons t ts ih =>
    rw [filterPassing, filterPassing]
    refine (passes_sameRun m cfg env k t (hts t List.mem_cons_self) h).bind ?_
    intro b c1 c1' _ h1
    refine (ih (fun t' ht' => hts t' (List.mem_cons_of_mem _ ht')) h1).bind ?_
    intro rest c2 c2' _ h2
    exact ⟨rfl, h2⟩

/-- a candidate whose guard evaluates to `false` (and whose cached verdict, if any, is `false`)
can be removed from the list: the candidates produced are the same, the caches differ at most at
its id -/
theorem filterPassing_drop (ts1 ts2 : List Trans) (t : Trans)
    (hfalse : guardOk m cfg env t.guard = .ok false)
    (hts : ∀ t' ∈ ts1 ++ ts2, t'.tid ≠ t.tid) {c c' : GCache} (h : AgreeExcept t.tid c c')
    (hcache : ∀ kv, c.find? (fun kv => kv.1 = t.tid) = some kv → kv.2 = false) :
    SameRun t.tid (filterPassing m cfg env src (ts1 ++ t :: ts2) c)
      (filterPassing m cfg env src (ts1 ++ ts2) c') := by
  induction ts1 generalizing c c' with
  | nil =>
    -- the dropped candidate: verdict false, cache grows at most by its own entry
    have hp : ∃ c1, passes m cfg env c t = .ok (false, c1) ∧ AgreeExcept t.tid c1 c := by
      unfold passes
      cases hf : c.find? (fun kv => kv.1 = t.tid) with
      | some kv => obtain ⟨k0, b0⟩ := kv; cases hcache _ hf; exact ⟨c, rfl, .refl _ _⟩
      | none => rw [hfalse]; exact ⟨_, rfl, .snoc_left _ _ _⟩
    obtain ⟨c1, hp, h1⟩ := hp
    rw [List.nil_append, filterPassing, hp]
    have := filterPassing_sameRun m cfg env src t.tid ts2 hts (h1.trans h)
    revert this
    show SameRun _ (filterPassing m cfg env src ts2 c1) _ → SameRun _ (filterPassing m cfg env src ts2 c1 >>= _) _
    cases filterPassing m cfg env src ts2 c1 with
    | error e => exact id
    | ok r => exact id
  | cons x ts1 ih =>
    have hx : x.tid ≠ t.tid := hts x List.mem_cons_self
    rw [List.cons_append, List.cons_append, filterPassing, filterPassing]
    refine (passes_sameRun m cfg env t.tid x hx h).bind ?_
    intro b c1 c1' hp h1
    refine (ih (fun t' ht' => hts t' (List.mem_cons_of_mem _ ht')) h1 ?_).bind ?_
    · rw [passes_find m cfg env t.tid x hx hp]; exact hcache
    · intro rest c2 c2' _ h2
      exact ⟨rfl, h2⟩

end Filter

end XSM

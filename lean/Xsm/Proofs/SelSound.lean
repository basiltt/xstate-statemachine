import Xsm.Proofs.Run
/-
The upward walk of `collectEligible`, and soundness of selection.

Which transitions the walk consults, and in which order, is decided by descriptors and `forbidden`
flags alone; guards only filter. `chainSpec g` is the walk relative to a guard oracle `g`. With the
oracle that lets everything pass it lists the candidates consulted, and the walk is one guard-filter
over that list, threading the cache (`collectChain_eq`). What is proved about the walk afterwards
is proved about that list.
-/
namespace XSM
open Spec

def allTrans (d : StateDef) : List Trans :=
  d.on.flatMap (·.2) ++ (match d.onDone with | some t => [t] | none => []) ++
    d.after.flatMap (·.2) ++ d.invoke.flatMap (fun i => i.onDone ++ i.onError)

def Declared (m : Machine) (c : Cand) : Prop := ∃ d, m.defAt c.src = some d ∧ c.t ∈ allTrans d

def lookupOn (d : StateDef) (key : String) : List Trans :=
  ((d.on.find? (fun kv => kv.1 = key)).map (·.2)).getD []

theorem lookupOn_sub (d : StateDef) (key : String) : ∀ t ∈ lookupOn d key, t ∈ d.on.flatMap (·.2) := by
  intro t ht
  unfold lookupOn at ht
  cases hf : d.on.find? (fun kv => kv.1 = key) with
  | none => simp [hf] at ht
  | some kv =>
    simp only [hf, Option.map_some, Option.getD_some] at ht
    exact List.mem_flatMap.2 ⟨kv, List.mem_of_find?_eq_some hf, ht⟩

theorem mem_allTrans_on {d : StateDef} {t : Trans} (h : t ∈ d.on.flatMap (·.2)) : t ∈ allTrans d := by
  simp only [allTrans, List.mem_append]; exact Or.inl (Or.inl (Or.inl h))

def enabledAt (g : Trans → Bool) (src : Path) (ts : List Trans) : List Cand :=
  (ts.filter g).map (fun t => { src := src, t := t })

theorem enabledAt_cons (g : Trans → Bool) (src : Path) (t : Trans) (ts : List Trans) :
    enabledAt g src (t :: ts) = (if g t then [{ src := src, t := t }] else []) ++ enabledAt g src ts := by
  simp only [enabledAt, List.filter_cons]
  cases g t <;> simp

theorem enabledAt_append (g : Trans → Bool) (src : Path) (a b : List Trans) :
    enabledAt g src (a ++ b) = enabledAt g src a ++ enabledAt g src b := by
  simp [enabledAt]

theorem enabledAt_src {g : Trans → Bool} {src : Path} {ts : List Trans} {c : Cand}
    (h : c ∈ enabledAt g src ts) : c.src = src ∧ c.t ∈ ts ∧ g c.t = true := by
  simp only [enabledAt, List.mem_map, List.mem_filter] at h
  obtain ⟨t, ⟨h1, h2⟩, rfl⟩ := h
  exact ⟨rfl, h1, h2⟩

theorem enabledAt_true_map_t (src : Path) (ts : List Trans) :
    (enabledAt (fun _ => true) src ts).map (·.t) = ts := by
  simp [enabledAt, Function.comp_def, List.filter_eq_self.2]

theorem enabledAt_filter (g : Trans → Bool) (src : Path) (ts : List Trans) :
    (enabledAt (fun _ => true) src ts).filter (fun c => g c.t) = enabledAt g src ts := by
  simp [enabledAt, List.filter_map, Function.comp_def]

/-- one key's list: candidates in declaration order up to the first forbidden transition, and
    whether one was met -/
def walkSpec (g : Trans → Bool) (src : Path) : List Trans → List Cand × Bool
  | [] => ([], false)
  | t :: rest =>
    if t.forbidden then ([], true)
    else ((if g t then [{ src := src, t := t }] else []) ++ (walkSpec g src rest).1, (walkSpec g src rest).2)

theorem walkSpec_append (g : Trans → Bool) (src : Path) (a b : List Trans) :
    walkSpec g src (a ++ b) =
      if (walkSpec g src a).2 then walkSpec g src a
      else ((walkSpec g src a).1 ++ (walkSpec g src b).1, (walkSpec g src b).2) := by
  induction a with
  | nil => simp [walkSpec]
  | cons t a ih =>
    simp only [List.cons_append, walkSpec]
    by_cases hf : t.forbidden = true
    · simp [hf]
    · simp only [hf, if_false, Bool.false_eq_true]
      rw [ih]
      by_cases hb : (walkSpec g src a).2 = true
      · simp [hb]
      · simp [hb]

theorem walkSpec_eq (g : Trans → Bool) (src : Path) (ts : List Trans) :
    walkSpec g src ts =
      (enabledAt g src (ts.takeWhile (fun t => !t.forbidden)), ts.any (fun t => t.forbidden)) := by
  induction ts with
  | nil => rfl
  | cons t ts ih =>
    simp only [walkSpec, List.takeWhile_cons, List.any_cons]
    by_cases hf : t.forbidden = true
    · simp [hf, enabledAt]
    · simp only [hf, if_false, Bool.false_eq_true] at *
      simp only [Bool.not_false, if_true, Bool.false_or, enabledAt_cons, ih]

/-- the `on` transitions consulted at a state for an event, most specific descriptor first -/
def onTrans (d : StateDef) (keys : List String) : List Trans := keys.flatMap (lookupOn d)

theorem onTrans_sub (d : StateDef) (keys : List String) : ∀ t ∈ onTrans d keys, t ∈ d.on.flatMap (·.2) := by
  intro t ht
  simp only [onTrans, List.mem_flatMap] at ht
  obtain ⟨key, _, ht⟩ := ht
  exact lookupOn_sub d key t ht

/-- the transitions of the non-`on` buckets consulted at a state, in the order they are tried:
    eventless (only for an ordinary event), `onDone`, `after`, invoke handlers -/
def bucketTrans (d : StateDef) (ev : Ev) (isTransientCheck : Bool) : List Trans :=
  (if isTransientCheck then lookupOn d "" else []) ++
  ((match d.onDone with
    | some t => if t.event = ev.type then [t] else []
    | none => []) ++
  ((match ev with
    | .after _ => (d.after.flatMap (·.2)).filter (fun t => t.event = ev.type)
    | _ => []) ++
  (match ev with
    | .done _ src =>
      (d.invoke.filter (fun i => i.id = src)).flatMap
        (fun i => (i.onDone ++ i.onError).filter (fun t => t.event = ev.type))
    | _ => [])))

theorem bucketTrans_sub (d : StateDef) (ev : Ev) (b : Bool) : ∀ t ∈ bucketTrans d ev b, t ∈ allTrans d := by
  intro t ht
  simp only [bucketTrans, List.mem_append] at ht
  simp only [allTrans, List.mem_append]
  rcases ht with ht | ht | ht | ht
  · split at ht
    · exact Or.inl (Or.inl (Or.inl (lookupOn_sub d "" t ht)))
    · cases ht
  · split at ht
    · rename_i t' hod
      split at ht
      · exact Or.inl (Or.inl (Or.inr ht))
      · cases ht
    · cases ht
  · split at ht
    · exact Or.inl (Or.inr (List.mem_filter.1 ht).1)
    · cases ht
  · split at ht
    · obtain ⟨i, hi, ht2⟩ := List.mem_flatMap.1 ht
      exact Or.inr (List.mem_flatMap.2 ⟨i, (List.mem_filter.1 hi).1, (List.mem_filter.1 ht2).1⟩)
    · cases ht

/-- the `on` part of one state: nothing for the explicit eventless event, otherwise the matching
    descriptors' lists walked in order up to the first forbidden transition -/
def onPart (g : Trans → Bool) (cur : Path) (d : StateDef) (ev : Ev) (iet : Bool) : List Cand × Bool :=
  if iet then ([], false)
  else walkSpec g cur (onTrans d (matchingDescriptors (d.on.map (·.1)) ev.type))

/-- what one state on the chain contributes, and whether the upward walk stops there: its `on`
    candidates, then — unless a forbidden transition blocked — the eventless / `onDone` / `after` /
    invoke buckets -/
def nodeSpec (g : Trans → Bool) (m : Machine) (ev : Ev) (itc iet : Bool) (cur : Path) : List Cand × Bool :=
  match m.defAt cur with
  | none => ([], true)
  | some d =>
    if (onPart g cur d ev iet).2 then ((onPart g cur d ev iet).1, true)
    else ((onPart g cur d ev iet).1 ++ enabledAt g cur (bucketTrans d ev itc), false)

theorem nodeSpec_none {g : Trans → Bool} {m : Machine} {ev : Ev} {itc iet : Bool} {cur : Path}
    (hd : m.defAt cur = none) : nodeSpec g m ev itc iet cur = ([], true) := by
  simp only [nodeSpec, hd]

theorem nodeSpec_some {g : Trans → Bool} {m : Machine} {ev : Ev} {itc iet : Bool} {cur : Path} {d : StateDef}
    (hd : m.defAt cur = some d) : nodeSpec g m ev itc iet cur =
      if (onPart g cur d ev iet).2 then ((onPart g cur d ev iet).1, true)
      else ((onPart g cur d ev iet).1 ++ enabledAt g cur (bucketTrans d ev itc), false) := by
  simp only [nodeSpec, hd]

/-- the eligible list of the walk along `chain`: node contributions concatenated from the leaf upward,
    stopping after a node that blocks -/
def chainSpec (g : Trans → Bool) (m : Machine) (ev : Ev) (itc iet : Bool) : List Path → List Cand
  | [] => []
  | cur :: ups =>
    if (nodeSpec g m ev itc iet cur).2 then (nodeSpec g m ev itc iet cur).1
    else (nodeSpec g m ev itc iet cur).1 ++ chainSpec g m ev itc iet ups

section chain
variable {g : Trans → Bool} {m : Machine} {ev : Ev} {itc iet : Bool}

theorem onPart_src {cur : Path} {d : StateDef} {c : Cand} (h : c ∈ (onPart g cur d ev iet).1) :
    c.src = cur ∧ g c.t = true ∧ c.t ∈ allTrans d := by
  unfold onPart at h
  split at h
  · cases h
  · rw [walkSpec_eq] at h
    obtain ⟨h1, h2, h3⟩ := enabledAt_src h
    exact ⟨h1, h3, mem_allTrans_on (onTrans_sub d _ _ ((List.takeWhile_sublist _).subset h2))⟩

theorem nodeSpec_src {cur : Path} {c : Cand} (h : c ∈ (nodeSpec g m ev itc iet cur).1) :
    c.src = cur ∧ g c.t = true ∧ ∃ d, m.defAt cur = some d ∧ c.t ∈ allTrans d := by
  cases hd : m.defAt cur with
  | none => rw [nodeSpec_none hd] at h; cases h
  | some d =>
    rw [nodeSpec_some hd] at h
    have bucket : c ∈ enabledAt g cur (bucketTrans d ev itc) → c.src = cur ∧ g c.t = true ∧ c.t ∈ allTrans d :=
      fun h => ⟨(enabledAt_src h).1, (enabledAt_src h).2.2, bucketTrans_sub d ev itc _ (enabledAt_src h).2.1⟩
    have : c.src = cur ∧ g c.t = true ∧ c.t ∈ allTrans d := by
      split at h
      · exact onPart_src h
      · exact (List.mem_append.1 h).elim onPart_src bucket
    exact ⟨this.1, this.2.1, d, rfl, this.2.2⟩

theorem mem_chainSpec {c : Cand} : ∀ {chain : List Path}, c ∈ chainSpec g m ev itc iet chain →
    ∃ cur ∈ chain, c ∈ (nodeSpec g m ev itc iet cur).1
  | [], h => by cases h
  | cur :: ups, h => by
    have here : c ∈ (nodeSpec g m ev itc iet cur).1 → ∃ p ∈ cur :: ups, c ∈ (nodeSpec g m ev itc iet p).1 :=
      fun h => ⟨cur, List.mem_cons_self, h⟩
    simp only [chainSpec] at h
    split at h
    · exact here h
    · rcases List.mem_append.1 h with h | h
      · exact here h
      · obtain ⟨p, hp, hc⟩ := mem_chainSpec h
        exact ⟨p, List.mem_cons_of_mem _ hp, hc⟩

theorem chainSpec_sound {chain : List Path} {c : Cand} (h : c ∈ chainSpec g m ev itc iet chain) :
    c.src ∈ chain ∧ Declared m c := by
  obtain ⟨cur, hcur, hc⟩ := mem_chainSpec h
  obtain ⟨h1, _, d, hd, ht⟩ := nodeSpec_src hc
  exact ⟨h1 ▸ hcur, d, h1 ▸ hd, ht⟩

theorem chainSpec_antitone : ∀ {chain : List Path}, chain.Pairwise (fun a b => b.length ≤ a.length) →
    (chainSpec g m ev itc iet chain).Pairwise (fun a b => b.src.length ≤ a.src.length)
  | [], _ => List.Pairwise.nil
  | cur :: ups, hch => by
    have hnode : (nodeSpec g m ev itc iet cur).1.Pairwise (fun a b => b.src.length ≤ a.src.length) :=
      List.pairwise_of_forall_mem_list fun a ha b hb => by
        rw [(nodeSpec_src ha).1, (nodeSpec_src hb).1]; exact Nat.le_refl _
    simp only [chainSpec]
    split
    · exact hnode
    · refine List.pairwise_append.2 ⟨hnode, chainSpec_antitone (List.Pairwise.of_cons hch), ?_⟩
      intro a ha b hb
      rw [(nodeSpec_src ha).1]
      exact List.rel_of_pairwise_cons hch (chainSpec_sound hb).1

theorem nodeSpec_filter (g : Trans → Bool) (cur : Path) :
    nodeSpec g m ev itc iet cur =
      ((nodeSpec (fun _ => true) m ev itc iet cur).1.filter (fun c => g c.t),
        (nodeSpec (fun _ => true) m ev itc iet cur).2) := by
  cases hd : m.defAt cur with
  | none => simp [nodeSpec_none hd]
  | some d =>
    have hon : onPart g cur d ev iet =
        ((onPart (fun _ => true) cur d ev iet).1.filter (fun c => g c.t),
          (onPart (fun _ => true) cur d ev iet).2) := by
      cases iet <;> simp [onPart, walkSpec_eq, enabledAt_filter]
    rw [nodeSpec_some hd, nodeSpec_some hd, hon]
    cases (onPart (fun _ => true) cur d ev iet).2 <;> simp [enabledAt_filter]

theorem chainSpec_filter (g : Trans → Bool) : ∀ chain : List Path,
    chainSpec g m ev itc iet chain =
      (chainSpec (fun _ => true) m ev itc iet chain).filter (fun c => g c.t)
  | [] => rfl
  | cur :: ups => by
    simp only [chainSpec]
    rw [nodeSpec_filter g cur, chainSpec_filter g ups]
    cases (nodeSpec (fun _ => true) m ev itc iet cur).2 <;> simp

end chain

/-- guard-filter a list of candidates front to back, threading the cache -/
def passAll (m : Machine) (cfg : List Path) (env : GEnv) : List Cand → CProd
  | [], c => .ok ([], c)
  | x :: xs, c =>
    match passes m cfg env c x.t with
    | .error e => .error e
    | .ok (b, c1) =>
      match passAll m cfg env xs c1 with
      | .error e => .error e
      | .ok (rest, c2) => .ok ((if b then [x] else []) ++ rest, c2)

def withFlag (b : Bool) : Except GErr (List Cand × GCache) → Except GErr (List Cand × Bool × GCache)
  | .error e => .error e
  | .ok (cs, c) => .ok (cs, b, c)

section walk
variable (m : Machine) (cfg : List Path) (env : GEnv)

theorem passAll_append (xs ys : List Cand) :
    passAll m cfg env (xs ++ ys) = seqC (passAll m cfg env xs) (passAll m cfg env ys) := by
  funext c
  induction xs generalizing c with
  | nil =>
    simp only [List.nil_append, seqC, passAll]
    cases passAll m cfg env ys c with
    | error e => rfl
    | ok r => rfl
  | cons x xs ih =>
    simp only [List.cons_append, passAll, seqC]
    cases passes m cfg env c x.t with
    | error e => rfl
    | ok r =>
      simp only [ih r.2, seqC]
      cases passAll m cfg env xs r.2 with
      | error e => rfl
      | ok r1 =>
        simp only
        cases passAll m cfg env ys r1.2 with
        | error e => rfl
        | ok r2 => simp only [List.append_assoc]

theorem filterPassing_eq_passAll (src : Path) (ts : List Trans) :
    filterPassing m cfg env src ts = passAll m cfg env (enabledAt (fun _ => true) src ts) := by
  funext c
  induction ts generalizing c with
  | nil => rfl
  | cons t ts ih =>
    simp only [filterPassing, enabledAt_cons, if_true, List.singleton_append, passAll, bind, Except.bind]
    cases passes m cfg env c t with
    | error e => rfl
    | ok r =>
      simp only [ih r.2]
      cases passAll m cfg env (enabledAt (fun _ => true) src ts) r.2 with
      | error e => rfl
      | ok r1 => rfl

theorem walk_eq (src : Path) (ts : List Trans) (c : GCache) :
    onCands.walk m cfg env src ts c =
      withFlag (walkSpec (fun _ => true) src ts).2 (passAll m cfg env (walkSpec (fun _ => true) src ts).1 c) := by
  induction ts generalizing c with
  | nil => rfl
  | cons t ts ih =>
    rw [onCands.walk.eq_2]
    simp only [walkSpec]
    cases t.forbidden with
    | true => rfl
    | false =>
      simp only [Bool.false_eq_true, if_false, if_true, List.singleton_append, passAll, bind, Except.bind]
      cases passes m cfg env c t with
      | error e => rfl
      | ok r =>
        simp only [ih r.2]
        cases passAll m cfg env (walkSpec (fun _ => true) src ts).1 r.2 with
        | error e => rfl
        | ok r1 => rfl

theorem onCands_eq (src : Path) (d : StateDef) (ev : Ev) (keys : List String) (c : GCache) :
    onCands m cfg env src d ev keys c =
      withFlag (walkSpec (fun _ => true) src (onTrans d keys)).2
        (passAll m cfg env (walkSpec (fun _ => true) src (onTrans d keys)).1 c) := by
  induction keys generalizing c with
  | nil => rfl
  | cons key keys ih =>
    rw [onCands.eq_2]
    have hon : onTrans d (key :: keys) = lookupOn d key ++ onTrans d keys := List.flatMap_cons
    rw [hon, walkSpec_append]
    change (onCands.walk m cfg env src (lookupOn d key) c >>= _) = _
    rw [walk_eq]
    cases hb : (walkSpec (fun _ => true) src (lookupOn d key)).2 with
    | true =>
      simp only [if_true, hb]
      cases passAll m cfg env (walkSpec (fun _ => true) src (lookupOn d key)).1 c with
      | error e => rfl
      | ok r => rfl
    | false =>
      simp only [Bool.false_eq_true, if_false, passAll_append, seqC]
      cases passAll m cfg env (walkSpec (fun _ => true) src (lookupOn d key)).1 c with
      | error e => rfl
      | ok r =>
        simp only [withFlag, bind, Except.bind, Bool.false_eq_true, if_false, ih r.2]
        cases passAll m cfg env (walkSpec (fun _ => true) src (onTrans d keys)).1 r.2 with
        | error e => rfl
        | ok r1 => rfl

theorem nodeBuckets_eq (cur : Path) (d : StateDef) (ev : Ev) (itc : Bool) :
    nodeBuckets m cfg env cur d ev itc = passAll m cfg env (enabledAt (fun _ => true) cur (bucketTrans d ev itc)) := by
  have fp := filterPassing_eq_passAll m cfg env cur
  have none : cNone = passAll m cfg env (enabledAt (fun _ => true) cur []) := rfl
  unfold nodeBuckets bucketTrans
  simp only [enabledAt_append, passAll_append]
  congr 1
  · cases itc
    · exact none
    · exact fp _
  congr 1
  · cases d.onDone with
    | none => exact none
    | some t => dsimp only; split
                · exact fp _
                · exact none
  congr 1
  · cases ev <;> first | exact none | exact fp _
  · cases ev <;> first | exact none | exact fp _

theorem collectChain_eq (ev : Ev) (itc iet : Bool) (chain : List Path) (c : GCache) :
    collectChain m cfg env ev itc iet chain c =
      passAll m cfg env (chainSpec (fun _ => true) m ev itc iet chain) c := by
  induction chain generalizing c with
  | nil => rfl
  | cons cur ups ih =>
    simp only [collectChain, chainSpec]
    cases hd : m.defAt cur with
    | none => simp only [nodeSpec_none hd, if_true]; rfl
    | some d =>
      simp only [nodeSpec_some hd, onPart, nodeBuckets_eq, funext ih]
      cases iet with
      | true =>
        simp only [if_true, Bool.false_eq_true, if_false, List.nil_append, passAll_append]
        cases seqC _ _ c with
        | error e => rfl
        | ok r => rfl
      | false =>
        simp only [Bool.false_eq_true, if_false, onCands_eq]
        cases (walkSpec (fun _ => true) cur (onTrans d (matchingDescriptors (d.on.map (·.1)) ev.type))).2 with
        | true =>
          simp only [if_true]
          cases passAll m cfg env _ c with
          | error e => rfl
          | ok r => rfl
        | false =>
          simp only [Bool.false_eq_true, if_false, List.append_assoc, passAll_append]
          simp only [seqC]
          cases passAll m cfg env _ c with
          | error e => rfl
          | ok r => rfl

end walk

section sound
variable {m : Machine} {cfg : List Path} {env : GEnv}

theorem passAll_cons_ok {x : Cand} {xs out : List Cand} {c c2 : GCache}
    (h : passAll m cfg env (x :: xs) c = .ok (out, c2)) :
    ∃ b c1 rest, passes m cfg env c x.t = .ok (b, c1) ∧ passAll m cfg env xs c1 = .ok (rest, c2) ∧
      out = (if b then [x] else []) ++ rest := by
  simp only [passAll] at h
  cases hp : passes m cfg env c x.t with
  | error e => simp [hp] at h
  | ok r =>
    cases hr : passAll m cfg env xs r.2 with
    | error e => simp [hp, hr] at h
    | ok r1 =>
      simp only [hp, hr, Except.ok.injEq, Prod.mk.injEq] at h
      obtain ⟨rfl, rfl⟩ := h
      exact ⟨r.1, r.2, r1.1, rfl, hr, rfl⟩

theorem passAll_sublist : ∀ {xs out : List Cand} {c c1 : GCache},
    passAll m cfg env xs c = .ok (out, c1) → out.Sublist xs
  | [], _, _, _, h => by
    simp only [passAll, Except.ok.injEq, Prod.mk.injEq] at h
    obtain ⟨rfl, _⟩ := h
    exact List.Sublist.refl _
  | x :: xs, _, _, _, h => by
    obtain ⟨b, _, rest, _, hr, rfl⟩ := passAll_cons_ok h
    cases b
    · exact (passAll_sublist hr).cons x
    · exact (passAll_sublist hr).cons_cons x

variable {ev : Ev} {itc iet : Bool} {chain : List Path} {c0 c1 : GCache} {out : List Cand}

theorem collectChain_sublist (h : collectChain m cfg env ev itc iet chain c0 = .ok (out, c1)) :
    out.Sublist (chainSpec (fun _ => true) m ev itc iet chain) :=
  passAll_sublist (collectChain_eq m cfg env ev itc iet chain c0 ▸ h)

theorem collectChain_sound (h : collectChain m cfg env ev itc iet chain c0 = .ok (out, c1)) :
    ∀ c ∈ out, c.src ∈ chain ∧ Declared m c :=
  fun _ hc => chainSpec_sound ((collectChain_sublist h).subset hc)

end sound

theorem chainUp_lengths (p : Path) : (chainUp p).Pairwise (fun a b => b.length < a.length) := by
  simp only [chainUp, List.pairwise_map]
  refine List.Pairwise.imp_of_mem ?_ (List.pairwise_lt_range (n := p.length + 1))
  intro i j hi hj hij
  simp only [List.mem_range] at hi hj
  simp only [List.length_take]
  omega

/-- the flags `_collect_eligible_transitions` derives from the event name -/
def itcOf (ev : Ev) : Bool := !(Tables.nonTransientPrefixes.any (fun p => sStartsWith ev.type p))
def ietOf (ev : Ev) : Bool := decide (ev.type = "")

theorem collectEligible_eq (m : Machine) (cfg : List Path) (env : GEnv) (leaf : Path) (ev : Ev) (c : GCache) :
    collectEligible m cfg env leaf ev c = collectChain m cfg env ev (itcOf ev) (ietOf ev) (chainUp leaf) c := rfl


/-- the fold inside `firstMaxBy` -/
def fmFold (f : Cand → Nat) (b : Cand) (ys : List Cand) : Cand :=
  ys.foldl (fun best y => if f y > f best then y else best) b

theorem firstMaxBy_cons (f : Cand → Nat) (x : Cand) (xs : List Cand) :
    firstMaxBy f (x :: xs) = some (fmFold f x xs) := rfl

theorem fmFold_cons (f : Cand → Nat) (b y : Cand) (ys : List Cand) :
    fmFold f b (y :: ys) = fmFold f (if f y > f b then y else b) ys := rfl

theorem fmFold_keep (f : Cand → Nat) : ∀ (ys : List Cand) (b : Cand),
    (∀ y ∈ ys, f y ≤ f b) → fmFold f b ys = b
  | [], _, _ => rfl
  | y :: ys, b, h => by
    rw [fmFold_cons, if_neg (Nat.not_lt.2 (h y List.mem_cons_self))]
    exact fmFold_keep f ys b (fun z hz => h z (List.mem_cons_of_mem _ hz))

theorem firstMaxBy_head_of_antitone (f : Cand → Nat) (l : List Cand)
    (h : l.Pairwise (fun a b => f b ≤ f a)) : firstMaxBy f l = l.head? := by
  cases l with
  | nil => rfl
  | cons x xs =>
    rw [firstMaxBy_cons, List.head?_cons, fmFold_keep f xs x (fun y hy => List.rel_of_pairwise_cons h hy)]

section select
variable {m : Machine} {cfg : List Path} {env : GEnv} {ev : Ev}

theorem collectEligible_antitone {leaf : Path} {c0 c1 : GCache} {elig : List Cand}
    (h : collectEligible m cfg env leaf ev c0 = .ok (elig, c1)) :
    elig.Pairwise (fun a b => b.src.length ≤ a.src.length) :=
  (chainSpec_antitone ((chainUp_lengths leaf).imp Nat.le_of_lt)).sublist
    (collectChain_sublist (collectEligible_eq .. ▸ h))

theorem collectEligible_winner {leaf : Path} {c0 c1 : GCache} {elig : List Cand}
    (h : collectEligible m cfg env leaf ev c0 = .ok (elig, c1)) :
    firstMaxBy (fun x => x.src.length) elig = elig.head? :=
  firstMaxBy_head_of_antitone _ _ (collectEligible_antitone h)

/-- what one leaf does to the accumulator of `selectLoop`: its winner is appended unless a candidate
    with the same identity is already there -/
def pickInto (acc elig : List Cand) : List Cand :=
  match firstMaxBy (fun x => x.src.length) elig with
  | none => acc
  | some w => if acc.any (fun x => x.t.tid = w.t.tid) then acc else acc ++ [w]

theorem selectLoop_cons (leaf : Path) (ls : List Path) (c : GCache) (acc : List Cand) :
    selectLoop m cfg env ev (leaf :: ls) c acc =
      match collectEligible m cfg env leaf ev c with
      | .error e => .error e
      | .ok (elig, c1) => selectLoop m cfg env ev ls c1 (pickInto acc elig) := by
  rw [selectLoop]
  cases collectEligible m cfg env leaf ev c with
  | error e => rfl
  | ok r =>
    simp only [pickInto]
    cases firstMaxBy (fun x => x.src.length) r.1 with
    | none => rfl
    | some w => exact (apply_ite (selectLoop m cfg env ev ls r.2) _ _ _).symm

theorem mem_pickInto {acc elig : List Cand} {x : Cand} (h : x ∈ pickInto acc elig) :
    x ∈ acc ∨ firstMaxBy (fun x => x.src.length) elig = some x := by
  unfold pickInto at h
  cases hw : firstMaxBy (fun x => x.src.length) elig with
  | none => simp only [hw] at h; exact Or.inl h
  | some w =>
    simp only [hw] at h
    split at h
    · exact Or.inl h
    · exact (List.mem_append.1 h).imp id fun h => congrArg some (List.mem_singleton.1 h).symm

theorem selectLoop_mem : ∀ (leaves : List Path) (c0 : GCache) (acc sel : List Cand),
    selectLoop m cfg env ev leaves c0 acc = .ok sel →
      ∀ c ∈ sel, c ∈ acc ∨ ∃ leaf ∈ leaves, ∃ c0 elig c1,
        collectEligible m cfg env leaf ev c0 = .ok (elig, c1) ∧ elig.head? = some c
  | [], _, _, _, h, c, hc => by
    simp only [selectLoop, Except.ok.injEq] at h
    exact Or.inl (h ▸ hc)
  | leaf :: ls, c0, acc, sel, h, c, hc => by
    rw [selectLoop_cons] at h
    cases hce : collectEligible m cfg env leaf ev c0 with
    | error e => rw [hce] at h; cases h
    | ok r =>
      rw [hce] at h
      rcases selectLoop_mem ls r.2 _ sel h c hc with h1 | ⟨l, hl, hx⟩
      · exact (mem_pickInto h1).imp id fun hw =>
          ⟨leaf, List.mem_cons_self, c0, r.1, r.2, hce, collectEligible_winner hce ▸ hw⟩
      · exact Or.inr ⟨l, List.mem_cons_of_mem _ hl, hx⟩

end select

theorem mem_leavesSorted {m : Machine} {cfg : List Path} {p : Path} (h : p ∈ leavesSorted m cfg) : p ∈ cfg := by
  simp only [leavesSorted] at h
  rw [mem_sortBy] at h
  split at h
  · exact h
  · exact (List.mem_filter.1 h).1

theorem selectTransitions_mem {m : Machine} {cfg : List Path} {env : GEnv} {ev : Ev} {sel : List Cand}
    (h : selectTransitions m cfg env ev = .ok sel) :
    ∀ c ∈ sel, ∃ leaf ∈ leavesSorted m cfg, ∃ c0 elig c1,
      collectEligible m cfg env leaf ev c0 = .ok (elig, c1) ∧ elig.head? = some c := by
  intro c hc
  simp only [selectTransitions] at h
  cases hl : selectLoop m cfg env ev (leavesSorted m cfg) [] [] with
  | error e => simp [hl] at h
  | ok sel0 =>
    simp only [hl, Except.ok.injEq] at h
    subst h
    rw [mem_sortBy] at hc
    exact (selectLoop_mem _ [] [] sel0 hl c hc).resolve_left List.not_mem_nil

/-- **selection soundness**: a selected transition is declared on its source, and its source is an
    ancestor-or-self of an active state -/
theorem selectTransitions_sound (m : Machine) (cfg : List Path) (env : GEnv) (ev : Ev) (sel : List Cand)
    (h : selectTransitions m cfg env ev = .ok sel) :
    ∀ c ∈ sel, Declared m c ∧ ∃ q ∈ cfg, c.src <+: q := by
  intro c hc
  obtain ⟨leaf, hleaf, c0, elig, c1, hce, hh⟩ := selectTransitions_mem h c hc
  obtain ⟨h1, h2⟩ := collectChain_sound (collectEligible_eq .. ▸ hce) c (List.mem_of_mem_head? (hh ▸ rfl))
  exact ⟨h2, leaf, mem_leavesSorted hleaf, mem_chainUp_iff.1 h1⟩

/-- machine-level hypothesis: every declared transition is target-less, has a resolvable plain target,
    or targets the root -/
def TargetsOK (m : Machine) : Prop :=
  ∀ (p : Path) (d : StateDef) (t : Trans), m.defAt p = some d → t ∈ allTrans d → CandOK m ⟨p, t⟩

/-- the stricter machine-level hypothesis: no transition targets the root either -/
def TargetsPlain (m : Machine) : Prop :=
  ∀ (p : Path) (d : StateDef) (t : Trans), m.defAt p = some d → t ∈ allTrans d → CandPlain m ⟨p, t⟩

theorem selSoundPlain_of_targetsPlain (m : Machine) (h : TargetsPlain m) : SelSoundPlain m := by
  intro cfg env ev sel _ hs c hc
  obtain ⟨⟨d, hd, ht⟩, hq⟩ := selectTransitions_sound m cfg env ev sel hs c hc
  exact ⟨h c.src d c.t hd ht, hq⟩

theorem selSound_of_targetsOK (m : Machine) (h : TargetsOK m) : SelSound m := by
  intro cfg env ev sel _ hs c hc
  obtain ⟨⟨d, hd, ht⟩, hq⟩ := selectTransitions_sound m cfg env ev sel hs c hc
  exact ⟨h c.src d c.t hd ht, hq⟩

end XSM

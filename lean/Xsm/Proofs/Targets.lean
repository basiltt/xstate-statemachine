import Xsm.Model.Resolve
import Xsm.Proofs.Guard
/-!
Helper lemmas for property C18, part 2: target spellings through `resolveTarget`
(`resolver.resolve_target_state`) and `resolveRobust` (the engines' multi-stage resolution).
-/
namespace XSM

theorem SNode.at_split (n : SNode) (a b : Path) (h : (n.at (a ++ b)).isSome) :
    ∃ c, n.at a = some c ∧ (c.at b).isSome := by
  rw [SNode.at_append] at h
  cases hna : n.at a with
  | none => simp [hna] at h
  | some c => exact ⟨c, rfl, by simpa [hna] using h⟩

theorem SNode.at_prefix (n : SNode) (a b : Path) (h : (n.at (a ++ b)).isSome) : (n.at a).isSome := by
  obtain ⟨c, hc, _⟩ := n.at_split a b h
  rw [hc]; rfl

theorem descend_eq (n : SNode) (base segs : Path) :
    descend n base segs = if (n.at segs).isSome then some (base ++ segs) else none := by
  unfold descend; cases n.at segs <;> rfl

/-- a key usable in every target spelling: non-empty, no `'.'`, not starting with `'#'` -/
def GoodKey (k : String) : Prop := k.toList ≠ [] ∧ '.' ∉ k.toList ∧ k.toList.head? ≠ some '#'

/-- the characters of a dotted relative path `k1.k2.….kn` -/
def relL : Path → List Char
  | [] => []
  | [k] => k.toList
  | k :: ks => k.toList ++ '.' :: relL ks

/-- the dotted relative path `k1.k2.….kn` as a string -/
def relStr (rel : Path) : String := String.ofList (relL rel)

theorem relStr_toList (rel : Path) : (relStr rel).toList = relL rel := by simp [relStr]

theorem splitDotL_relL (rel : Path) (hne : rel ≠ []) (hd : ∀ k ∈ rel, '.' ∉ k.toList) :
    splitDotL (relL rel) = rel.map String.toList := by
  induction rel with
  | nil => exact absurd rfl hne
  | cons k ks ih =>
    cases ks with
    | nil => simp [relL, splitDotL_dotfree _ (hd k (by simp))]
    | cons k' ks' =>
      have : relL (k :: k' :: ks') = k.toList ++ '.' :: relL (k' :: ks') := rfl
      rw [this, splitDotL_append_dot, splitDotL_dotfree _ (hd k (by simp)),
        ih (by simp) (fun x hx => hd x (by simp [hx]))]
      simp

theorem splitDot_relStr (rel : Path) (hne : rel ≠ []) (hd : ∀ k ∈ rel, '.' ∉ k.toList) :
    splitDot (relStr rel) = rel := by
  unfold splitDot
  rw [relStr_toList, splitDotL_relL rel hne hd]
  simp

theorem relL_head (k : String) (ks : Path) (hk : k.toList ≠ []) :
    ∃ c cs, relL (k :: ks) = c :: cs ∧ k.toList.head? = some c := by
  cases hkl : k.toList with
  | nil => exact absurd hkl hk
  | cons c cs =>
    cases ks with
    | nil => exact ⟨c, cs, by simp [relL, hkl], rfl⟩
    | cons k' ks' => exact ⟨c, cs ++ '.' :: relL (k' :: ks'), by simp [relL, hkl], rfl⟩

theorem relStr_first (rel : Path) (hne : rel ≠ []) (hg : ∀ k ∈ rel, GoodKey k) :
    relStr rel ≠ "" ∧ sStartsWith (relStr rel) "#" = false ∧ sStartsWith (relStr rel) "." = false ∧ relStr rel ≠ "." := by
  obtain ⟨k, ks, rfl⟩ := List.exists_cons_of_ne_nil hne
  obtain ⟨hk1, hk2, hk3⟩ := hg k (by simp)
  obtain ⟨c, cs, hrel, hc⟩ := relL_head k ks hk1
  have hc1 : '#' ≠ c := fun e => hk3 (by rw [hc, e])
  have hc2 : '.' ≠ c := fun e => hk2 (List.mem_of_mem_head? (e ▸ hc))
  obtain ⟨h1, h2, h3, _, h5⟩ := first_char (s := relStr (k :: ks)) (by rw [relStr_toList, hrel])
  exact ⟨h1, h2.trans (beq_eq_false_iff_ne.2 hc1), h3.trans (beq_eq_false_iff_ne.2 hc2), fun e => hc2 (h5 e).1.symm⟩

theorem any_empty_false (rel : Path) (hg : ∀ k ∈ rel, k.toList ≠ []) :
    (rel.any fun x => decide (x = "")) = false := by
  rw [List.any_eq_false]
  intro k hk
  have := hg k hk
  simp only [decide_eq_true_eq]
  intro e; subst e; exact this rfl

theorem dot_prefix (t : String) (ht : t ≠ "") :
    ("." ++ t) ≠ "" ∧ sStartsWith ("." ++ t) "#" = false ∧ ("." ++ t) ≠ "." ∧
    sStartsWith ("." ++ t) "." = true ∧ sDrop ("." ++ t) 1 = t := by
  obtain ⟨h1, h2, h3, h4, h5⟩ := first_char (s := "." ++ t) (c := '.') (cs := t.toList) (by rw [String.toList_append]; rfl)
  refine ⟨h1, by simpa using h2, fun e => ht ?_, by simpa using h3, by simpa using h4⟩
  simpa using congrArg String.ofList (h5 e).2

/-- **`#<machineId>.<dotted path>`** names the state at that path, from any reference state -/
theorem resolve_abs (m : Machine) (p ref : Path) (hm : '.' ∉ m.id.toList) (hmne : m.id ≠ "")
    (hp : ∀ k ∈ p, '.' ∉ k.toList ∧ k.toList ≠ []) (hex : (m.root.at p).isSome) :
    resolveTarget m ("#" ++ m.idOf p) ref = some p := by
  obtain ⟨h1, h2, h3⟩ := hash_prefix (m.idOf p)
  have hsegs := splitDot_idTail _ _ p (idOf_toList m p) hm (fun k hk => (hp k hk).1)
  have hany := any_empty_false (m.id :: p) (List.forall_mem_cons.2
    ⟨fun e => hmne (by simpa using congrArg String.ofList e), fun k hk => (hp k hk).2⟩)
  unfold resolveTarget
  simp only [h1, if_false, h2, if_true, h3, hsegs, hany, Bool.false_eq_true, List.head?_cons, List.tail_cons]
  cases hat : m.root.at p with
  | none => simp [hat] at hex
  | some n => simp

/-- **`.<dotted path>`** (leading dot) is relative to the PARENT of the reference state -/
theorem resolve_dot (m : Machine) (ref rel : Path) (hne : rel ≠ []) (hg : ∀ k ∈ rel, GoodKey k)
    (hex : (m.root.at (parentOf ref ++ rel)).isSome) :
    resolveTarget m ("." ++ relStr rel) ref = some (parentOf ref ++ rel) := by
  obtain ⟨r1, _, _, _⟩ := relStr_first rel hne hg
  obtain ⟨h1, h2, h3, h4, h5⟩ := dot_prefix (relStr rel) r1
  have hsegs := splitDot_relStr rel hne (fun k hk => (hg k hk).2.1)
  have hany := any_empty_false rel (fun k hk => (hg k hk).1)
  unfold resolveTarget
  simp only [h1, if_false, h2, Bool.false_eq_true, h3, h4, if_true, h5, hsegs, hany]
  obtain ⟨n, hat, hn⟩ := SNode.at_split _ _ _ hex
  simp [hat, descend_eq, hn]

/-- `.` alone is the parent of the reference state (the root for the root) -/
theorem resolve_dot_alone (m : Machine) (ref : Path) : resolveTarget m "." ref = some (parentOf ref) := by
  unfold resolveTarget
  have h1 : ("." : String) ≠ "" := by decide
  have h2 : sStartsWith "." "#" = false := by decide
  simp [h1, h2]

/-- nothing between `q` and the reference state captures the plain spelling `rel`: no state strictly
below `q` on the way to `ref` has a descendant at `rel`, and none of them is keyed like a one-segment `rel` -/
def NoShadow (m : Machine) (q d rel : Path) : Prop :=
  ∀ d', d' <+: d → d' ≠ [] → m.root.at (q ++ d' ++ rel) = none ∧ ¬ (rel.length = 1 ∧ rel.head? = some (m.keyOf (q ++ d')))

theorem list_snoc_induction {α : Type} {P : List α → Prop} (hnil : P [])
    (hsnoc : ∀ l a, P l → P (l ++ [a])) (l : List α) : P l := by
  rw [← l.reverse_reverse]
  induction l.reverse with
  | nil => exact hnil
  | cons a l ih => rw [List.reverse_cons]; exact hsnoc _ _ ih

theorem go_climb (m : Machine) (q rel : Path) :
    ∀ (d : Path) (fuel : Nat), (m.root.at (q ++ d)).isSome → NoShadow m q d rel →
      resolveTarget.go m rel (fuel + d.length) (q ++ d) = resolveTarget.go m rel fuel q := by
  intro d
  induction d using list_snoc_induction with
  | hnil => intro fuel _ _; simp
  | hsnoc d0 x ih =>
    intro fuel hex hns
    have hlen : fuel + (d0 ++ [x]).length = (fuel + d0.length) + 1 := by simp; omega
    have hcur : q ++ (d0 ++ [x]) ≠ [] := by simp
    obtain ⟨hsh, hkey⟩ := hns (d0 ++ [x]) (List.prefix_refl _) (by simp)
    rw [hlen]
    conv => lhs; unfold resolveTarget.go
    cases hat : m.root.at (q ++ (d0 ++ [x])) with
    | none => simp [hat] at hex
    | some n =>
      have hnone : n.at rel = none := by
        have := hsh
        rw [SNode.at_append, hat] at this
        exact this
      have hpar : parentOf (q ++ (d0 ++ [x])) = q ++ d0 := by
        simp [parentOf, ← List.append_assoc]
      have hkey' : ¬ (rel.length = 1 ∧ rel.head? = some (m.keyOf (q ++ (d0 ++ [x])))) := hkey
      simp only [descend_eq, hnone, Option.isSome_none, Bool.false_eq_true, if_false, hkey', hcur, hpar]
      apply ih fuel
      · have : q ++ (d0 ++ [x]) = (q ++ d0) ++ [x] := by simp
        rw [this] at hex
        exact SNode.at_prefix _ _ _ hex
      · intro d' hd' hne'
        exact hns d' (hd'.trans (List.prefix_append _ _)) hne'

theorem resolveTarget_plain (m : Machine) (rel ref : Path) (hne : rel ≠ []) (hg : ∀ k ∈ rel, GoodKey k) :
    resolveTarget m (relStr rel) ref = resolveTarget.go m rel (ref.length + 1) ref := by
  obtain ⟨r1, r2, r3, r4⟩ := relStr_first rel hne hg
  have hsegs := splitDot_relStr rel hne (fun k hk => (hg k hk).2.1)
  have hany := any_empty_false rel (fun k hk => (hg k hk).1)
  unfold resolveTarget
  simp only [r1, if_false, r2, Bool.false_eq_true, r4, r3, hsegs, hany]

/-- **a plain dotted path** (in particular a sibling key) is looked up below the reference state, then
below its parent, and so on upwards ("bubbling"): it names `q ++ rel` for the nearest
ancestor-or-self `q` of the reference state below which the path exists — provided nothing nearer
captures it (`NoShadow`) -/
theorem resolve_plain (m : Machine) (q d rel : Path) (hne : rel ≠ []) (hg : ∀ k ∈ rel, GoodKey k)
    (hexq : (m.root.at (q ++ rel)).isSome) (hexr : (m.root.at (q ++ d)).isSome) (hns : NoShadow m q d rel) :
    resolveTarget m (relStr rel) (q ++ d) = some (q ++ rel) := by
  have : (q ++ d).length + 1 = (q.length + 1) + d.length := by simp; omega
  rw [resolveTarget_plain m rel _ hne hg, this, go_climb m q rel d _ hexr hns]
  unfold resolveTarget.go
  obtain ⟨n, hat, hn⟩ := SNode.at_split _ _ _ hexq
  simp [hat, descend_eq, hn]

/-- **the key of the reference state or of one of its ancestors** `q0 ++ [k]`, written as a plain target,
names that state — when nothing nearer captures it and it has no child keyed `k` itself -/
theorem resolve_key (m : Machine) (q0 : Path) (k : String) (d : Path) (hk : GoodKey k)
    (hex : (m.root.at (q0 ++ [k] ++ d)).isSome) (hns : NoShadow m (q0 ++ [k]) d [k])
    (hchild : m.root.at (q0 ++ [k] ++ [k]) = none) :
    resolveTarget m k (q0 ++ [k] ++ d) = some (q0 ++ [k]) := by
  have hrel : relStr [k] = k := by simp [relStr, relL, String.ofList_toList]
  have hp := resolveTarget_plain m [k] (q0 ++ [k] ++ d) (by simp) (by intro x hx; simp at hx; subst hx; exact hk)
  have : (q0 ++ [k] ++ d).length + 1 = ((q0 ++ [k]).length + 1) + d.length := by simp; omega
  rw [hrel] at hp
  rw [hp, this, go_climb m (q0 ++ [k]) [k] d _ hex hns]
  unfold resolveTarget.go
  obtain ⟨n, hat, _⟩ := SNode.at_split _ _ _ hex
  have hnone : n.at [k] = none := by
    rw [SNode.at_append, hat] at hchild; exact hchild
  have hkey : m.keyOf (q0 ++ [k]) = k := by simp [Machine.keyOf]
  simp [hat, descend_eq, hnone, hkey]

/-- **`#customId`** names the state that declared `id: customId` — provided the custom id is not the
machine id (the machine key is looked up first) -/
theorem resolve_custom (m : Machine) (cid : String) (p ref : Path) (hcd : '.' ∉ cid.toList) (hcne : cid.toList ≠ [])
    (hnm : cid ≠ m.id)
    (hreg : m.customIds.find? (fun kv => decide (kv.1 = cid)) = some (cid, p)) :
    resolveTarget m ("#" ++ cid) ref = some p := by
  obtain ⟨h1, h2, h3⟩ := hash_prefix cid
  have hsegs : splitDot cid = [cid] := splitDot_dotfree hcd
  have hany := any_empty_false [cid] (List.forall_mem_cons.2 ⟨hcne, by simp⟩)
  unfold resolveTarget
  simp only [h1, if_false, h2, if_true, h3, hsegs, hany, Bool.false_eq_true, List.head?_cons, List.tail_cons]
  have : ¬ (some cid = some m.id) := fun e => hnm (Option.some.inj e)
  simp [this, hreg]

/-- **`#customId.<dotted path>`**: relative to the state that declared the custom id -/
theorem resolve_custom_rel (m : Machine) (cid : String) (anchor rel ref : Path) (hcd : '.' ∉ cid.toList)
    (hcne : cid.toList ≠ []) (hnm : cid ≠ m.id) (hne : rel ≠ []) (hg : ∀ k ∈ rel, '.' ∉ k.toList ∧ k.toList ≠ [])
    (hreg : m.customIds.find? (fun kv => decide (kv.1 = cid)) = some (cid, anchor))
    (hex : (m.root.at (anchor ++ rel)).isSome) :
    resolveTarget m ("#" ++ String.ofList (cid.toList ++ idTail rel)) ref = some (anchor ++ rel) := by
  obtain ⟨h1, h2, h3⟩ := hash_prefix (String.ofList (cid.toList ++ idTail rel))
  have hsegs := splitDot_idTail _ cid rel String.toList_ofList hcd (fun k hk => (hg k hk).1)
  have hany := any_empty_false (cid :: rel) (List.forall_mem_cons.2 ⟨hcne, fun k hk => (hg k hk).2⟩)
  unfold resolveTarget
  simp only [h1, if_false, h2, if_true, h3, hsegs, hany, Bool.false_eq_true, List.head?_cons, List.tail_cons]
  have hne1 : ¬ (some cid = some m.id) := fun e => hnm (Option.some.inj e)
  obtain ⟨n, hat, hn⟩ := SNode.at_split _ _ _ hex
  simp [hne1, hreg, hne, hat, descend_eq, hn]

theorem robust_of_direct (m : Machine) (src : Path) (t : String) (p : Path)
    (h : resolveTarget m t src = some p) : resolveRobust m src t = some p := by
  unfold resolveRobust
  simp [h]

end XSM

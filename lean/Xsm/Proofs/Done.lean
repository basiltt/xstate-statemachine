import Xsm.Proofs.Run
/-
Helper lemmas for C10: `doneNode` by kind of state (`firstChild` for a compound one, `doneRegions_iff` for a parallel
one), the ancestors `checkAndFireOnDone` searches (`strictAncestors`, `firingAncestor`), `complete` and `send` on a
machine that is not running; at the end the example machines (`Ex`).
-/
namespace XSM.Done
open XSM XSM.Spec

theorem doneNode_parallel (cfg : List Path) (p : Path) (d : StateDef) (kids : List (String × SNode))
    (h : d.kind = .parallel) : doneNode cfg p (.mk d kids) = doneRegions cfg p kids := by
  simp [doneNode, h]

/-- the first active child of `p` in the order of the configuration
    (`next(s for s in self._active_state_nodes if s.parent == state_node)`) -/
def firstChild (cfg : List Path) (p : Path) : Option Path :=
  cfg.find? (fun q => q != [] && q.dropLast == p)

theorem doneNode_compound_raw (cfg : List Path) (p : Path) (d : StateDef) (kids : List (String × SNode))
    (h : d.kind = .compound) :
    doneNode cfg p (.mk d kids) =
      match firstChild cfg p with
      | some ch => doneKid cfg p (ch.getLast?.getD "") kids
      | none => false := by
  simp only [doneNode, h, firstChild]
  rfl

theorem doneKid_eq (cfg : List Path) (p : Path) (k : String) :
    ∀ kids : List (String × SNode),
      doneKid cfg p k kids =
        match findKid k kids with
        | some c => doneNode cfg (p ++ [k]) c
        | none => false := by
  intro kids
  induction kids with
  | nil => simp [doneKid, findKid]
  | cons kc rest ih =>
    obtain ⟨k', c⟩ := kc
    by_cases hk : k' = k
    · subst hk; simp [doneKid, findKid]
    · simp only [doneKid, findKid, hk, if_false]; exact ih

theorem isChild_iff (p q : Path) :
    (q != [] && q.dropLast == p) = true ↔ ∃ k, q = p ++ [k] := by
  constructor
  · intro h
    simp only [Bool.and_eq_true, bne_iff_ne, ne_eq, beq_iff_eq] at h
    obtain ⟨hne, hd⟩ := h
    refine ⟨q.getLast hne, ?_⟩
    rw [← hd]; exact (List.dropLast_concat_getLast hne).symm
  · rintro ⟨k, rfl⟩
    simp

theorem firstChild_some {cfg : List Path} {p ch : Path} (h : firstChild cfg p = some ch) :
    ch ∈ cfg ∧ ∃ k, ch = p ++ [k] ∧ ch.getLast?.getD "" = k := by
  unfold firstChild at h
  have h1 := List.mem_of_find?_eq_some h
  have h2 := List.find?_some h
  obtain ⟨k, rfl⟩ := (isChild_iff p ch).1 h2
  exact ⟨h1, k, rfl, by simp⟩

theorem firstChild_none {cfg : List Path} {p : Path} (h : firstChild cfg p = none) (k : String) :
    (p ++ [k]) ∉ cfg := by
  unfold firstChild at h
  intro hm
  have := List.find?_eq_none.1 h _ hm
  exact this ((isChild_iff p _).2 ⟨k, rfl⟩)

theorem firstChild_unique {cfg : List Path} {p : Path} {k : String} (hk : (p ++ [k]) ∈ cfg)
    (hu : ∀ k', (p ++ [k']) ∈ cfg → k' = k) : firstChild cfg p = some (p ++ [k]) := by
  cases hf : firstChild cfg p with
  | none => exact absurd hk (firstChild_none hf k)
  | some ch =>
    obtain ⟨hm, k', rfl, _⟩ := firstChild_some hf
    rw [hu k' hm]

theorem doneNode_compound_first (cfg : List Path) (p : Path) (d : StateDef) (kids : List (String × SNode))
    (h : d.kind = .compound) :
    doneNode cfg p (.mk d kids) =
      match firstChild cfg p with
      | some ch =>
        (match findKid (ch.getLast?.getD "") kids with
         | some c => doneNode cfg ch c
         | none => false)
      | none => false := by
  rw [doneNode_compound_raw cfg p d kids h]
  cases hf : firstChild cfg p with
  | none => rfl
  | some ch =>
    obtain ⟨_, k, rfl, hk⟩ := firstChild_some hf
    simp only [hk, doneKid_eq]

theorem doneNode_compound_no_child (cfg : List Path) (p : Path) (d : StateDef) (kids : List (String × SNode))
    (h : d.kind = .compound) (hn : ∀ k, (p ++ [k]) ∉ cfg) : doneNode cfg p (.mk d kids) = false := by
  rw [doneNode_compound_first cfg p d kids h]
  cases hf : firstChild cfg p with
  | none => rfl
  | some ch =>
    obtain ⟨hm, k, rfl, _⟩ := firstChild_some hf
    exact absurd hm (hn k)

theorem doneRegions_iff (cfg : List Path) (p : Path) :
    ∀ kids : List (String × SNode),
      doneRegions cfg p kids = true ↔
        ∀ kc ∈ kids, kc.2.kind ≠ .history →
          (∃ q ∈ cfg, (p ++ [kc.1]) <+: q) ∧ doneNode cfg (p ++ [kc.1]) kc.2 = true := by
  intro kids
  induction kids with
  | nil => simp [doneRegions]
  | cons kc rest ih =>
    obtain ⟨k, c⟩ := kc
    rw [doneRegions, Bool.and_eq_true, ih]
    simp only [List.mem_cons, forall_eq_or_imp]
    apply and_congr_left'
    by_cases hh : c.kind = .history
    · simp [hh]
    · have : (c.kind == Kind.history) = false := by simpa using hh
      simp [this, hh]

theorem doneRegions_filter (cfg : List Path) (p : Path) (kids : List (String × SNode)) :
    doneRegions cfg p kids = doneRegions cfg p (kids.filter (fun kc => kc.2.kind != .history)) := by
  rw [Bool.eq_iff_iff, doneRegions_iff, doneRegions_iff]
  simp only [List.mem_filter, bne_iff_ne, ne_eq]
  constructor
  · intro h kc hkc hh; exact h kc hkc.1 hh
  · intro h kc hkc hh; exact h kc ⟨hkc, hh⟩ hh

/-- `final_state.parent`, its parent, …, the root -/
def strictAncestors (fin : Path) : List Path := (chainUp fin).drop 1

theorem chainUp_pairwise (p : Path) :
    (chainUp p).Pairwise (fun a b => b <+: a ∧ b.length < a.length) := by
  simp only [chainUp, List.pairwise_map]
  have h := @List.pairwise_lt_range (p.length + 1)
  have hmem : ∀ i ∈ List.range (p.length + 1), i < p.length + 1 := fun i hi => List.mem_range.1 hi
  generalize List.range (p.length + 1) = l at h hmem
  induction h with
  | nil => exact List.Pairwise.nil
  | @cons a l' hx _ ih =>
    refine List.Pairwise.cons ?_ (ih (fun i hi => hmem i (List.mem_cons_of_mem _ hi)))
    intro b hb
    have h1 := hx b hb
    have h2 := hmem a (by simp)
    have h3 := hmem b (List.mem_cons_of_mem _ hb)
    refine ⟨List.take_prefix_take_left (by omega), ?_⟩
    simp only [List.length_take]
    omega

theorem chainUp_cons (p : Path) : chainUp p = p :: strictAncestors p := by
  have : ∃ tl, chainUp p = p :: tl := by
    refine ⟨(List.range p.length).map (fun i => p.take (p.length - (i + 1))), ?_⟩
    simp [chainUp, List.range_succ_eq_map, Function.comp_def]
  obtain ⟨tl, h⟩ := this
  simp [strictAncestors, h]

theorem mem_strictAncestors {p q : Path} : q ∈ strictAncestors p ↔ q <+: p ∧ q ≠ p := by
  have hc := chainUp_cons p
  have hp := chainUp_pairwise p
  rw [hc, List.pairwise_cons] at hp
  constructor
  · intro h
    have h1 : q ∈ chainUp p := by rw [hc]; exact List.mem_cons_of_mem _ h
    refine ⟨mem_chainUp_iff.1 h1, ?_⟩
    intro he
    have := (hp.1 q h).2
    rw [he] at this
    omega
  · rintro ⟨h1, h2⟩
    have := mem_chainUp_iff.2 h1
    rw [hc, List.mem_cons] at this
    rcases this with h | h
    · exact absurd h h2
    · exact h

theorem strictAncestors_pairwise (p : Path) :
    (strictAncestors p).Pairwise (fun a b => b <+: a ∧ b.length < a.length) := by
  have hp := chainUp_pairwise p
  rw [chainUp_cons, List.pairwise_cons] at hp
  exact hp.2

theorem strictAncestors_single (k : String) : strictAncestors [k] = [[]] := by
  simp [strictAncestors, chainUp, List.range_succ_eq_map]

theorem strictAncestors_nil : strictAncestors [] = [] := by
  simp [strictAncestors, chainUp]

theorem find_strictAncestors_iff (P : Path → Bool) (fin a : Path) :
    (strictAncestors fin).find? P = some a ↔
      (a <+: fin ∧ a ≠ fin) ∧ P a = true ∧
        ∀ b, a <+: b → b ≠ a → b <+: fin → b ≠ fin → P b = false := by
  rw [List.find?_eq_some_iff_append]
  constructor
  · rintro ⟨hPa, as, bs, hl, has⟩
    have hmem : a ∈ strictAncestors fin := by rw [hl]; simp
    refine ⟨mem_strictAncestors.1 hmem, hPa, ?_⟩
    intro b hab hne hbf hbne
    have hb : b ∈ strictAncestors fin := mem_strictAncestors.2 ⟨hbf, hbne⟩
    rw [hl, List.mem_append, List.mem_cons] at hb
    rcases hb with hb | hb | hb
    · simpa using has b hb
    · exact absurd hb hne
    · have hp := strictAncestors_pairwise fin
      rw [hl, List.pairwise_append] at hp
      have := (List.pairwise_cons.1 hp.2.1).1 b hb
      have := hab.length_le
      omega
  · rintro ⟨hmem, hPa, hnear⟩
    refine ⟨hPa, ?_⟩
    obtain ⟨as, bs, hl⟩ := List.append_of_mem (mem_strictAncestors.2 hmem)
    refine ⟨as, bs, hl, ?_⟩
    intro x hx
    have hp := strictAncestors_pairwise fin
    rw [hl, List.pairwise_append] at hp
    have hxa := hp.2.2 x hx a (by simp)
    have hxm : x ∈ strictAncestors fin := by rw [hl]; simp [hx]
    obtain ⟨hxf, hxne⟩ := mem_strictAncestors.1 hxm
    have hne : x ≠ a := by intro he; rw [he] at hxa; omega
    simp [hnear x hxa.1 hne hxf hxne]

theorem find_strictAncestors_none (P : Path → Bool) (fin : Path) :
    (strictAncestors fin).find? P = none ↔ ∀ b, b <+: fin → b ≠ fin → P b = false := by
  rw [List.find?_eq_none]
  constructor
  · intro h b h1 h2; simpa using h b (mem_strictAncestors.2 ⟨h1, h2⟩)
  · intro h b hb
    obtain ⟨h1, h2⟩ := mem_strictAncestors.1 hb
    simp [h b h1 h2]

/-- `ancestor.on_done and self._is_state_done(ancestor)` -/
def onDoneReady (m : Machine) (cfg : List Path) (a : Path) : Bool :=
  match m.defAt a with
  | some d => d.onDone.isSome && isStateDone m cfg a
  | none => false

/-- the ancestor whose done event is raised: the nearest strict ancestor that declares `onDone` and is done -/
def firingAncestor (m : Machine) (cfg : List Path) (fin : Path) : Option Path :=
  (strictAncestors fin).find? (onDoneReady m cfg)

def doneEv (m : Machine) (a : Path) : Ev := .done ("done.state." ++ m.idOf a) (m.idOf a)

theorem checkAndFireOnDone_eq (h : Hooks) (m : Machine) (fin : Path) (s : St) :
    checkAndFireOnDone h m fin s =
      match firingAncestor m s.cfg fin with
      | some a => h.snd (doneEv m a) s
      | none => if fin.length = 1 then complete s else s := rfl

theorem complete_eq (s : St) :
    complete s = if s.status = "running" then { s with status := "done" } else s := rfl

theorem complete_of_running {s : St} (h : s.status = "running") :
    complete s = { s with status := "done" } := by simp [complete, h]

theorem complete_of_not_running {s : St} (h : s.status ≠ "running") : complete s = s := by
  simp [complete, h]

theorem complete_idem (s : St) : complete (complete s) = complete s := by
  by_cases h : s.status = "running"
  · rw [complete_of_running h]; exact complete_of_not_running (by simp)
  · rw [complete_of_not_running h, complete_of_not_running h]

theorem enqueueQ_running (b : Bool) (e : Ev) {s : St} (h : s.status = "running") :
    enqueueQ b e s = { s with queue := s.queue ++ [⟨e, b⟩] } := by simp [enqueueQ, h]

theorem enqueueQ_status (b : Bool) (e : Ev) (s : St) : (enqueueQ b e s).status = s.status := by
  unfold enqueueQ; split <;> rfl

theorem syncSend_not_running (m : Machine) (u : UEnv) (e : Ev) {s : St} (h : s.status ≠ "running") :
    syncSend m u e s = s := by simp [syncSend, sndUnflagged, h]

theorem asyncSend_not_running (m : Machine) (u : UEnv) (e : Ev) {s : St} (h : s.status ≠ "running") :
    asyncSend m u e s = s := by simp [asyncSend, h]

theorem send_not_running (fl : Flavor) (m : Machine) (u : UEnv) (e : Ev) {s : St} (h : s.status ≠ "running") :
    send fl m u e s = s := by
  cases fl with
  | sync => exact syncSend_not_running m u e h
  | async => exact asyncSend_not_running m u e h

theorem cmd_not_running (fl : Flavor) (m : Machine) (u : UEnv) (e : Ev) {s : St} (h : s.status ≠ "running") :
    cmd fl m u s e = { s with err := none } := by
  unfold cmd
  exact send_not_running fl m u e (s := { s with err := none }) h

structure HooksStatusOK (h : Hooks) : Prop where
  snd_status : ∀ e s, (h.snd e s).status = s.status
  raise_status : ∀ e s, (h.sndRaise e s).status = s.status

theorem addActive_status (p : Path) (s : St) : (addActive p s).status = s.status := by
  unfold addActive; split <;> rfl

theorem hooksFlagged_snd_queue (u : UEnv) (m : Machine) (e : Ev) (s : St) :
    ((hooksFlagged u m).snd e s).queue = s.queue ++ (if s.status = "running" then [⟨e, true⟩] else []) := by
  show (enqueueQ true e s).queue = _
  unfold enqueueQ; split <;> simp
theorem hooksAsyncStart_snd_queue (u : UEnv) (m : Machine) (e : Ev) (s : St) :
    ((hooksAsyncStart u m).snd e s).queue = s.queue ++ (if s.status = "running" then [⟨e, false⟩] else []) := by
  show (enqueueQ false e s).queue = _
  unfold enqueueQ; split <;> simp
theorem hooksAsync_snd_queue (u : UEnv) (m : Machine) (e : Ev) (s : St) :
    ((hooksAsync u m).snd e s).queue = s.queue ++ (if s.status = "running" then [⟨e, true⟩] else []) := by
  show (enqueueQ true e { s with raiseDepth := s.raiseDepth + 1 }).queue = _
  unfold enqueueQ; split <;> simp

theorem finished_done : finished "done" = true := by decide

-- small machines for the examples in `Xsm/Properties/C10.lean`
namespace Ex

def mkD (kind : Kind) (initial : Option String := none) (onDone : Option Trans := none)
    (entry : List String := []) (on : List (String × List Trans) := []) : StateDef :=
  { kind, initial, entry := entry.map (fun a => { type := a }), exit := [], on, onDone, after := [],
    invoke := [], deep := false, historyTarget := none, customId := none, tags := [] }

/-- a target-less `onDone` transition of the state with id `sid`, running action `act` -/
def odT (tid : Nat) (sid : String) (act : String) : Trans :=
  { tid, event := "done.state." ++ sid, target := none, guard := none, actions := [{ type := act }],
    reenter := false, forbidden := false }

def fin : SNode := .mk (mkD .final) []
def atom : SNode := .mk (mkD .atomic) []
def histN : SNode := .mk (mkD .history) []

/-
n (compound, initial P)
└─ P (parallel)
   ├─ A (parallel)
   │  ├─ A1 (compound): a1, a1f (final)
   │  └─ A2 (compound): a2, a2f (final)
   ├─ B (compound): b, bf (final)
   └─ H (history)
-/
def nestedA : SNode :=
  .mk (mkD .parallel) [
    ("A1", .mk (mkD .compound (some "a1")) [("a1", atom), ("a1f", fin)]),
    ("A2", .mk (mkD .compound (some "a2")) [("a2", atom), ("a2f", fin)])]
def nestedP : SNode :=
  .mk (mkD .parallel) [
    ("A", nestedA),
    ("B", .mk (mkD .compound (some "b")) [("b", atom), ("bf", fin)]),
    ("H", histN)]
def nestedM : Machine :=
  { id := "n", maxIterations := 10, customIds := [], root := .mk (mkD .compound (some "P")) [("P", nestedP)] }

/-- `A1` and `B` are in their final children, `A2` is not -/
def nestedCfg : List Path :=
  [[], ["P"], ["P", "A"], ["P", "A", "A1"], ["P", "A", "A1", "a1f"], ["P", "A", "A2"], ["P", "A", "A2", "a2"],
   ["P", "B"], ["P", "B", "bf"]]
/-- … and now `A2` too -/
def nestedCfgAll : List Path :=
  [[], ["P"], ["P", "A"], ["P", "A", "A1"], ["P", "A", "A1", "a1f"], ["P", "A", "A2"], ["P", "A", "A2", "a2f"],
   ["P", "B"], ["P", "B", "bf"]]

/-
s (compound, initial P)
└─ P (parallel)  onDone: pDone
   ├─ A (compound)  onDone: aDone :  a1, af (final)
   └─ B (compound):  b1, bf (final)
-/
def shadowM : Machine :=
  { id := "s", maxIterations := 10, customIds := [],
    root := .mk (mkD .compound (some "P")) [
      ("P", .mk (mkD .parallel none (some (odT 0 "s.P" "pDone"))) [
        ("A", .mk (mkD .compound (some "a1") (some (odT 1 "s.P.A" "aDone"))) [("a1", atom), ("af", fin)]),
        ("B", .mk (mkD .compound (some "b1")) [("b1", atom), ("bf", fin)])])] }
/-- region `B` already final; `af`, the last missing final state, has just been added -/
def shadowS : St :=
  { cfg := [[], ["P"], ["P", "A"], ["P", "B"], ["P", "B", "bf"], ["P", "A", "af"]], status := "running" }

/-- `{"id":"m","initial":"f","onDone":{"actions":["x"]},"states":{"f":{"type":"final"}}}` -/
def rootOnDoneM : Machine :=
  { id := "m", maxIterations := 10, customIds := [],
    root := .mk (mkD .compound (some "f") (some (odT 0 "m" "x"))) [("f", fin)] }
/-- `f` has just been added to the configuration -/
def rootOnDoneS : St := { cfg := [[], ["f"]], status := "running" }
/-- the same without the root `onDone`; the final state has an entry action -/
def plainM : Machine :=
  { id := "m", maxIterations := 10, customIds := [],
    root := .mk (mkD .compound (some "f")) [("f", .mk (mkD .final none none ["bye"]) [])] }
def goT : Trans :=
  { tid := 0, event := "GO", target := some "f", guard := none, actions := [{ type := "going" }],
    reenter := false, forbidden := false }
/-- starts in `a`, reaches the top-level final state `f` on `GO` -/
def goM : Machine :=
  { id := "m", maxIterations := 10, customIds := [],
    root := .mk (mkD .compound (some "a")) [
      ("a", .mk (mkD .atomic none none [] [("GO", [goT])]) []),
      ("f", .mk (mkD .final none none ["bye"]) [])] }

/-
the witness of finding F26 (`findings/F26_transitions_after_completion.json`):
m (compound, initial p)   on D -> #m.p.r1.b  / tr::D:0
├─ f (final)  entry en:f, exit ex:f
└─ p (parallel)
   ├─ r1 (compound): a, b
   └─ r2 (compound): x   on D -> #m.f  / tr:p.r2.x:D:0
-/
def f26RootT : Trans :=
  { tid := 0, event := "D", target := some "#m.p.r1.b", guard := none, actions := [{ type := "tr::D:0" }],
    reenter := false, forbidden := false }
def f26XT : Trans :=
  { tid := 1, event := "D", target := some "#m.f", guard := none, actions := [{ type := "tr:p.r2.x:D:0" }],
    reenter := false, forbidden := false }
def f26M : Machine :=
  { id := "m", maxIterations := 10, customIds := [],
    root := .mk (mkD .compound (some "p") none [] [("D", [f26RootT])]) [
      ("f", .mk { mkD .final none none ["en:f"] with exit := [{ type := "ex:f" }] } []),
      ("p", .mk (mkD .parallel) [
        ("r1", .mk (mkD .compound (some "a")) [("a", atom), ("b", atom)]),
        ("r2", .mk (mkD .compound (some "x")) [("x", .mk (mkD .atomic none none [] [("D", [f26XT])]) [])])])] }
/-- the configuration after `start()` -/
def f26S : St :=
  { cfg := [[], ["p"], ["p", "r1"], ["p", "r1", "a"], ["p", "r2"], ["p", "r2", "x"]], status := "running" }
/-- the two candidates event `D` selects there, in execution order (deepest source first) -/
def f26Sel : List Cand := [⟨["p", "r2", "x"], f26XT⟩, ⟨[], f26RootT⟩]

/-- user code: every guard true, every action a marker that succeeds -/
def exU : UEnv := { g := fun _ _ _ => .t, a := fun _ c _ => .ok c }

def evTypes (s : St) : List String := s.queue.map (·.ev.type)

end Ex

end XSM.Done

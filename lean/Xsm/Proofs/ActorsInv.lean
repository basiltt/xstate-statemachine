import Xsm.Proofs.ActorsStop
/-!
`WF`, `Settled`, `Tidy` — the hypotheses of the supervision theorems — are invariants of every observation
point the model can reach without leaving the fragment (`oos`).  The proof goes through a weaker invariant
`Pre` that also holds in the middle of a macrostep (where a sync child may still be unstarted), shows that
it is preserved by `stop()` (`pre_down`), by every step that stops nobody (`pre_of_frame`: all of `Shrunk`, the
start of pending actors, a parent listing a new child) and by the birth of an actor (`pre_born`), that the
acting actor keeps running through its own action list unless it stops itself or an ancestor (which is what
`oos` flags), and that `settle` re-establishes `Settled`.
-/
namespace XSM.Actors

def ParentOK (s : Sys) : Prop := ∀ u kv, kv ∈ (s.get u).kids → (s.get kv.2).parent = some u

structure Pre (s : Sys) : Prop where
  pos : 0 < s.actors.length
  wf : WF s
  semi : ∀ u, u < s.actors.length → (s.get u).status = .uninit ∨ R s u ∨ Dead s u
  tidy : Tidy s
  par : ParentOK s
  started : s.flavor = .async → ∀ u, u < s.actors.length → (s.get u).status ≠ .uninit

/-! ### steps that stop actors: `Mono` + `DC` + same parents -/

structure Down (s s' : Sys) : Prop where
  mono : Mono s s'
  dc : DC s s'
  par : ∀ u, (s'.get u).parent = (s.get u).parent

theorem Down.trans {a b c : Sys} (h1 : Down a b) (h2 : Down b c) : Down a c :=
  ⟨h1.mono.trans h2.mono, DC.trans h1.mono h2.mono h1.dc h2.dc, fun u => (h2.par u).trans (h1.par u)⟩

theorem pre_down {s s' : Sys} (h : Pre s) (d : Down s s') : Pre s' := by
  have hn := d.mono.n
  refine ⟨by rw [hn]; exact h.pos, h.wf.mono d.mono, fun u hu => ?_, fun u hd => ?_, fun u kv hkv => ?_, fun hf u hu hun => ?_⟩
  · rw [hn] at hu
    rcases h.semi u hu with e | e | e
    · exact Or.inl (d.mono.uninit u e)
    · by_cases hr : R s' u
      · exact Or.inr (Or.inl hr)
      · exact Or.inr (Or.inr (d.dc u e hr).1)
    · exact Or.inr (Or.inr (d.mono.dead u e))
  · rcases h.semi u (hn ▸ lt_of_status_ne (by rw [hd.1]; decide)) with e | e | e
    · have := d.mono.uninit u e; rw [hd.1] at this; cases this
    · have hnr : ¬ R s' u := by unfold R; rw [hd.1]; decide
      exact (d.dc u e hnr).2.1
    · rcases d.mono.kids u with k | k
      · rw [k]; exact h.tidy u e
      · exact k
  · rcases d.mono.kids u with k | k
    · rw [k] at hkv; rw [d.par]; exact h.par u kv hkv
    · rw [k] at hkv; cases hkv
  · rw [hn] at hu
    rw [d.mono.flavor] at hf
    rcases h.semi u hu with e | e | e
    · exact h.started hf u hu e
    · by_cases hr : R s' u
      · unfold R at hr; rw [hr] at hun; cases hun
      · have := (d.dc u e hr).1.1; rw [this] at hun; cases hun
    · have := (d.mono.dead u e).1; rw [this] at hun; cases hun

/-! ### steps that stop nobody -/

structure Calm (s s' : Sys) : Prop where
  pre : Pre s → Pre s'
  status : ∀ u, (s'.get u).status = (s.get u).status
  n : s'.actors.length = s.actors.length
  oos : s'.oos = s.oos

/-- `Pre` across a step in which actors may start, but none stops, and a children map gains an entry only if its
    holder is not dead and the entry points to a later actor whose parent it is -/
theorem pre_of_frame {s s' : Sys} (hf : s'.flavor = s.flavor) (hn : s'.actors.length = s.actors.length)
    (h : ∀ u, ((s'.get u).status = (s.get u).status ∨ (s.get u).status = .uninit ∧ (s'.get u).status = .running) ∧
      (s'.get u).parent = (s.get u).parent ∧ ((s.get u).alive = false → (s'.get u).alive = false) ∧
      ∀ kv ∈ (s'.get u).kids, kv ∈ (s.get u).kids ∨
        (u < kv.2 ∧ kv.2 < s.actors.length ∧ (s.get kv.2).parent = some u ∧ ¬ Dead s u)) (p : Pre s) : Pre s' := by
  have hstatus := fun u => (h u).1
  have hparent := fun u => (h u).2.1
  have halive := fun u => (h u).2.2.1
  have hkids := fun u => (h u).2.2.2
  refine ⟨by rw [hn]; exact p.pos, fun u kv hkv => ?_, fun u hu => ?_, fun u hd => ?_, fun u kv hkv => ?_, fun hfl u hu => ?_⟩
  · rw [hn]
    rcases hkids u kv hkv with m | ⟨h1, h2, _, _⟩
    · exact p.wf u kv m
    · exact ⟨h1, h2⟩
  · rw [hn] at hu
    rcases hstatus u with e | ⟨_, e⟩
    · rcases p.semi u hu with e' | e' | e'
      · exact Or.inl (e.trans e')
      · exact Or.inr (Or.inl (e.trans e'))
      · exact Or.inr (Or.inr ⟨e.trans e'.1, fun ha => halive u (e'.2 (hf ▸ ha))⟩)
    · exact Or.inr (Or.inl e)
  · -- an actor that is dead now was dead before (`Pre.semi`), so its map was empty
    have hs : (s.get u).status = .stopped := by
      rcases hstatus u with e | ⟨_, e⟩
      · exact e.symm.trans hd.1
      · rw [hd.1] at e; cases e
    rcases p.semi u (lt_of_status_ne (by rw [hs]; decide)) with e | e | e
    · rw [hs] at e; cases e
    · rw [R, hs] at e; cases e
    · refine List.eq_nil_iff_forall_not_mem.mpr fun kv m => ?_
      rcases hkids u kv m with m | ⟨_, _, _, nd⟩
      · rw [p.tidy u e] at m; cases m
      · exact nd e
  · rw [hparent kv.2]
    rcases hkids u kv hkv with m | ⟨_, _, hp, _⟩
    · exact p.par u kv m
    · exact hp
  · rw [hn] at hu
    rcases hstatus u with e | ⟨_, e⟩
    · rw [e]; exact p.started (hf ▸ hfl) u hu
    · rw [e]; decide

theorem Shrunk.calm {s s' : Sys} (h : Shrunk s s') : Calm s s' :=
  ⟨pre_of_frame h.flavor h.n fun u =>
      have ⟨hstatus, hparent, halive, hkids⟩ := h.get u
      ⟨Or.inl hstatus, hparent, halive, fun kv m => Or.inl (hkids kv m)⟩,
    fun u => (h.get u).1, h.n, h.oos⟩

theorem calm_addWatch (s : Sys) (w : Watch) : Calm s (addWatch s w) := (shrunk_closed.side s _ _ _ _).calm

theorem shrunk_setInv (s : Sys) (p : Nat) (b : Bool) : Shrunk s (setInv s p b) :=
  shrunk_closed.book s p _ _ _ _ fun _ _ m => m

/-! ### steps that add an actor below `p` -/

theorem newActor_born (s : Sys) (p : Nat) (cid key : String) (st : Bool) (hst : s.flavor = .async → st = true) :
    (newActor s p cid key st).status ≠ .stopped ∧ (newActor s p cid key st).parent = some p ∧
    (newActor s p cid key st).kids = [] ∧ (s.flavor = .async → (newActor s p cid key st).status ≠ .uninit) :=
  ⟨newActor_not_stopped s p cid key st, rfl, rfl, fun h => by simp [newActor, hst h]⟩

/-- a new actor `c` whose parent is `p`; `p` does not list it yet -/
theorem pre_born {s t : Sys} {c : Actor} {p : Nat} (h : Pre s) (ht : t.actors = s.actors ++ [c]) (hf : t.flavor = s.flavor)
    (hc : c.status ≠ .stopped ∧ c.parent = some p ∧ c.kids = [] ∧ (s.flavor = .async → c.status ≠ .uninit)) : Pre t := by
  obtain ⟨hlive, -, hnokids, hstarted⟩ := hc
  have hn : t.actors.length = s.actors.length + 1 := by rw [ht, List.length_append]; rfl
  -- an actor of `t` is an actor of `s`, or `c`
  have hcase : ∀ v, v < s.actors.length + 1 →
      (v < s.actors.length ∧ t.get v = s.get v) ∨ (v = s.actors.length ∧ t.get v = c) := fun v hv => by
    by_cases hlt : v < s.actors.length
    · exact Or.inl ⟨hlt, get_snoc_lt ht hlt⟩
    · exact Or.inr ⟨by omega, by rw [show v = s.actors.length by omega]; exact get_snoc_new ht⟩
  have hin : ∀ {v kv}, kv ∈ (t.get v).kids → v < s.actors.length ∧ t.get v = s.get v := fun {v kv} m => by
    by_cases hv : v < s.actors.length + 1
    · rcases hcase v hv with e | ⟨_, e⟩
      · exact e
      · rw [e, hnokids] at m; cases m
    · rw [get_oob t (by rw [hn]; exact hv)] at m; cases m
  refine ⟨by omega, fun u kv hkv => ?_, fun u hu => ?_, fun u hd => ?_, fun u kv hkv => ?_, fun hfl u hu => ?_⟩
  · have ⟨_, e⟩ := hin hkv
    rw [e] at hkv
    have := h.wf u kv hkv
    omega
  · rw [hn] at hu
    unfold R Dead
    rw [hf]
    rcases hcase u hu with ⟨hlt, e⟩ | ⟨_, e⟩
    · rw [e]; exact h.semi u hlt
    · rw [e]
      cases hs : c.status with
      | uninit => exact Or.inl rfl
      | running => exact Or.inr (Or.inl rfl)
      | stopped => exact absurd hs hlive
  · rcases hcase u (hn ▸ lt_of_status_ne (by rw [hd.1]; decide)) with ⟨_, e⟩ | ⟨_, e⟩
    · unfold Dead at hd
      rw [e, hf] at hd
      rw [e]; exact h.tidy u hd
    · rw [e]; exact hnokids
  · have ⟨_, e⟩ := hin hkv
    rw [e] at hkv
    rw [get_snoc_lt ht (h.wf u kv hkv).2]; exact h.par u kv hkv
  · rw [hn] at hu
    rcases hcase u hu with ⟨hlt, e⟩ | ⟨_, e⟩
    · rw [e]; exact h.started (hf ▸ hfl) u hlt
    · rw [e]; exact hstarted (hf ▸ hfl)

theorem pre_stop (busy : Option Nat) (s : Sys) (x : Nat) (h : Pre s) :
    Pre (stop busy s x) ∧ (stop busy s x).actors.length = s.actors.length ∧
    ∀ u, ¬ Desc s x u → R s u → R (stop busy s x) u := by
  have ⟨m, c, _⟩ := stop_spec busy s x h.wf
  exact ⟨pre_down h ⟨m, c, fun u => ((static_closed.stop busy s x).get u).2⟩, m.n,
    fun u hnd hr => (stop_frame busy s x u hnd).trans hr⟩

/-! ### an actor below `x` in the children maps has `x` on its parent chain -/

theorem isAnc_mono (s : Sys) (x : Nat) : ∀ (f p : Nat), isAncestorOrSelf s x f p = true → isAncestorOrSelf s x (f + 1) p = true := by
  intro f
  induction f with
  | zero =>
    intro p h
    simp only [isAncestorOrSelf, decide_eq_true_eq] at h
    simp [isAncestorOrSelf, h]
  | succ f ih =>
    intro p h
    unfold isAncestorOrSelf at h ⊢
    simp only [Bool.or_eq_true, decide_eq_true_eq] at h ⊢
    rcases h with h | h
    · exact Or.inl h
    · right
      cases hp : (s.get p).parent with
      | none => rw [hp] at h; cases h
      | some q => rw [hp] at h; exact ih q h

theorem isAnc_mono_le (s : Sys) (x p : Nat) {f g : Nat} (hfg : f ≤ g) (h : isAncestorOrSelf s x f p = true) :
    isAncestorOrSelf s x g p = true := by
  induction hfg with
  | refl => exact h
  | step _ ih => exact isAnc_mono s x _ p ih

theorem isAnc_up (s : Sys) (x y : Nat) (hxy : (s.get y).parent = some x) :
    ∀ (f p : Nat), isAncestorOrSelf s y f p = true → isAncestorOrSelf s x (f + 1) p = true := by
  intro f
  induction f with
  | zero =>
    intro p h
    simp only [isAncestorOrSelf, decide_eq_true_eq] at h
    subst h
    simp [isAncestorOrSelf, hxy]
  | succ f ih =>
    intro p h
    unfold isAncestorOrSelf at h
    simp only [Bool.or_eq_true, decide_eq_true_eq] at h
    rcases h with h | h
    · subst h
      have : isAncestorOrSelf s x 1 y = true := by simp [isAncestorOrSelf, hxy]
      exact isAnc_mono_le s x y (by omega) this
    · cases hp : (s.get p).parent with
      | none => rw [hp] at h; cases h
      | some q =>
        rw [hp] at h
        have := ih q h
        unfold isAncestorOrSelf
        simp only [Bool.or_eq_true, decide_eq_true_eq]
        right; rw [hp]; exact this

theorem desc_isAnc {s : Sys} (hwf : WF s) (hpar : ParentOK s) {x p : Nat} (h : Desc s x p) :
    isAncestorOrSelf s x (p - x) p = true := by
  induction h with
  | self x => simp [isAncestorOrSelf]
  | @kid x d kv hkv hd ih =>
    have hw := hwf x kv hkv
    have hb := (desc_bounds hwf hd).1
    have := isAnc_up s x kv.2 (hpar x kv hkv) _ d ih
    exact isAnc_mono_le s x d (by omega) this

/-! ### inside a macrostep of the actor `p` -/

/-- mid-macrostep: the run has left the fragment, or `Pre` holds and the acting actor still runs -/
def K (s : Sys) (p : Nat) : Prop := s.oos = true ∨ (Pre s ∧ p < s.actors.length ∧ R s p)

/-- mid-operation: the run has left the fragment, or `Pre` holds -/
def J (s : Sys) : Prop := s.oos = true ∨ Pre s

/-- at an observation point: the run has left the fragment, or `Pre` holds and every actor is running or completely stopped -/
def I (s : Sys) : Prop := s.oos = true ∨ (Pre s ∧ Settled s)

theorem K.toJ {s : Sys} {p : Nat} (h : K s p) : J s := h.imp id (fun h => h.1)

theorem K.shrunk {s s' : Sys} {p : Nat} (h : K s p) (c : Shrunk s s') : K s' p := by
  have c := c.calm
  rcases h with h | ⟨h1, h2, h3⟩
  · exact Or.inl (by rw [c.oos]; exact h)
  · exact Or.inr ⟨c.pre h1, by rw [c.n]; exact h2, by unfold R at *; rw [c.status]; exact h3⟩

theorem J.shrunk {s s' : Sys} (h : J s) (c : Shrunk s s') : J s' := by
  have c := c.calm
  rcases h with h | h
  · exact Or.inl (by rw [c.oos]; exact h)
  · exact Or.inr (c.pre h)

theorem settled_of_pre {s : Sys} (h : Pre s) (hn : ∀ u, u < s.actors.length → (s.get u).status ≠ .uninit) : Settled s := by
  intro u hu
  rcases h.semi u hu with e | e | e
  · exact absurd e (hn u hu)
  · exact Or.inl e
  · exact Or.inr e

theorem I.shrunk {s s' : Sys} (h : I s) (c : Shrunk s s') : I s' := by
  have c := c.calm
  rcases h with h | ⟨h1, h2⟩
  · exact Or.inl (by rw [c.oos]; exact h)
  · refine Or.inr ⟨c.pre h1, settled_of_pre (c.pre h1) (fun u hu => ?_)⟩
    rw [c.n] at hu
    rw [c.status]
    rcases h2 u hu with e | e
    · unfold R at e; rw [e]; decide
    · rw [e.1]; decide

/-- both spawns: a new actor below the acting actor `p`, which then lists it -/
theorem k_born {s t : Sys} {c : Actor} {p : Nat} (h : K s p) (ht : t.actors = s.actors ++ [c]) (hf : t.flavor = s.flavor)
    (ho : t.oos = s.oos)
    (hc : c.status ≠ .stopped ∧ c.parent = some p ∧ c.kids = [] ∧ (s.flavor = .async → c.status ≠ .uninit))
    (cid : String) (src : Actor → List (String × String)) :
    K (t.upd p fun a => { a with kids := dinsert cid s.actors.length a.kids, sources := src a }) p := by
  rcases h with h | ⟨h1, h2, h3⟩
  · exact Or.inl (ho.trans h)
  · have hn : t.actors.length = s.actors.length + 1 := by rw [ht, List.length_append]; rfl
    have hp : t.get p = s.get p := get_snoc_lt ht h2
    have hr : R t p := by rw [R, hp]; exact h3
    have hnd : ¬ Dead t p := fun hd => by rw [R, hd.1] at hr; cases hr
    refine Or.inr ⟨pre_of_frame (s := t) rfl (n_upd t p _) (fun v => ?_) (pre_born h1 ht hf hc), by rw [n_upd, hn]; omega,
      by rw [R, get_upd, if_pos ⟨rfl, by omega⟩]; exact hr⟩
    rw [get_upd]
    split
    · next e =>
      rw [e.1]
      exact ⟨Or.inl rfl, rfl, id, fun kv m => (mem_dinsert m).elim
        (fun e => Or.inr (by rw [e]; exact ⟨h2, by omega, by rw [get_snoc_new ht]; exact hc.2.1, hnd⟩)) Or.inl⟩
    · exact ⟨Or.inl rfl, rfl, id, fun _ m => Or.inl m⟩

theorem k_evict (busy : Option Nat) (s : Sys) (p : Nat) (cid : String) (h : K s p) : K (evict busy s p cid) p := by
  rcases h with h | ⟨h1, h2, h3⟩
  · exact Or.inl (by rw [(static_closed.evict busy s p cid).oos]; exact h)
  · unfold evict
    split
    · next old hold =>
      have hmem : (cid, old) ∈ (s.get p).kids := dlookup_mem hold
      have hpo := h1.wf p (cid, old) hmem
      have c := (shrunk_closed.popKid s p cid).calm
      have h1' := c.pre h1
      have hr' : R (popKid s p cid) p := by unfold R at *; rw [c.status]; exact h3
      have hnd : ¬ Desc (popKid s p cid) old p := fun hd => by
        have := (desc_bounds h1'.wf hd).1
        have := hpo.1
        omega
      have ⟨q1, q2, q4⟩ := pre_stop busy (popKid s p cid) old h1'
      exact Or.inr ⟨q1, by rw [q2, c.n]; exact h2, q4 p hnd hr'⟩
    · exact Or.inr ⟨h1, h2, h3⟩

theorem k_spawn (busy : Option Nat) (s : Sys) (p : Nat) (key : String) (eid sid : Option String) (b : Bool) (h : K s p) :
    K (spawn busy s p key eid sid b) p := by
  have h := k_evict busy s p (mkId (s.get p).id key eid s.fresh) h
  unfold spawn
  generalize evict busy s p (mkId (s.get p).id key eid s.fresh) = e at h ⊢
  have ⟨ha, hf, ho⟩ := register_frame
    (addActor e (newActor e p (mkId (e.get p).id key eid e.fresh) key (startedAtSpawn e b)) (freshAfter e eid)) sid e.actors.length
  have hc : K (spawnCore e p key eid sid b) p :=
    k_born h ha hf ho (newActor_born e p _ key _ fun hfl => by simp [startedAtSpawn, hfl]) _ _
  unfold spawnFresh
  split
  · exact hc.shrunk (shrunk_closed.side _ _ _ _ _)
  · exact hc

theorem k_stopChildTo (busy : Option Nat) (s : Sys) (p x : Nat) (h : K s p) : K (stopChildTo busy s p x) p := by
  unfold stopChildTo
  have c0 := shrunk_closed.trans (shrunk_closed.unlinkChild s p x) (shrunk_closed.unreg _ x)
  have c := c0.calm
  rcases h with h | ⟨h1, h2, h3⟩
  · left
    rw [(static_closed.stop busy _ x).oos]
    unfold markOos
    split
    · rfl
    · rw [c.oos]; exact h
  · by_cases ha : isAncestorOrSelf s x s.actors.length p = true
    · left
      rw [(static_closed.stop busy _ x).oos, ha]; rfl
    · have hb : isAncestorOrSelf s x s.actors.length p = false := by simpa using ha
      rw [hb]
      show K (stop busy (unregister (unlinkChild s p x) x) x) p
      have h1' := c.pre h1
      have hr' : R (unregister (unlinkChild s p x) x) p := by unfold R at *; rw [c.status]; exact h3
      have hnd : ¬ Desc (unregister (unlinkChild s p x) x) x p := fun hd => by
        have hd' : Desc s x p := desc_sub (s := s) (s' := unregister (unlinkChild s p x) x)
          (fun u kv hkv => (c0.get u).2.2.2 kv hkv) hd
        have h5 := desc_isAnc h1.wf h1.par hd'
        exact ha (isAnc_mono_le s x p (by omega) h5)
      have ⟨q1, q2, q4⟩ := pre_stop busy _ x h1'
      exact Or.inr ⟨q1, by rw [q2, c.n]; exact h2, q4 p hnd hr'⟩

theorem k_runAction (busy : Option Nat) (cur : String) (p : Nat) (s : Sys) (a : Action) (h : K s p) :
    K (runAction busy cur p s a) p :=
  runAction_ind (P := fun s' => K s' p) busy cur p s a (fun key eid sid b => k_spawn busy s p key eid sid b h)
    (fun x => k_stopChildTo busy s p x h) fun _ hc => h.shrunk (hc _ shrunk_closed)

theorem k_runActions (busy : Option Nat) (cur : String) (p : Nat) (s : Sys) (acts : List Action) (h : K s p) :
    K (runActions busy cur p s acts) p :=
  foldl_inv (P := fun s => K s p) _ (k_runAction busy cur p) acts s h

theorem k_spawnInvokeAsync (s : Sys) (p : Nat) (key : String) (h : K s p) : K (spawnInvokeAsync s p key) p := by
  unfold spawnInvokeAsync
  exact (k_born (t := addActor s _ _) h rfl rfl rfl (newActor_born s p _ key true fun _ => rfl) _ _).shrunk
    (shrunk_closed.side _ _ _ _ _)

theorem k_invokeBody (p : Nat) (s : Sys) (h : K s p) : K (invokeBody p s) p := by
  unfold invokeBody
  split
  · exact h
  · split
    · exact h.shrunk (shrunk_setInv s p true)
    · split
      · exact k_spawn none _ p _ _ _ _ (h.shrunk (shrunk_setInv s p true))
      · exact k_spawnInvokeAsync _ p _ (h.shrunk (shrunk_setInv s p true))

theorem j_stop (busy : Option Nat) (s : Sys) (x : Nat) (h : J s) : J (stop busy s x) := by
  rcases h with h | h
  · exact Or.inl (by rw [(static_closed.stop busy s x).oos]; exact h)
  · exact Or.inr (pre_stop busy s x h).1

theorem j_leaveWatch (busy : Option Nat) (p : Nat) (s : Sys) (iw : Nat × Watch) (h : J s) : J (leaveWatch busy p s iw) := by
  unfold leaveWatch
  split
  · exact (j_stop busy _ _ (h.shrunk (shrunk_closed.trans (shrunk_closed.side s _ _ _ _ : Shrunk s (killWatch s iw.1)) (shrunk_closed.drain busy _)))).shrunk (shrunk_closed.popKid _ p _)
  · exact h

theorem j_leaveBody (busy : Option Nat) (p : Nat) (s : Sys) (h : J s) : J (leaveBody busy p s) := by
  unfold leaveBody
  split
  · split
    · exact h.shrunk (shrunk_setInv s p false)
    · exact foldl_inv _ (j_leaveWatch busy p) _ _ (h.shrunk (shrunk_setInv s p false))
  · exact h

/-! ### observation points -/

def startUninit (a : Actor) : Actor := if a.status = .uninit then { a with status := .running } else a

theorem i_settle (s : Sys) (h : J s) : I (settle s) := by
  rcases h with h | h
  · exact Or.inl (by unfold settle; split <;> exact h)
  · right
    cases hfl : s.flavor with
    | async =>
      have c : Calm s (settle s) := by unfold settle; rw [hfl]; exact (shrunk_closed.drain none s).calm
      have hp := c.pre h
      refine ⟨hp, settled_of_pre hp (fun u hu => ?_)⟩
      rw [c.n] at hu
      rw [c.status]; exact h.started hfl u hu
    | sync =>
      -- every pending actor is started: nobody is `uninit` any more
      have e : settle s = { s with actors := s.actors.map startUninit } := by unfold settle; rw [hfl]; rfl
      have hn : (settle s).actors.length = s.actors.length := by rw [e]; exact List.length_map _
      have hg : ∀ u, u < s.actors.length → (settle s).get u = startUninit (s.get u) := fun u hu => by
        rw [e]; exact get_map s _ hu
      have hp : Pre (settle s) := pre_of_frame (by rw [e]) hn (fun u => by
        by_cases hu : u < s.actors.length
        · rw [hg u hu, startUninit]
          split
          · next e => exact ⟨Or.inr ⟨e, rfl⟩, rfl, id, fun _ m => Or.inl m⟩
          · exact ⟨Or.inl rfl, rfl, id, fun _ m => Or.inl m⟩
        · rw [get_oob _ (by rw [hn]; exact hu), get_oob s hu]; exact ⟨Or.inl rfl, rfl, id, fun _ m => Or.inl m⟩) h
      refine ⟨hp, settled_of_pre hp fun u hu => ?_⟩
      rw [hn] at hu
      rw [hg u hu, startUninit]
      split
      · exact fun e => nomatch e
      · next e => exact e

theorem I.toJ {s : Sys} (h : I s) : J s := h.imp id (fun h => h.1)

/-! ### the harness addresses existing actors -/

theorem mem_dfs_lt {s : Sys} (hwf : WF s) : ∀ (f d u : Nat), u < s.actors.length → ∀ du ∈ dfs s f d u, du.2 < s.actors.length := by
  intro f
  induction f with
  | zero => intro d u _ du h; cases h
  | succ f ih =>
    intro d u hu du h
    unfold dfs at h
    rcases List.mem_cons.mp h with e | e
    · rw [e]; exact hu
    · rcases List.mem_flatMap.mp e with ⟨kv, hkv, hm⟩
      exact ih (d + 1) kv.2 (hwf u kv hkv).2 du hm

theorem findActor_lt {s : Sys} (h : Pre s) {aid : String} {p : Nat} (hf : findActor s aid = some p) : p < s.actors.length := by
  unfold findActor at hf
  cases hfind : (tree s).find? (fun du => (s.get du.2).id = aid) with
  | none => rw [hfind] at hf; cases hf
  | some du =>
    rw [hfind] at hf
    simp only [Option.map_some, Option.some.injEq] at hf
    rw [← hf]
    exact mem_dfs_lt h.wf _ 0 0 h.pos du (List.mem_of_find?_eq_some hfind)

/-! ### operations -/

theorem i_handle (s : Sys) (p : Nat) (name : String) (body : Option Nat → Sys → Sys) (h : I s)
    (hp : Pre s → p < s.actors.length) (hb : ∀ busy s1, K s1 p → J (body busy s1)) : I (handle s p name body) := by
  unfold handle
  split
  · split
    · next hr =>
      have hk : K s p := h.imp id (fun h => ⟨h.1, hp h.1, hr⟩)
      exact i_settle _ ((hb _ _ (hk.shrunk (shrunk_closed.mail s p _ _ _ (by rw [hr]; decide) : Shrunk s (beginSync s p name)))).shrunk (shrunk_closed.finish _ p))
    · exact h.shrunk (shrunk_closed.warn s _)
  · split
    · exact h.shrunk (shrunk_closed.warn s _)
    · next hr =>
      have hk : K s p := by
        rcases h with h | ⟨h1, h2⟩
        · exact Or.inl h
        · refine Or.inr ⟨h1, hp h1, ?_⟩
          rcases h2 p (hp h1) with e | e
          · exact e
          · exact absurd e.1 hr
      exact i_settle _ (hb _ _ (hk.shrunk (shrunk_closed.mail s p _ _ _ hr : Shrunk s (beginAsync s p name))))

theorem i_fireTimer (s : Sys) (i : Nat) (h : I s) : I (fireTimer s i) := by
  unfold fireTimer
  exact i_settle _ (h.toJ.shrunk (shrunk_closed.fire s i))

theorem i_advance (s : Sys) (dt : Nat) (h : I s) : I (advance s dt) := by
  have h1 : J (runWatches s) := h.toJ.shrunk (shrunk_closed.foldl _ shrunk_closed.runWatch _ s)
  have h3 : ∀ t, I t → I (fireDue t dt) := fun t => foldl_inv _ i_fireTimer _ t
  exact i_settle _ ((h3 _ (i_settle _ h1)).toJ.shrunk (shrunk_closed.side _ _ _ _ _))

theorem i_stepOn (cmds : List (String × List Action)) (s : Sys) (op : Op) (h : I s) : I (stepOn cmds s op) := by
  cases op with
  | cmd aid name =>
    simp only [stepOn]
    split
    · exact h
    · next p hf =>
      have hp : Pre s → p < s.actors.length := fun hpre => findActor_lt hpre hf
      split
      · exact i_handle s p _ _ h hp (fun _ s1 hk => (k_invokeBody p s1 hk).toJ)
      · split
        · exact i_handle s p _ _ h hp (fun busy s1 hk => j_leaveBody busy p s1 hk.toJ)
        · exact i_handle s p name _ h hp (fun busy s1 hk => (k_runActions busy name p s1 _ hk).toJ)
  | adv dt => exact i_advance s dt h
  | stop aid =>
    simp only [stepOn]
    split
    · exact h
    · exact i_settle _ (j_stop none s _ h.toJ)

theorem i_init (fl : Flavor) (eager : Bool) (invoke : List (String × String)) : I (init fl eager invoke) := by
  have hk : ∀ u, ((init fl eager invoke).get u).kids = [] := fun u => by cases u <;> rfl
  have hR : ∀ u, u < (init fl eager invoke).actors.length → R (init fl eager invoke) u := fun u hu => by
    cases u with
    | zero => rfl
    | succ u => exact absurd (Nat.lt_of_succ_lt_succ hu) (Nat.not_lt_zero u)
  have hno : ∀ {u : Nat} {kv : String × Nat} {C : Prop}, kv ∈ ((init fl eager invoke).get u).kids → C :=
    fun h => by rw [hk] at h; cases h
  exact Or.inr ⟨⟨Nat.zero_lt_one, fun _ _ => hno, fun u hu => Or.inr (Or.inl (hR u hu)), fun u _ => hk u, fun _ _ => hno,
    fun _ u hu => (by rw [show _ = Status.running from hR u hu]; decide)⟩, fun u hu => Or.inl (hR u hu)⟩

end XSM.Actors

/-! ## The three-level witness system of C15 -/
namespace XSM.C15
open XSM XSM.Actors

/-- `r` with children `a` (systemId S1) and an auto-id `k2`; `a` with child `b` -/
def exSys (fl : Flavor) : Sys :=
  spawn none (spawn none (spawn none (init fl true []) 0 "k1" (some "a") (some "S1") true) 0 "k2" none none true) 1 "k2" (some "b") none true

/-- What the closing examples of C15 read off `exSys`. -/
theorem exSys_facts (fl : Flavor) :
    invB (exSys fl) = true ∧
    -- ids, and what resolves
    (((exSys fl).get 2).id = "r:k2:u1" ∧ resolve (exSys fl) 0 "S1" = .found 1 ∧ resolve (exSys fl) 0 "k2" = .found 2 ∧
      resolve (exSys fl) 1 "parent" = .found 0 ∧ resolve (exSys fl) 0 "zz" = .none) ∧
    -- what `stop()` of `a` (uid 1, running, parent of `b` = uid 3) needs
    ("r:a:b", 3) ∈ ((exSys fl).get 1).kids ∧ 1 < (exSys fl).actors.length ∧ ((exSys fl).get 1).status = .running := by
  cases fl <;> decide +kernel

end XSM.C15

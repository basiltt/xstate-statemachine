import Xsm.Proofs.Run
/-
Fault containment (C07): what a raising action / failing built-in / configuration error does to the
action list (`actStep_live`, `step_in_list`), to the transition (`runPlan_exact`, the two-run walk over
`SameCore`) and to the engine loops (`processed_rel`, `startEntered_rel` and the frame relations they are used
with).
-/
namespace XSM

/-- what `execActionsF h fuel` hands to `actStep` as "run a nested list" -/
def nestedOf (h : Hooks) : Nat → List ActionRef → String → St → St
  | 0 => fun _ _ s => s
  | f + 1 => fun fs e s => endExpansion f (execActionsF h f fs e s)
/-- `true` when the depth bound is exhausted -/
def cutOf : Nat → Bool
  | 0 => true
  | _ + 1 => false

/-- one step of the fold `execActionsF h fuel` performs -/
def stepOf (h : Hooks) (fuel : Nat) (evType : String) : St × Bool → ActionRef → St × Bool :=
  actStep h (nestedOf h fuel) (cutOf fuel) evType

/-- the accumulator after a list: the state and the flag "the rest of this list is skipped" -/
def actsAcc (h : Hooks) (fuel : Nat) (as : List ActionRef) (evType : String) (s : St) : St × Bool :=
  as.foldl (stepOf h fuel evType) (s, false)

theorem execActionsF_fold (h : Hooks) (fuel : Nat) (as : List ActionRef) (evType : String) (s : St) :
    execActionsF h fuel as evType s = (actsAcc h fuel as evType s).1 := by
  cases fuel <;> rfl

theorem actsAcc_append (h : Hooks) (fuel : Nat) (pre post : List ActionRef) (evType : String) (s : St) :
    actsAcc h fuel (pre ++ post) evType s = post.foldl (stepOf h fuel evType) (actsAcc h fuel pre evType s) := by
  unfold actsAcc; rw [List.foldl_append]

/-- the list is still running: not stopped by a contained failure, no error flagged -/
def Live (acc : St × Bool) : Prop := acc.2 = false ∧ acc.1.err = none

theorem foldl_actStep_stopped (h : Hooks) (nested : List ActionRef → String → St → St) (cut : Bool)
    (evType : String) (as : List ActionRef) (acc : St × Bool)
    (hs : acc.2 = true ∨ acc.1.err.isSome = true) : as.foldl (actStep h nested cut evType) acc = acc :=
  foldl_fixed _ acc (fun a => actStep_stopped h nested cut evType acc a hs) as

theorem step_in_list (h : Hooks) (fuel : Nat) (pre : List ActionRef) (a : ActionRef) (evType : String) (s : St)
    {r : St × Bool} (hstep : stepOf h fuel evType (actsAcc h fuel pre evType s) a = r) :
    actsAcc h fuel (pre ++ [a]) evType s = r ∧
      (r.2 = true ∨ r.1.err.isSome = true →
        ∀ post, execActionsF h fuel (pre ++ a :: post) evType s = r.1) := by
  have h1 : actsAcc h fuel (pre ++ [a]) evType s = r := by rw [actsAcc_append]; exact hstep
  refine ⟨h1, fun hs post => ?_⟩
  rw [execActionsF_fold, List.append_cons, actsAcc_append, h1]
  unfold stepOf
  rw [foldl_actStep_stopped h _ _ evType post r hs]

theorem actStep_live (h : Hooks) (nested : List ActionRef → String → St → St) (cut : Bool) (evType : String)
    (acc : St × Bool) (a : ActionRef) (hl : Live acc) :
    actStep h nested cut evType acc a =
      match h.act a.type acc.1.ctx evType with
      | .ok c => (emit (a.type ++ "@" ++ evType) { acc.1 with ctx := c }, false)
      | .isAsync c =>
        if h.syncEngine then ({ acc.1 with err := some (.notSupported a.type) }, true)
        else (emit (a.type ++ "@" ++ evType) { acc.1 with ctx := c }, false)
      | .raises => (emit ("#aerr:" ++ a.type) (emit (a.type ++ "@" ++ evType) acc.1), true)
      | .missing =>
        match canonicalBuiltin a.type with
        | none => ({ acc.1 with err := some (.missingAction a.type) }, true)
        | some canon => builtinStep h nested cut evType canon a acc.1 := by
  unfold actStep St.fail
  simp only [hl.1, hl.2, Option.isSome_none, Bool.or_self, Bool.false_eq_true, if_false]
  rfl

/-- **a raising action skips the remainder of its list** — whatever the remainder is -/
theorem action_failure_truncates (h : Hooks) (fuel : Nat) (pre post : List ActionRef) (bad : ActionRef)
    (evType : String) (s : St)
    (hraise : h.act bad.type (execActionsF h fuel pre evType s).ctx evType = .raises) :
    execActionsF h fuel (pre ++ bad :: post) evType s = execActionsF h fuel (pre ++ [bad]) evType s := by
  rw [execActionsF_fold] at hraise
  obtain ⟨h1, h2⟩ := step_in_list h fuel pre bad evType s rfl
  rw [execActionsF_fold h fuel (pre ++ [bad]), h1]
  refine h2 ?_ post
  unfold stepOf
  by_cases hl : Live (actsAcc h fuel pre evType s)
  · rw [actStep_live h _ _ evType _ bad hl, hraise]; exact Or.inl rfl
  · -- the list had stopped before `bad`
    have hs : (actsAcc h fuel pre evType s).2 = true ∨ (actsAcc h fuel pre evType s).1.err.isSome = true := by
      cases h2 : (actsAcc h fuel pre evType s).2 with
      | true => exact Or.inl rfl
      | false =>
        cases he : (actsAcc h fuel pre evType s).1.err with
        | none => exact absurd ⟨h2, he⟩ hl
        | some _ => exact Or.inr rfl
    rw [actStep_stopped h _ _ evType _ bad hs]; exact hs

/-- what the raising action itself does: its own record and the `on_action_error` notification are
    prepended to the trace; no other field of the state changes -/
theorem raising_action_effect (h : Hooks) (fuel : Nat) (pre : List ActionRef) (bad : ActionRef)
    (evType : String) (s : St) (hlive : Live (actsAcc h fuel pre evType s))
    (hraise : h.act bad.type (execActionsF h fuel pre evType s).ctx evType = .raises) :
    execActionsF h fuel (pre ++ [bad]) evType s =
      { execActionsF h fuel pre evType s with
        trace := ("#aerr:" ++ bad.type) :: (bad.type ++ "@" ++ evType) :: (execActionsF h fuel pre evType s).trace } := by
  rw [execActionsF_fold h fuel pre] at hraise ⊢
  have hstep := actStep_live h (nestedOf h fuel) (cutOf fuel) evType _ bad hlive
  rw [hraise] at hstep
  rw [execActionsF_fold, (step_in_list h fuel pre bad evType s hstep).1]
  rfl

theorem assignStep_err (canon : String) (cut : Bool) (a : ActionRef) (s : St) :
    (assignStep canon cut a s).err = s.err := by
  unfold assignStep; (repeat' split) <;> rfl

theorem finishBuiltin_failed (h : Hooks) (canon : String) (a : ActionRef) (s2 : St) (he : s2.err ≠ none) :
    finishBuiltin h canon a s2 = (emit ("#aerr:" ++ a.type) { s2 with err := none }, true) := by
  unfold finishBuiltin
  rw [if_pos (Option.isSome_iff_ne_none.2 he)]

theorem finishBuiltin_err_none (h : Hooks) (hr : ∀ e s, (h.sndRaise e s).err = s.err) (canon : String)
    (a : ActionRef) (s2 : St) : (finishBuiltin h canon a s2).1.err = none := by
  cases he : s2.err with
  | some _ => rw [finishBuiltin_failed h canon a s2 (by simp [he])]; rfl
  | none =>
    unfold finishBuiltin
    simp only [he, Option.isSome_none, Bool.false_eq_true, if_false]
    split
    · split
      · rw [hr]; exact he
      · exact he
    · exact he

theorem finishBuiltin_stop (h : Hooks) (canon : String) (a : ActionRef) (s2 : St) :
    (finishBuiltin h canon a s2).2 = s2.err.isSome := by
  unfold finishBuiltin
  split
  · rename_i hh; simp [hh]
  · rename_i hh
    split <;> simp [hh]

/-- **a built-in never makes the transition abort**: whatever its callback or its nested list did, the
    error flag is clear afterwards (needs only that delivering a raised event does not set it) -/
theorem builtinStep_err_none (h : Hooks) (hr : ∀ e s, (h.sndRaise e s).err = s.err)
    (nested : List ActionRef → String → St → St) (cut : Bool) (evType canon : String) (a : ActionRef) (s : St)
    (hs : s.err = none) : (builtinStep h nested cut evType canon a s).1.err = none := by
  cases hb : builtinOutcome h cut evType canon a s with
  | failed e => rw [builtinStep_failed h nested cut evType canon a s e hb]; exact hs
  | followups fs => rw [builtinStep_followups h nested cut evType canon a s fs hb]; exact finishBuiltin_err_none h hr _ _ _

/-- the user registry holds no *configuration* error: a name it does not implement is a built-in, and a
    coroutine action is only met by the async engine. (Raising actions are allowed.) -/
def NoConfigErrors (h : Hooks) : Prop :=
  ∀ n c e, (h.act n c e = .missing → canonicalBuiltin n ≠ none) ∧
    (∀ c', h.act n c e = .isAsync c' → h.syncEngine = false)

theorem actStep_err_none (h : Hooks) (hr : ∀ e s, (h.sndRaise e s).err = s.err) (hn : NoConfigErrors h)
    (nested : List ActionRef → String → St → St) (cut : Bool) (evType : String) (acc : St × Bool) (a : ActionRef)
    (hs : acc.1.err = none) : (actStep h nested cut evType acc a).1.err = none := by
  unfold actStep
  split
  · exact hs
  · split
    · exact hs
    · rename_i c hc
      rw [(hn a.type acc.1.ctx evType).2 c hc]
      exact hs
    · exact hs
    · rename_i hm
      split
      · rename_i hb; exact absurd hb ((hn a.type acc.1.ctx evType).1 hm)
      · exact builtinStep_err_none h hr nested cut evType _ a acc.1 hs

/-- **raising actions never set the error flag** -/
theorem execActionsF_err_none (h : Hooks) (hr : ∀ e s, (h.sndRaise e s).err = s.err) (hn : NoConfigErrors h)
    (fuel : Nat) (as : List ActionRef) (evType : String) (s : St) (hs : s.err = none) :
    (execActionsF h fuel as evType s).err = none := by
  rw [execActionsF_fold]
  exact foldl_inv (P := fun acc : St × Bool => acc.1.err = none) _
    (fun acc a => actStep_err_none h hr hn _ _ evType acc a) as (s, false) hs

theorem execActions_err_none (h : Hooks) (hok : HooksOK h) (hn : NoConfigErrors h)
    (as : List ActionRef) (evType : String) (s : St) (hs : s.err = none) :
    (execActions h as evType s).err = none :=
  execActionsF_err_none h hok.raise_err hn _ as evType s hs

/-- the failure counter of the async run loop is not touched while an event is processed -/
def errorsRel (s s' : St) : Prop := s'.errors = s.errors
theorem errorsRel_eng : EngRel errorsRel where
  refl := fun _ => rfl
  trans := fun h1 h2 => Eq.trans h2 h1
  ctx := fun _ _ => rfl
  trace := fun _ _ => rfl
  err := fun _ _ => rfl
  expCut := fun _ _ => rfl
  cfg := fun _ _ => rfl
  hist := fun _ _ => rfl
  complete := by intro s; unfold complete errorsRel; split <;> rfl

/-- the only change of `status` while events are processed: "running" becomes "done" -/
def StatusStep (a b : String) : Prop := b = a ∨ (a = "running" ∧ b = "done")
theorem StatusStep.trans {a b c : String} (h1 : StatusStep a b) (h2 : StatusStep b c) : StatusStep a c := by
  unfold StatusStep at *
  rcases h1 with h1 | ⟨h1, h1'⟩
  · rw [h1] at h2; exact h2
  · rcases h2 with h2 | ⟨h2, _⟩
    · right; exact ⟨h1, by rw [h2, h1']⟩
    · rw [h1'] at h2; exact absurd h2 (by decide)

def statusRel (s s' : St) : Prop := StatusStep s.status s'.status
theorem statusRel_eng : EngRel statusRel where
  refl := fun _ => Or.inl rfl
  trans := StatusStep.trans
  ctx := fun _ _ => Or.inl rfl
  trace := fun _ _ => Or.inl rfl
  err := fun _ _ => Or.inl rfl
  expCut := fun _ _ => Or.inl rfl
  cfg := fun _ _ => Or.inl rfl
  hist := fun _ _ => Or.inl rfl
  complete := by
    intro s; unfold complete statusRel StatusStep; split
    · rename_i h; right; exact ⟨h, rfl⟩
    · left; rfl

/-- configuration, history and status: what actions never touch -/
def coreRel (s s' : St) : Prop := s'.cfg = s.cfg ∧ s'.hist = s.hist ∧ s'.status = s.status
theorem coreRel_act : ActRel coreRel where
  refl := fun _ => ⟨rfl, rfl, rfl⟩
  trans := fun h1 h2 => ⟨h2.1.trans h1.1, h2.2.1.trans h1.2.1, h2.2.2.trans h1.2.2⟩
  ctx := fun _ _ => ⟨rfl, rfl, rfl⟩
  trace := fun _ _ => ⟨rfl, rfl, rfl⟩
  err := fun _ _ => ⟨rfl, rfl, rfl⟩
  expCut := fun _ _ => ⟨rfl, rfl, rfl⟩

/-- send hooks that touch only the queue and the counters -/
structure HooksQuiet (h : Hooks) : Prop where
  ok : HooksOK h
  core : HooksRel coreRel h

theorem HooksQuiet.status {h : Hooks} (hq : HooksQuiet h) : HooksRel statusRel h :=
  ⟨fun e s => Or.inl (hq.core.snd e s).2.2, fun e s => Or.inl (hq.core.raise e s).2.2⟩

theorem enqueueQ_core (b : Bool) (e : Ev) (s : St) : coreRel s (enqueueQ b e s) := by
  unfold enqueueQ; split <;> exact ⟨rfl, rfl, rfl⟩
theorem enqueueQ_errors (b : Bool) (e : Ev) (s : St) : errorsRel s (enqueueQ b e s) := by
  unfold enqueueQ errorsRel; split <;> rfl
theorem enqueueQ_statusRel (b : Bool) (e : Ev) (s : St) : statusRel s (enqueueQ b e s) := by
  unfold enqueueQ statusRel; split <;> exact Or.inl rfl

theorem hooksFlagged_quiet (u : UEnv) (m : Machine) : HooksQuiet (hooksFlagged u m) :=
  ⟨hooksFlagged_ok u m, (hooksRel_of_enqueue coreRel coreRel_act.trans enqueueQ_core (fun _ _ => ⟨rfl, rfl, rfl⟩) u m).1⟩
theorem hooksAsyncStart_quiet (u : UEnv) (m : Machine) : HooksQuiet (hooksAsyncStart u m) :=
  ⟨hooksAsyncStart_ok u m, (hooksRel_of_enqueue coreRel coreRel_act.trans enqueueQ_core (fun _ _ => ⟨rfl, rfl, rfl⟩) u m).2.1⟩
theorem hooksAsync_quiet (u : UEnv) (m : Machine) : HooksQuiet (hooksAsync u m) :=
  ⟨hooksAsync_ok u m, (hooksRel_of_enqueue coreRel coreRel_act.trans enqueueQ_core (fun _ _ => ⟨rfl, rfl, rfl⟩) u m).2.2⟩

theorem hooksFlagged_errors (u : UEnv) (m : Machine) : HooksRel errorsRel (hooksFlagged u m) :=
  (hooksRel_of_enqueue errorsRel errorsRel_eng.trans enqueueQ_errors (fun _ _ => rfl) u m).1
theorem hooksAsync_errors (u : UEnv) (m : Machine) : HooksRel errorsRel (hooksAsync u m) :=
  (hooksRel_of_enqueue errorsRel errorsRel_eng.trans enqueueQ_errors (fun _ _ => rfl) u m).2.2
theorem hooksFlagged_status (u : UEnv) (m : Machine) : HooksRel statusRel (hooksFlagged u m) :=
  (hooksRel_of_enqueue statusRel statusRel_eng.trans enqueueQ_statusRel (fun _ _ => Or.inl rfl) u m).1
theorem hooksAsync_status (u : UEnv) (m : Machine) : HooksRel statusRel (hooksAsync u m) :=
  (hooksRel_of_enqueue statusRel statusRel_eng.trans enqueueQ_statusRel (fun _ _ => Or.inl rfl) u m).2.2

/-- the queue only grows at its end, and by MARKED entries only (sync: everything enqueued while
    `_is_processing` is set is recorded in `_raised_in_drain`) -/
def markedRel (s s' : St) : Prop := ∃ added, s'.queue = s.queue ++ added ∧ ∀ q ∈ added, q.self = true
theorem markedRel_eng : EngRel markedRel where
  refl := fun _ => ⟨[], by simp, by simp⟩
  trans := by
    rintro a b c ⟨x, hx, fx⟩ ⟨y, hy, fy⟩
    refine ⟨x ++ y, by rw [hy, hx, List.append_assoc], ?_⟩
    intro q hq
    rcases List.mem_append.1 hq with h | h
    · exact fx q h
    · exact fy q h
  ctx := fun _ _ => ⟨[], by simp, by simp⟩
  trace := fun _ _ => ⟨[], by simp, by simp⟩
  err := fun _ _ => ⟨[], by simp, by simp⟩
  expCut := fun _ _ => ⟨[], by simp, by simp⟩
  cfg := fun _ _ => ⟨[], by simp, by simp⟩
  hist := fun _ _ => ⟨[], by simp, by simp⟩
  complete := by intro s; unfold complete markedRel; split <;> exact ⟨[], by simp, by simp⟩
theorem enqueueQ_marked (e : Ev) (s : St) : markedRel s (enqueueQ true e s) := by
  unfold enqueueQ markedRel; split
  · exact ⟨[⟨e, true⟩], rfl, by simp⟩
  · exact ⟨[], by simp, by simp⟩
theorem hooksFlagged_marked (u : UEnv) (m : Machine) : HooksRel markedRel (hooksFlagged u m) :=
  ⟨enqueueQ_marked, enqueueQ_marked⟩

theorem noConfigErrors_mkHooks (u : UEnv) (m : Machine) (sync : Bool) (snd sndRaise : Snd) :
    NoConfigErrors (mkHooks u m sync snd sndRaise) ↔
      ∀ n c e, (u.a n c e = .missing → canonicalBuiltin n ≠ none) ∧ (∀ c', u.a n c e = .isAsync c' → sync = false) :=
  Iff.rfl

/- `planCfg m pl c`: what the plan `pl` does to the configuration `c` if no action aborts it (`C07.config_after_transition`):
    `exitCfg` per exit, then `enterCfg` per entry, each the configuration part of `exitOne` / `enterOne` -/
def exitCfg (m : Machine) (c : List Path) (p : Path) : List Path :=
  if (m.defAt p).isSome then c.filter (· != p) else c
def enterCfg (m : Machine) (c : List Path) (e : Entry) : List Path :=
  if (m.defAt e.path).isSome then (if c.contains e.path then c else c ++ [e.path]) else c
def planCfg (m : Machine) (pl : Plan) (c : List Path) : List Path :=
  if pl.internal then c else pl.entries.foldl (enterCfg m) (pl.exits.foldl (exitCfg m) c)

theorem exitOne_exact (h : Hooks) (hok : HooksOK h) (hn : NoConfigErrors h) (fl : Flavor) (m : Machine)
    (ev : Option String) (s : St) (p : Path) (hs : s.err = none) :
    (exitOne h fl m ev s p).err = none ∧ (exitOne h fl m ev s p).cfg = exitCfg m s.cfg p := by
  unfold exitOne exitCfg
  simp only [hs, Option.isSome_none, Bool.false_eq_true, if_false]
  split
  · rename_i hd; simp [hd, hs]
  · rename_i d hd
    simp only [hd, Option.isSome_some, if_true, delActive]
    exact ⟨execActions_err_none h hok hn _ _ _ hs, by rw [execActions_cfg h hok]⟩

theorem enterOne_exact (h : Hooks) (hok : HooksOK h) (hn : NoConfigErrors h) (fl : Flavor) (m : Machine)
    (ev : Option String) (s : St) (e : Entry) (hs : s.err = none) :
    (enterOne h fl m ev s e).err = none ∧ (enterOne h fl m ev s e).cfg = enterCfg m s.cfg e := by
  unfold enterOne enterCfg
  simp only [hs, Option.isSome_none, Bool.false_eq_true, if_false]
  split
  · rename_i hd; simp [hd, hs]
  · rename_i d hd
    have h1 : (execActions h d.entry (entryEvName fl m e ev) (addActive e.path s)).err = none :=
      execActions_err_none h hok hn _ _ _ (by rw [addActive_err]; exact hs)
    have ha : (addActive e.path s).cfg = if s.cfg.contains e.path then s.cfg else s.cfg ++ [e.path] := by
      unfold addActive; split <;> rfl
    simp only [h1, Option.isSome_none, Bool.false_eq_true, if_false, hd, Option.isSome_some, if_true]
    split
    · obtain ⟨hc, he⟩ := checkDone_cfg_err h hok m e.path
        (execActions h d.entry (entryEvName fl m e ev) (addActive e.path s))
      exact ⟨he.trans h1, by rw [hc, execActions_cfg h hok, ha]⟩
    · exact ⟨h1, by rw [execActions_cfg h hok, ha]⟩

theorem foldl_exact {α : Type} (f : St → α → St) (g : List Path → α → List Path)
    (hf : ∀ s a, s.err = none → (f s a).err = none ∧ (f s a).cfg = g s.cfg a) :
    ∀ (l : List α) (s : St), s.err = none → (l.foldl f s).err = none ∧ (l.foldl f s).cfg = l.foldl g s.cfg
  | [], _, hs => ⟨hs, rfl⟩
  | a :: l, s, hs => by
    simp only [List.foldl_cons]
    rw [← (hf s a hs).2]
    exact foldl_exact f g hf l _ (hf s a hs).1

/-- the three phases of a plan without an error of its own: raising actions do not abort it, and the
    configuration it reaches is a function of the plan and the configuration before -/
theorem runPlan_exact (h : Hooks) (hok : HooksOK h) (hn : NoConfigErrors h) (fl : Flavor) (m : Machine)
    (ev : Ev) (pl : Plan) (s : St) (hp : pl.err = none) (hs : s.err = none) :
    (runPlan h fl m ev pl s).err = none ∧
      (runPlan h fl m ev pl s).cfg = pl.entries.foldl (enterCfg m) (pl.exits.foldl (exitCfg m) s.cfg) := by
  unfold runPlan
  simp only [hp]
  obtain ⟨h2, c2⟩ := foldl_exact _ (exitCfg m) (fun s p => exitOne_exact h hok hn fl m (some ev.type) s p)
    pl.exits (recordHistory m pl.exits s) hs
  simp only [h2, Option.isSome_none, Bool.false_eq_true, if_false]
  obtain ⟨h4, c4⟩ := foldl_exact _ (enterCfg m) (fun s e => enterOne_exact h hok hn fl m (some ev.type) s e)
    pl.entries _ (execActions_err_none h hok hn pl.actions ev.type _ h2)
  exact ⟨h4, by rw [c4, execActions_cfg h hok, c2]; rfl⟩

/-- a plan that carries an error of its own (unresolvable target …) always ends where it started -/
theorem execute_planErr_cfg (h : Hooks) (hok : HooksOK h) (fl : Flavor) (m : Machine) (ev : Ev) (pl : Plan)
    (s : St) (e : EErr) (hp : pl.err = some e) : (execute h fl m ev pl s).cfg = s.cfg := by
  cases hint : pl.internal with
  | true => exact execute_internal_cfg h hok fl m ev pl s hint
  | false =>
    apply execute_rollback h fl m ev pl s hint
    rw [execute_err_eq, executeCore_external h fl m ev pl s hint]
    have hr : (runPlan h fl m ev pl s).err ≠ none := by
      unfold runPlan; simp only [hp]; exact fail_err_ne _ _
    split <;> exact hr

/-- two states, of two runs, agree on configuration, history, status and error flag (`coreRel s s'` relates the
    before and after of ONE run, and says nothing of `err`) -/
structure SameCore (a b : St) : Prop where
  cfg : a.cfg = b.cfg
  hist : a.hist = b.hist
  status : a.status = b.status
  err : a.err = b.err

theorem SameCore.rfl' (a : St) : SameCore a a := ⟨rfl, rfl, rfl, rfl⟩
theorem SameCore.symm {a b : St} (h : SameCore a b) : SameCore b a := ⟨h.cfg.symm, h.hist.symm, h.status.symm, h.err.symm⟩
theorem SameCore.trans {a b c : St} (h1 : SameCore a b) (h2 : SameCore b c) : SameCore a c :=
  ⟨h1.cfg.trans h2.cfg, h1.hist.trans h2.hist, h1.status.trans h2.status, h1.err.trans h2.err⟩

theorem execActions_core (h : Hooks) (hq : HooksQuiet h) (hn : NoConfigErrors h) (as : List ActionRef)
    (evType : String) (s : St) : SameCore (execActions h as evType s) s := by
  cases he : s.err with
  | some e => rw [execActions_sticky h evType as s (by simp [he])]; exact SameCore.rfl' s
  | none =>
    obtain ⟨a, b, c⟩ := execActions_rel coreRel_act h hq.core as evType s
    exact ⟨a, b, c, by rw [execActions_err_none h hq.ok hn as evType s he, he]⟩

theorem SameCore.delActive {a b : St} (h : SameCore a b) (p : Path) : SameCore (delActive p a) (delActive p b) :=
  ⟨by simp only [XSM.delActive, h.cfg], h.hist, h.status, h.err⟩
theorem SameCore.addActive {a b : St} (h : SameCore a b) (p : Path) : SameCore (addActive p a) (addActive p b) := by
  unfold XSM.addActive
  rw [h.cfg]
  split
  · exact h
  · exact ⟨rfl, h.hist, h.status, h.err⟩
theorem SameCore.recordHistory {a b : St} (h : SameCore a b) (m : Machine) (ex : List Path) :
    SameCore (recordHistory m ex a) (recordHistory m ex b) :=
  ⟨h.cfg, by simp only [XSM.recordHistory, h.cfg, h.hist], h.status, h.err⟩
theorem SameCore.complete {a b : St} (h : SameCore a b) : SameCore (complete a) (complete b) := by
  unfold XSM.complete
  rw [h.status]
  split
  · exact ⟨h.cfg, h.hist, rfl, h.err⟩
  · exact h
theorem SameCore.fail {a b : St} (h : SameCore a b) (e : EErr) : SameCore (a.fail e) (b.fail e) := by
  unfold St.fail
  rw [h.err]
  split
  · exact h
  · exact ⟨h.cfg, h.hist, h.status, rfl⟩
theorem SameCore.emit {a b : St} (h : SameCore a b) (r₁ r₂ : String) : SameCore (emit r₁ a) (emit r₂ b) :=
  ⟨h.cfg, h.hist, h.status, h.err⟩

section core
variable {h₁ h₂ : Hooks} (hq₁ : HooksQuiet h₁) (hq₂ : HooksQuiet h₂) (hn₁ : NoConfigErrors h₁)
  (hn₂ : NoConfigErrors h₂)
include hq₁ hq₂ hn₁ hn₂

theorem SameCore.execActions {s₁ s₂ : St} (hs : SameCore s₁ s₂) (as₁ as₂ : List ActionRef) (ev₁ ev₂ : String) :
    SameCore (execActions h₁ as₁ ev₁ s₁) (execActions h₂ as₂ ev₂ s₂) :=
  (execActions_core h₁ hq₁ hn₁ _ _ _).trans (hs.trans (execActions_core h₂ hq₂ hn₂ _ _ _).symm)

omit hn₁ hn₂ in
theorem checkDone_core (m : Machine) (fin : Path) (s₁ s₂ : St) (hs : SameCore s₁ s₂) :
    SameCore (checkAndFireOnDone h₁ m fin s₁) (checkAndFireOnDone h₂ m fin s₂) := by
  unfold checkAndFireOnDone
  simp only [hs.cfg]
  split
  · obtain ⟨a1, b1, c1⟩ := hq₁.core.snd (Ev.done ("done.state." ++ m.idOf ‹Path›) (m.idOf ‹Path›)) s₁
    obtain ⟨a2, b2, c2⟩ := hq₂.core.snd (Ev.done ("done.state." ++ m.idOf ‹Path›) (m.idOf ‹Path›)) s₂
    exact ⟨by rw [a1, a2, hs.cfg], by rw [b1, b2, hs.hist], by rw [c1, c2, hs.status],
      by rw [hq₁.ok.snd_err, hq₂.ok.snd_err, hs.err]⟩
  · split
    · exact hs.complete
    · exact hs

theorem enterOne_core (fl : Flavor) (m : Machine) (ev : Option String) (s₁ s₂ : St) (e : Entry)
    (hs : SameCore s₁ s₂) : SameCore (enterOne h₁ fl m ev s₁ e) (enterOne h₂ fl m ev s₂ e) := by
  unfold enterOne
  rw [hs.err]
  split
  · exact hs
  · split
    · exact hs
    · rename_i d _
      have h1 := (hs.addActive e.path).execActions hq₁ hq₂ hn₁ hn₂ d.entry d.entry (entryEvName fl m e ev)
        (entryEvName fl m e ev)
      simp only [h1.err]
      split
      · exact h1
      · split
        · exact checkDone_core hq₁ hq₂ m e.path _ _ h1
        · exact h1

theorem exitOne_core (fl : Flavor) (m : Machine) (ev : Option String) (s₁ s₂ : St) (p : Path)
    (hs : SameCore s₁ s₂) : SameCore (exitOne h₁ fl m ev s₁ p) (exitOne h₂ fl m ev s₂ p) := by
  unfold exitOne
  rw [hs.err]
  split
  · exact hs
  · split
    · exact hs
    · exact (hs.execActions hq₁ hq₂ hn₁ hn₂ _ _ _ _).delActive p

theorem runPlan_core (fl : Flavor) (m : Machine) (ev : Ev) (pl : Plan) (s₁ s₂ : St)
    (hs : SameCore s₁ s₂) : SameCore (runPlan h₁ fl m ev pl s₁) (runPlan h₂ fl m ev pl s₂) := by
  unfold runPlan
  simp only
  have h2 := foldl_rel₂ SameCore _ _ (fun a b p hab => exitOne_core hq₁ hq₂ hn₁ hn₂ fl m (some ev.type) a b p hab)
    pl.exits _ _ (hs.recordHistory m pl.exits)
  generalize pl.exits.foldl (exitOne h₁ fl m (some ev.type)) (recordHistory m pl.exits s₁) = x₁ at h2 ⊢
  generalize pl.exits.foldl (exitOne h₂ fl m (some ev.type)) (recordHistory m pl.exits s₂) = x₂ at h2 ⊢
  have h3 : SameCore (if x₁.err.isSome = true then x₁ else execActions h₁ pl.actions ev.type x₁)
      (if x₂.err.isSome = true then x₂ else execActions h₂ pl.actions ev.type x₂) :=
    rel_ite (by rw [h2.err]) (fun _ => h2) (fun _ => h2.execActions hq₁ hq₂ hn₁ hn₂ _ _ _ _)
  have h4 := foldl_rel₂ SameCore _ _ (fun a b e hab => enterOne_core hq₁ hq₂ hn₁ hn₂ fl m (some ev.type) a b e hab)
    pl.entries _ _ h3
  split
  · exact h4.fail _
  · exact h4

end core

def GuardsIgnoreCtx (u : UEnv) : Prop := ∀ n c c' e, u.g n c e = u.g n c' e

theorem genv_eq (u₁ u₂ : UEnv) (hg : u₁.g = u₂.g) (hi : GuardsIgnoreCtx u₁) (c₁ c₂ : Ctx) (ev : String) :
    u₁.genv c₁ ev = u₂.genv c₂ ev := by
  funext n
  simp only [UEnv.genv]
  rw [← hg]; exact hi n c₁ c₂ ev

/-- one event delivered from outside and processed to quiescence: the event's transitions, then the
    eventless ones -/
def macrostep (h : Hooks) (fl : Flavor) (m : Machine) (u : UEnv) (s : St) (e : Ev) : St :=
  transientLoop h fl m u m.maxIterations (processEvent h fl m u e s)

/-- `complete` is reached only from the entry of a top-level final state -/
theorem enterOne_status (h : Hooks) (hq : HooksQuiet h) (fl : Flavor) (m : Machine) (ev : Option String)
    (s : St) (e : Entry) (hnf : ∀ d, m.defAt e.path = some d → d.kind = .final → e.path.length ≠ 1) :
    (enterOne h fl m ev s e).status = s.status := by
  unfold enterOne
  split
  · rfl
  · split
    · rfl
    · rename_i d hd
      have h1 : (execActions h d.entry (entryEvName fl m e ev) (addActive e.path s)).status = s.status := by
        rw [(execActions_rel coreRel_act h hq.core _ _ _).2.2]
        unfold addActive; split <;> rfl
      simp only
      split
      · exact h1
      · split
        · rename_i hk
          have hk' : d.kind = .final := by simpa using hk
          have hl := hnf d hd hk'
          unfold checkAndFireOnDone
          simp only
          split
          · rw [(hq.core.snd _ _).2.2]; exact h1
          · rw [if_neg hl]; exact h1
        · exact h1

theorem exitOne_status (h : Hooks) (hq : HooksQuiet h) (fl : Flavor) (m : Machine) (ev : Option String)
    (s : St) (p : Path) : (exitOne h fl m ev s p).status = s.status := by
  unfold exitOne
  split
  · rfl
  · split
    · rfl
    · exact (execActions_rel coreRel_act h hq.core _ _ _).2.2

theorem foldl_status {α : Type} (f : St → α → St) (P : α → Prop) (hf : ∀ s a, P a → (f s a).status = s.status)
    (l : List α) (s : St) (hp : ∀ a ∈ l, P a) : (l.foldl f s).status = s.status :=
  List.foldlRecOn (motive := fun t => t.status = s.status) l f rfl fun t ht a ha => (hf t a (hp a ha)).trans ht

theorem execute_status (h : Hooks) (hq : HooksQuiet h) (fl : Flavor) (m : Machine) (ev : Ev) (pl : Plan) (s : St)
    (hnf : ∀ e ∈ pl.entries, ∀ d, m.defAt e.path = some d → d.kind = .final → e.path.length ≠ 1) :
    (execute h fl m ev pl s).status = s.status := by
  have hact : ∀ x : St, (execActions h pl.actions ev.type x).status = x.status :=
    fun x => (execActions_rel coreRel_act h hq.core _ _ x).2.2
  have hr : (runPlan h fl m ev pl s).status = s.status := by
    have h2 : (pl.exits.foldl (exitOne h fl m (some ev.type)) (recordHistory m pl.exits s)).status = s.status :=
      foldl_status _ (fun _ => True) (fun s p _ => exitOne_status h hq fl m _ s p) _ _ (fun _ _ => trivial)
    have h3 : ∀ x : St, (if x.err.isSome = true then x else execActions h pl.actions ev.type x).status = x.status :=
      fun x => ite_elim (fun y : St => y.status = x.status) (fun _ => rfl) (fun _ => hact x)
    have h4 := fun x => foldl_status (enterOne h fl m (some ev.type)) _
      (fun s e he => enterOne_status h hq fl m _ s e he) pl.entries x hnf
    unfold runPlan
    split
    · rw [fail_status, h4, h3, h2]
    · rw [h4, h3, h2]
  have hc : (executeCore h fl m ev pl s).status = s.status := by
    unfold executeCore
    split
    · split
      · exact fail_status _ _
      · exact hact s
    · exact ite_elim (fun y : St => y.status = s.status) (fun _ => hr) (fun _ => hr)
  unfold execute
  exact ite_elim (fun y : St => y.status = s.status) (fun _ => hc) (fun _ => hc)

/-- what both run loops do with an event — record its reception, process it, settle the eventless
    transitions — respects every relation the engine respects -/
theorem processed_rel {R : St → St → Prop} (hR : EngRel R) (h : Hooks) (hh : HooksRel R h) (fl : Flavor)
    (m : Machine) (u : UEnv) (e : Ev) (s : St) :
    R s (transientLoop h fl m u m.maxIterations (processEvent h fl m u e (emit ("#recv:" ++ e.type) s))) :=
  hR.trans (hR.trace s _)
    (hR.trans (processEvent_rel hR h hh fl m u e _) (transientLoop_rel hR h hh fl m u _ _))

/-- the initial entry of either `start()` respects every relation the engine respects -/
theorem startEntered_rel {R : St → St → Prop} (hR : EngRel R) (h : Hooks) (hh : HooksRel R h) (fl : Flavor)
    (m : Machine) (ev : Option String) (s : St) :
    R s (match (startEntries m).2 with
      | some err => ((startEntries m).1.foldl (enterOne h fl m ev) s).fail err
      | none => (startEntries m).1.foldl (enterOne h fl m ev) s) := by
  have h1 := foldl_rel hR.refl hR.trans _ (enterOne_rel hR h hh fl m ev) (startEntries m).1 s
  split
  · exact hR.trans h1 (hR.toActRel.fail _ _)
  · exact h1

/-- the state the async run loop holds after processing `e` (and settling), before it looks at the
    error flag -/
def asyncProcessed (m : Machine) (u : UEnv) (e : Ev) (s : St) : St :=
  transientLoop (hooksAsync u m) .async m u m.maxIterations
    (processEvent (hooksAsync u m) .async m u e (emit ("#recv:" ++ e.type) s))

theorem asyncProcessed_errors (m : Machine) (u : UEnv) (e : Ev) (s : St) :
    (asyncProcessed m u e s).errors = s.errors :=
  processed_rel errorsRel_eng _ (hooksAsync_errors u m) .async m u e s

theorem asyncProcessed_status (m : Machine) (u : UEnv) (e : Ev) (s : St) :
    StatusStep s.status (asyncProcessed m u e s).status :=
  processed_rel statusRel_eng _ (hooksAsync_status u m) .async m u e s

/-! the end-of-chain test touches the counter only (`asyncChainEnd_cfg` is in `Bridge.lean`) -/

theorem asyncChainEnd_hist (b : Nat) (s : St) : (asyncChainEnd b s).hist = s.hist := by
  unfold asyncChainEnd; split <;> rfl
theorem asyncChainEnd_queue (b : Nat) (s : St) : (asyncChainEnd b s).queue = s.queue := by
  unfold asyncChainEnd; split <;> rfl
theorem asyncChainEnd_status (b : Nat) (s : St) : (asyncChainEnd b s).status = s.status := by
  unfold asyncChainEnd; split <;> rfl
theorem asyncChainEnd_trace (b : Nat) (s : St) : (asyncChainEnd b s).trace = s.trace := by
  unfold asyncChainEnd; split <;> rfl
theorem asyncChainEnd_err (b : Nat) (s : St) : (asyncChainEnd b s).err = s.err := by
  unfold asyncChainEnd; split <;> rfl
theorem asyncChainEnd_ctx (b : Nat) (s : St) : (asyncChainEnd b s).ctx = s.ctx := by
  unfold asyncChainEnd; split <;> rfl
theorem asyncChainEnd_errors (b : Nat) (s : St) : (asyncChainEnd b s).errors = s.errors := by
  unfold asyncChainEnd; split <;> rfl

theorem asyncProcess_eq (m : Machine) (u : UEnv) (e : Ev) (s : St) :
    asyncProcess m u e s = asyncChainEnd s.raiseDepth
      (if (asyncProcessed m u e s).err.isSome then
         { asyncProcessed m u e s with err := none, errors := (asyncProcessed m u e s).errors + 1 }
       else asyncProcessed m u e s) := rfl

/-- the failing branch of `_run_event_loop`: logged (counted), flag cleared, then the end-of-chain test
    (which touches the counter only); everything else kept -/
theorem asyncProcess_failed (m : Machine) (u : UEnv) (e : Ev) (s : St)
    (he : (asyncProcessed m u e s).err ≠ none) :
    asyncProcess m u e s =
      asyncChainEnd s.raiseDepth { asyncProcessed m u e s with err := none, errors := s.errors + 1 } := by
  have hsome : (asyncProcessed m u e s).err.isSome = true := by
    cases hh : (asyncProcessed m u e s).err with
    | none => exact absurd hh he
    | some _ => rfl
  rw [asyncProcess_eq, if_pos hsome, asyncProcessed_errors]

theorem asyncProcess_succeeded (m : Machine) (u : UEnv) (e : Ev) (s : St)
    (he : (asyncProcessed m u e s).err = none) :
    asyncProcess m u e s = asyncChainEnd s.raiseDepth (asyncProcessed m u e s) := by
  have hne : ¬ (asyncProcessed m u e s).err.isSome = true := by simp [he]
  rw [asyncProcess_eq, if_neg hne]

theorem asyncProcess_err_none (m : Machine) (u : UEnv) (e : Ev) (s : St) : (asyncProcess m u e s).err = none := by
  cases he : (asyncProcessed m u e s).err with
  | none => rw [asyncProcess_succeeded m u e s he, asyncChainEnd_err]; exact he
  | some x => rw [asyncProcess_failed m u e s (by rw [he]; simp), asyncChainEnd_err]

theorem asyncProcess_status (m : Machine) (u : UEnv) (e : Ev) (s : St) :
    StatusStep s.status (asyncProcess m u e s).status := by
  rw [asyncProcess_eq, asyncChainEnd_status]
  split <;> exact asyncProcessed_status m u e s

theorem asyncStep_below_bound (m : Machine) (u : UEnv) (q : QEv) (s : St) (h : s.raiseDepth ≤ m.maxIterations) :
    asyncStep m u q s = asyncProcess m u q.ev s := by
  unfold asyncStep; rw [if_neg (Nat.not_lt.2 h)]

theorem asyncStep_status (m : Machine) (u : UEnv) (q : QEv) (s : St) :
    StatusStep s.status (asyncStep m u q s).status := by
  unfold asyncStep
  split
  · split
    · exact Or.inl rfl
    · exact asyncProcess_status m u q.ev (asyncPurge s)
  · exact asyncProcess_status m u q.ev s

/-- the state the sync drain loop holds after processing `e` (dequeued from `s`) and settling -/
def syncProcessed (m : Machine) (u : UEnv) (e : Ev) (s : St) : St :=
  transientLoop (hooksFlagged u m) .sync m u m.maxIterations
    (processEvent (hooksFlagged u m) .sync m u e (emit ("#recv:" ++ e.type) s))

theorem syncProcessed_marked (m : Machine) (u : UEnv) (e : Ev) (s : St) :
    ∃ added, (syncProcessed m u e s).queue = s.queue ++ added ∧ ∀ q ∈ added, q.self = true :=
  processed_rel markedRel_eng _ (hooksFlagged_marked u m) .sync m u e s

theorem syncProcessed_queue (m : Machine) (u : UEnv) (e : Ev) (s : St) :
    s.queue <+: (syncProcessed m u e s).queue := by
  obtain ⟨x, hx, _⟩ := syncProcessed_marked m u e s
  exact ⟨x, hx.symm⟩

theorem syncProcessed_status (m : Machine) (u : UEnv) (e : Ev) (s : St) :
    StatusStep s.status (syncProcessed m u e s).status :=
  processed_rel statusRel_eng _ (hooksFlagged_status u m) .sync m u e s

theorem drainFuel_pos (m : Machine) (s : St) : 0 < drainFuel m s :=
  Nat.mul_pos (Nat.succ_pos _) (Nat.succ_pos _)

/-- the failing branch of the sync drain loop (the head is processed — it does not trip the bound — and its
    macrostep fails): the loop returns at once with the state as processing left it -/
theorem drainLoop_failed (m : Machine) (u : UEnv) (fuel c : Nat) (s : St) (q : QEv) (rest : List QEv)
    (hq : s.queue = q :: rest) (hrun : s.status = "running") (ht : syncTrips m c q = false)
    (he : (syncProcessed m u q.ev { s with queue := rest }).err ≠ none) :
    drainLoop m u (fuel + 1) c s = syncProcessed m u q.ev { s with queue := rest } := by
  rw [drainLoop_step m u fuel c s q rest hq hrun ht]
  exact if_pos (Option.isSome_iff_ne_none.2 he)

end XSM

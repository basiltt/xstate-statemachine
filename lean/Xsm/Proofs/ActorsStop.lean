import Xsm.Proofs.Actors
/-!
The relations between a state of the actor system model and a later one that the statements of C15 are read off,
each with the atomic facts that make it an instance of the closure induction of `Proofs/Actors.lean`, and what
`stop()`, a spawn and `stopChild` do.
-/
namespace XSM.Actors

/-! ## `Quiet`

`Quiet s s'`: every actor whose status is `stopped` in `s` — from the very moment `stop()` has set the
status, whatever is still in its queue and whether or not its run loop has ended — is still stopped in
`s'`, has processed nothing in between, and a run loop that has ended stays ended.
The relation is a preorder and every atomic update of the model satisfies it (`quiet_closed`), hence so do all
operations, also the ones in the MIDDLE of a macrostep (`stopA`, `drainAll`, `runAction`), and whole runs, which
is `nothing_delivered_after_stop`.
-/

def Frozen (a a' : Actor) : Prop :=
  a'.status = .stopped ∧ a'.received = a.received ∧ (a.alive = false → a'.alive = false)

def Quiet (s s' : Sys) : Prop :=
  s'.flavor = s.flavor ∧ s.actors.length ≤ s'.actors.length ∧
  ∀ u, (s.get u).status = .stopped → Frozen (s.get u) (s'.get u)

theorem Frozen.of_eq {a a' : Actor} (h : a.status = .stopped) (e : a' = a) : Frozen a a' := by
  subst e; exact ⟨h, rfl, id⟩

theorem Quiet.refl (s : Sys) : Quiet s s := ⟨rfl, Nat.le_refl _, fun _ h => Frozen.of_eq h rfl⟩

theorem Quiet.trans {a b c : Sys} (h1 : Quiet a b) (h2 : Quiet b c) : Quiet a c := by
  refine ⟨h2.1.trans h1.1, Nat.le_trans h1.2.1 h2.2.1, fun u hu => ?_⟩
  have ⟨d1, r1, a1⟩ := h1.2.2 u hu
  have ⟨d2, r2, a2⟩ := h2.2.2 u d1
  exact ⟨d2, r2.trans r1, fun h => a2 (a1 h)⟩

theorem Quiet.stopped {s s' : Sys} (q : Quiet s s') {u : Nat} (h : (s.get u).status = .stopped) :
    (s'.get u).status = .stopped := (q.2.2 u h).1

theorem Quiet.received {s s' : Sys} (q : Quiet s s') {u : Nat} (h : (s.get u).status = .stopped) :
    (s'.get u).received = (s.get u).received := (q.2.2 u h).2.1

theorem Quiet.dead {s s' : Sys} (q : Quiet s s') {u : Nat} (h : Dead s u) :
    Dead s' u ∧ (s'.get u).received = (s.get u).received := by
  have ⟨d1, r1, a1⟩ := q.2.2 u h.1
  exact ⟨⟨d1, fun hf => a1 (h.2 (q.1 ▸ hf))⟩, r1⟩

theorem quiet_foldl_inv {β : Type} (F : Sys → β → Sys) (P : Sys → Prop) (hP : ∀ s x, P s → P (F s x))
    (hF : ∀ s x, P s → Quiet s (F s x)) (l : List β) (s : Sys) (h : P s) : Quiet s (l.foldl F s) := by
  induction l generalizing s with
  | nil => exact Quiet.refl s
  | cons x r ih => exact (hF s x h).trans (ih (F s x) (hP s x h))

theorem quiet_of_actors_eq {s s' : Sys} (hf : s'.flavor = s.flavor) (ha : s'.actors = s.actors) : Quiet s s' :=
  ⟨hf, by rw [ha]; exact Nat.le_refl _, fun u hu => Frozen.of_eq hu (get_congr ha u)⟩

theorem quiet_upd_keeps (s : Sys) (u : Nat) {f : Actor → Actor} (hf : ∀ a, a.status = .stopped → Frozen a (f a)) :
    Quiet s (s.upd u f) := by
  refine ⟨rfl, by rw [n_upd]; exact Nat.le_refl _, fun v hv => ?_⟩
  rw [get_upd]
  split
  · next hc => rw [← hc.1]; exact hf _ hv
  · exact Frozen.of_eq hv rfl

theorem quiet_upd_live (s : Sys) (u : Nat) (f : Actor → Actor) (h : (s.get u).status ≠ .stopped) : Quiet s (s.upd u f) :=
  ⟨rfl, by rw [n_upd]; exact Nat.le_refl _,
    fun v hv => Frozen.of_eq hv (get_upd_ne s f fun e => h (e ▸ hv))⟩

/-- F50: the hand-over point. A stopped actor whose loop is woken discards the event: nothing is processed -/
theorem frozen_drainActor (busy : Option Nat) (u : Nat) (a : Actor) (h : a.status = .stopped) :
    Frozen a (drainActor busy u a) := by
  unfold drainActor
  split
  · exact Frozen.of_eq h rfl
  · have hnr : ¬ a.status = .running := by rw [h]; decide
    simp only [hnr, if_false]
    split
    · exact Frozen.of_eq h rfl
    · exact ⟨h, rfl, fun _ => rfl⟩

theorem quiet_drainAll (busy : Option Nat) (s : Sys) : Quiet s (drainAll busy s) :=
  ⟨rfl, by rw [n_drainAll]; exact Nat.le_refl _, fun v hv => by rw [get_drainAll]; exact frozen_drainActor busy v _ hv⟩

theorem quiet_closed : Closed Quiet where
  refl := Quiet.refl
  trans := Quiet.trans
  side _ _ _ _ _ := quiet_of_actors_eq rfl rfl
  book s u _ _ _ _ _ := quiet_upd_keeps s u fun _ h => ⟨h, rfl, id⟩
  mail s u _ _ _ hs := quiet_upd_live s u _ hs
  finish s p := quiet_upd_keeps s p fun a h => by
    have hr : ¬ a.status = .running := by rw [h]; decide
    simp only [hr, if_false]; exact ⟨h, rfl, id⟩
  drain := quiet_drainAll
  unreg _ _ := quiet_of_actors_eq rfl rfl
  unloop s x := quiet_upd_keeps s x fun _ h => ⟨h, rfl, fun _ => rfl⟩
  mark s x hr := (quiet_upd_live s x _ (by rw [hr]; decide)).trans (quiet_of_actors_eq rfl rfl)
  oos _ := quiet_of_actors_eq rfl rfl
  link s u _ _ := quiet_upd_keeps s u fun _ h => ⟨h, rfl, id⟩
  add s c fr _ := ⟨rfl, by simp [addActor], fun v hv => by
    by_cases hlt : v < s.actors.length
    · exact Frozen.of_eq hv (get_snoc_lt rfl hlt)
    · rw [get_oob s hlt] at hv; exact absurd hv (by decide)⟩
  reg _ _ _ _ _ := quiet_of_actors_eq rfl rfl
  start s := ⟨rfl, by simp, fun v hv => by
    by_cases hlt : v < s.actors.length
    · refine Frozen.of_eq hv ?_
      have : ¬ (s.get v).status = .uninit := by rw [hv]; decide
      rw [get_map s _ hlt, if_neg this]
    · rw [get_oob s hlt] at hv; exact absurd hv (by decide)⟩

/-! ## `Reg`

The system registry never holds a stopped actor (`RegLive`).  Every `stop()` drops the systemIds of the
actor in the same breath as it sets the status, and nothing else sets a status to `stopped`, so the
relation `Reg s s'` — every entry of the new registry that points to a stopped actor was already there and
already pointed to a stopped actor — holds across every atomic update of the model (`reg_closed`); it is a
preorder, hence `RegLive` is an invariant of `step` (no other hypothesis, also in runs that leave the fragment).
-/

def RegLive (s : Sys) : Prop := ∀ kv ∈ s.registry, (s.get kv.2).status ≠ .stopped

def Reg (s s' : Sys) : Prop :=
  ∀ kv ∈ s'.registry, (s'.get kv.2).status = .stopped → kv ∈ s.registry ∧ (s.get kv.2).status = .stopped

theorem RegLive.step {s s' : Sys} (h : RegLive s) (r : Reg s s') : RegLive s' := fun kv hm hs =>
  have ⟨m, st⟩ := r kv hm hs
  h kv m st

theorem reg_of_sub {s s' : Sys} (hr : ∀ kv ∈ s'.registry, kv ∈ s.registry)
    (hs : ∀ u, (s'.get u).status = .stopped → (s.get u).status = .stopped) : Reg s s' :=
  fun kv hm hst => ⟨hr kv hm, hs kv.2 hst⟩

theorem reg_upd (s : Sys) (u : Nat) (f : Actor → Actor) (h : ∀ a, (f a).status = a.status) : Reg s (s.upd u f) :=
  reg_of_sub (fun _ h => h) (fun v hv => by rw [← get_upd_proj (·.status) s u v f h]; exact hv)

theorem reg_closed : Closed Reg where
  refl _ := fun _ h1 h2 => ⟨h1, h2⟩
  trans h1 h2 := fun kv hm hs =>
    have ⟨m, st⟩ := h2 kv hm hs
    h1 kv m st
  side _ _ _ _ _ := reg_of_sub (fun _ h => h) fun _ h => h
  book s u _ _ _ _ _ := reg_upd s u _ fun _ => rfl
  mail s u _ _ _ _ := reg_upd s u _ fun _ => rfl
  finish s p := reg_upd s p _ fun a => by split <;> rfl
  drain busy s := reg_of_sub (fun _ h => h) fun u h => by
    rw [get_drainAll, (drainActor_frame busy u _).1] at h; exact h
  unreg s x := reg_of_sub (fun kv h => (List.mem_filter.mp h).1) fun _ h => h
  unloop s x := reg_upd s x _ fun _ => rfl
  -- F14: the entries of `x` are gone, and `x` is the only actor whose status has changed
  mark s x _ := fun kv hm hst => by
    have hm' : kv ∈ s.registry ∧ kv.2 ≠ x := by simpa [unregister, markStopped] using hm
    exact ⟨hm'.1, (congrArg Actor.status (get_upd_ne s _ hm'.2)).symm.trans hst⟩
  oos _ := reg_of_sub (fun _ h => h) fun _ h => h
  link s u _ _ := reg_upd s u _ fun _ => rfl
  add s c fr hc := reg_of_sub (fun _ h => h) fun u h => by
    by_cases hlt : u < s.actors.length
    · rw [get_snoc_lt rfl hlt] at h; exact h
    · by_cases he : u = s.actors.length
      · rw [he, get_snoc_new rfl] at h; exact absurd h hc
      · rw [get_oob _ (by simp [addActor]; omega)] at h; cases h
  reg s x u _ hu := fun kv hm hst => by
    rcases mem_dinsert hm with e | e
    · rw [e] at hst; exact absurd hst hu
    · exact ⟨e, hst⟩
  start s := reg_of_sub (fun _ h => h) fun u h => by
    by_cases hlt : u < s.actors.length
    · rw [get_map s _ hlt] at h
      split at h
      · cases h
      · exact h
    · rw [get_oob _ (by simpa using hlt)] at h; cases h

/-! ## `stop()`

`stop()` takes a whole subtree down.  `stopA` is a fuel-bounded recursion over a tree stored as uid
references; the proof runs on three relations between the state before and after:

* `Mono s s'`  — monotone facts: what is dead stays dead, what is stopped stays stopped, nothing starts
  running, a children map is either unchanged or emptied, and the map of a survivor is unchanged;
* `DC s s'`    — "down-closed": every actor that was running and no longer is, is `Dead`, has an empty
  children map, and every child of it that was running is `Dead` too;
* `WF s`       — children are later, existing actors (uid of a child > uid of its parent).

`Mono` and "the status of an actor outside the subtree is untouched" hold of `stopA` with any fuel on any state
(`mono_stopA`, `stopA_frame`); that the subtree is really taken down (`stopA_dc`, hence `stopA_spec`) needs `WF` and enough fuel.
Facts about a whole system are obtained from facts about one actor record (`MonoA`, `Rests`) wherever a step
changes the records one by one.
-/

def R (s : Sys) (u : Nat) : Prop := (s.get u).status = .running

def WF (s : Sys) : Prop := ∀ u kv, kv ∈ (s.get u).kids → u < kv.2 ∧ kv.2 < s.actors.length

structure Mono (s s' : Sys) : Prop where
  flavor : s'.flavor = s.flavor
  n : s'.actors.length = s.actors.length
  dead : ∀ u, Dead s u → Dead s' u
  stopped : ∀ u, (s.get u).status = .stopped → (s'.get u).status = .stopped
  run : ∀ u, R s' u → R s u
  kids : ∀ u, (s'.get u).kids = (s.get u).kids ∨ (s'.get u).kids = []
  frame : ∀ u, R s' u → (s'.get u).kids = (s.get u).kids
  uninit : ∀ u, (s.get u).status = .uninit → (s'.get u).status = .uninit

def DC (s s' : Sys) : Prop :=
  ∀ u, R s u → ¬ R s' u →
    Dead s' u ∧ (s'.get u).kids = [] ∧ ∀ kv ∈ (s.get u).kids, R s kv.2 → Dead s' kv.2

theorem Mono.refl (s : Sys) : Mono s s :=
  ⟨rfl, rfl, fun _ h => h, fun _ h => h, fun _ h => h, fun _ => Or.inl rfl, fun _ _ => rfl, fun _ h => h⟩

theorem Mono.trans {a b c : Sys} (h1 : Mono a b) (h2 : Mono b c) : Mono a c := by
  refine ⟨h2.flavor.trans h1.flavor, h2.n.trans h1.n, fun u h => h2.dead u (h1.dead u h),
    fun u h => h2.stopped u (h1.stopped u h), fun u h => h1.run u (h2.run u h), fun u => ?_, fun u h => ?_,
    fun u h => h2.uninit u (h1.uninit u h)⟩
  · rcases h2.kids u with e2 | e2
    · rcases h1.kids u with e1 | e1
      · exact Or.inl (e2.trans e1)
      · exact Or.inr (e2.trans e1)
    · exact Or.inr e2
  · exact (h2.frame u h).trans (h1.frame u (h2.run u h))

theorem DC.refl (s : Sys) : DC s s := fun _ h1 h2 => absurd h1 h2

theorem DC.trans {a b c : Sys} (m1 : Mono a b) (m2 : Mono b c) (d1 : DC a b) (d2 : DC b c) : DC a c := by
  intro u hua huc
  by_cases hub : R b u
  · have ⟨dd, dk, dkids⟩ := d2 u hub huc
    refine ⟨dd, dk, fun kv hkv hr => ?_⟩
    have hk : (b.get u).kids = (a.get u).kids := m1.frame u hub
    by_cases hrb : R b kv.2
    · exact dkids kv (by rw [hk]; exact hkv) hrb
    · exact m2.dead _ (d1 kv.2 hr hrb).1
  · have ⟨dd, dk, dkids⟩ := d1 u hua hub
    refine ⟨m2.dead u dd, ?_, fun kv hkv hr => m2.dead _ (dkids kv hkv hr)⟩
    rcases m2.kids u with e | e
    · exact e.trans dk
    · exact e

theorem WF.mono {s s' : Sys} (h : WF s) (m : Mono s s') : WF s' := by
  intro u kv hkv
  rcases m.kids u with e | e
  · rw [e] at hkv
    have := h u kv hkv
    exact ⟨this.1, by rw [m.n]; exact this.2⟩
  · rw [e] at hkv; cases hkv

/-! ### steps that change one actor record at a time -/

def MonoA (a a' : Actor) : Prop :=
  (a.status = .stopped → a'.status = .stopped) ∧ (a'.status = .running → a.status = .running) ∧
  (a.status = .uninit → a'.status = .uninit) ∧ (a.alive = false → a'.alive = false) ∧
  (a'.kids = a.kids ∨ a'.kids = []) ∧ (a'.status = .running → a'.kids = a.kids)

theorem MonoA.refl (a : Actor) : MonoA a a := ⟨id, id, id, id, Or.inl rfl, fun _ => rfl⟩

theorem mono_of_actors {s s' : Sys} (hf : s'.flavor = s.flavor) (hn : s'.actors.length = s.actors.length)
    (h : ∀ u, MonoA (s.get u) (s'.get u)) : Mono s s' :=
  ⟨hf, hn, fun u hd => ⟨(h u).1 hd.1, fun ha => (h u).2.2.2.1 (hd.2 (hf ▸ ha))⟩, fun u => (h u).1, fun u => (h u).2.1,
    fun u => (h u).2.2.2.2.1, fun u => (h u).2.2.2.2.2, fun u => (h u).2.2.1⟩

theorem mono_mark (s : Sys) (x : Nat) (hr : R s x) : Mono s (unregister (markStopped s x) x) :=
  mono_of_actors rfl (n_upd s x _) (upd_rel MonoA.refl s x _
    ⟨fun _ => rfl, fun h => (by cases h), fun h => (by cases hr.symm.trans h), id, Or.inl rfl, fun _ => rfl⟩)

theorem mono_clearKids (s : Sys) (x : Nat) (hnr : ¬ R s x) : Mono s (clearKids s x) :=
  mono_of_actors rfl (n_upd s x _) (upd_rel MonoA.refl s x _ ⟨id, id, id, id, Or.inr rfl, fun h => absurd h hnr⟩)

/-! ### steps that neither stop nor unlink anybody -/

def Rests (a a' : Actor) : Prop :=
  a'.status = a.status ∧ a'.kids = a.kids ∧ (a.alive = false → a'.alive = false)

structure Still (s s' : Sys) : Prop where
  flavor : s'.flavor = s.flavor
  n : s'.actors.length = s.actors.length
  get : ∀ u, Rests (s.get u) (s'.get u)

theorem Rests.refl (a : Actor) : Rests a a := ⟨rfl, rfl, id⟩

theorem Still.refl (s : Sys) : Still s s := ⟨rfl, rfl, fun _ => Rests.refl _⟩

theorem Still.trans {a b c : Sys} (h1 : Still a b) (h2 : Still b c) : Still a c :=
  ⟨h2.flavor.trans h1.flavor, h2.n.trans h1.n, fun u =>
    ⟨(h2.get u).1.trans (h1.get u).1, (h2.get u).2.1.trans (h1.get u).2.1, fun h => (h2.get u).2.2 ((h1.get u).2.2 h)⟩⟩

theorem Still.mono {s s' : Sys} (h : Still s s') : Mono s s' :=
  mono_of_actors h.flavor h.n fun u =>
    have ⟨h1, h2, h4⟩ := h.get u
    ⟨fun e => h1.trans e, fun e => h1.symm.trans e, fun e => h1.trans e, h4, Or.inl h2, fun _ => h2⟩

theorem still_of_actors_eq {s s' : Sys} (hf : s'.flavor = s.flavor) (ha : s'.actors = s.actors) : Still s s' :=
  ⟨hf, by rw [ha], fun u => by rw [get_congr ha u]; exact Rests.refl _⟩

theorem still_upd (s : Sys) (x : Nat) (f : Actor → Actor) (h : ∀ a, Rests a (f a)) : Still s (s.upd x f) :=
  ⟨rfl, n_upd s x f, upd_rel Rests.refl s x f (h _)⟩

theorem still_drainAll (busy : Option Nat) (s : Sys) : Still s (drainAll busy s) :=
  ⟨rfl, n_drainAll busy s, fun u => by
    rw [get_drainAll]
    have ⟨h1, h2, _, _, h5⟩ := drainActor_frame busy u (s.get u)
    exact ⟨h1, h2, h5⟩⟩

theorem still_stopTail (busy : Option Nat) (s : Sys) (x : Nat) : Still s (stopTail busy s x) := by
  unfold stopTail
  split
  · exact Still.trans (b := s.upd x fun a => { a with sends := [] }) (still_upd s x _ fun _ => ⟨rfl, rfl, id⟩)
      (still_of_actors_eq rfl rfl)
  · refine Still.trans (b := stopTasks busy s x) ?_ ?_
    · unfold stopTasks
      split
      · exact Still.trans (b := killTasks s x) (still_of_actors_eq rfl rfl) (still_drainAll busy _)
      · exact Still.refl s
    · unfold stopLoop
      split
      · exact Still.trans (b := (stopTasks busy s x).upd x fun a => { a with alive := false })
          (still_upd _ x _ fun _ => ⟨rfl, rfl, fun _ => rfl⟩) (still_drainAll busy _)
      · exact Still.refl _

theorem stopLoop_alive (busy : Option Nat) (s : Sys) (x : Nat) : ((stopLoop busy s x).get x).alive = false := by
  unfold stopLoop
  split
  · rw [get_drainAll]
    refine (drainActor_frame busy x _).2.2.2.2 ?_
    rw [get_upd]
    split
    · rfl
    · next hc => rw [get_oob s fun hx => hc ⟨rfl, hx⟩]; rfl
  · next h => simpa using h

theorem stopTail_dead (busy : Option Nat) (s : Sys) (x : Nat) (h : (s.get x).status = .stopped) : Dead (stopTail busy s x) x := by
  refine ⟨((still_stopTail busy s x).get x).1.trans h, fun hfl => ?_⟩
  have hs : s.flavor = .async := (still_stopTail busy s x).flavor.symm.trans hfl
  unfold stopTail
  simp only [hs]
  exact stopLoop_alive busy _ x

theorem markStopped_status (s : Sys) (x : Nat) (hx : x < s.actors.length) : ((markStopped s x).get x).status = .stopped := by
  unfold markStopped; rw [get_upd_self s _ hx]

theorem clearKids_kids (s : Sys) (x : Nat) (hx : x < s.actors.length) : ((clearKids s x).get x).kids = [] := by
  unfold clearKids; rw [get_upd_self s _ hx]

theorem stopA_not_running (busy : Option Nat) (fuel : Nat) (s : Sys) (x : Nat) (h : ¬ R s x) : stopA busy fuel s x = s := by
  cases fuel with
  | zero => rfl
  | succ f => unfold stopA; unfold R at h; simp [h]

/-! ### the recursion -/

theorem mono_stopA (busy : Option Nat) (fuel : Nat) (s : Sys) (x : Nat) : Mono s (stopA busy fuel s x) := by
  induction fuel generalizing s x with
  | zero => exact Mono.refl s
  | succ fuel ih =>
    unfold stopA
    split
    · next hr =>
      have m12 := foldl_rel Mono.refl Mono.trans (fun acc (kv : String × Nat) => stopA busy fuel acc kv.2)
        (fun acc kv => ih acc kv.2) (s.get x).kids (unregister (markStopped s x) x)
      generalize (s.get x).kids.foldl (fun acc kv => stopA busy fuel acc kv.2) (unregister (markStopped s x) x) = fin at m12
      -- `x` is stopped by now, so clearing its children map is `Mono`
      have hnr : ¬ R fin x := by
        rw [R, m12.stopped x (markStopped_status s x (lt_of_status_ne (by rw [hr]; decide)))]; decide
      exact (((mono_mark s x hr).trans m12).trans (mono_clearKids fin x hnr)).trans (still_stopTail busy _ x).mono
    · exact Mono.refl s

theorem mono_stop (busy : Option Nat) (s : Sys) (x : Nat) : Mono s (stop busy s x) := mono_stopA busy _ s x

theorem mono_stopKids (busy : Option Nat) (fuel : Nat) (l : List (String × Nat)) (s : Sys) :
    Mono s (l.foldl (fun acc kv => stopA busy fuel acc kv.2) s) :=
  foldl_rel Mono.refl Mono.trans _ (fun acc kv => mono_stopA busy fuel acc kv.2) l s

theorem dc_of_status {s s' : Sys} (h : ∀ u, (s'.get u).status = (s.get u).status) : DC s s' :=
  fun u h1 h2 => absurd ((h u).trans h1) h2

/-- `DC` from the state `s1`, in which `x` alone has been marked stopped, carries over to the state `s` before -/
theorem dc_mark {s s1 s' : Sys} {x : Nat} (hne : ∀ u, u ≠ x → s1.get u = s.get u) (c : DC s1 s') (hd : Dead s' x)
    (hk : (s'.get x).kids = []) (hkids : ∀ kv ∈ (s.get x).kids, R s kv.2 → Dead s' kv.2) : DC s s' := by
  intro u hus hus'
  by_cases e : u = x
  · subst e; exact ⟨hd, hk, hkids⟩
  · have ⟨dd, dk, dkids⟩ := c u (by rw [R, hne u e]; exact hus) hus'
    refine ⟨dd, dk, fun kv hkv hrk => ?_⟩
    by_cases e2 : kv.2 = x
    · rw [e2]; exact hd
    · exact dkids kv (by rw [hne u e]; exact hkv) (by rw [R, hne _ e2]; exact hrk)

/-- with children later than their parents and fuel for every uid from `x` on, `stopA` takes down all it reaches and
    leaves `x` not running, whether or not `x` ran -/
theorem stopA_dc (busy : Option Nat) : ∀ (fuel : Nat) (s : Sys) (x : Nat), WF s → s.actors.length ≤ x + fuel →
    DC s (stopA busy fuel s x) ∧ ¬ R (stopA busy fuel s x) x := by
  intro fuel
  induction fuel with
  | zero =>
    intro s x _ h
    exact ⟨DC.refl s, fun hr => by
      have := lt_of_status_ne (s := s) (u := x) (by rw [show (s.get x).status = .running from hr]; decide)
      omega⟩
  | succ fuel ih =>
    intro s x hwf hfuel
    by_cases hr : R s x
    case neg => rw [stopA_not_running busy _ s x hr]; exact ⟨DC.refl s, hr⟩
    -- the children, one after the other: all taken down, none running at the end
    have fold : ∀ (l : List (String × Nat)) (acc : Sys), WF acc → acc.actors.length = s.actors.length →
        (∀ kv ∈ l, x < kv.2) →
        DC acc (l.foldl (fun a kv => stopA busy fuel a kv.2) acc) ∧
        ∀ kv ∈ l, ¬ R (l.foldl (fun a kv => stopA busy fuel a kv.2) acc) kv.2 := by
      intro l
      induction l with
      | nil => intro acc _ _ _; exact ⟨DC.refl acc, fun _ h => nomatch h⟩
      | cons kv r ihl =>
        intro acc hwa hna hl
        have m1 := mono_stopA busy fuel acc kv.2
        have m2 := mono_stopKids busy fuel r (stopA busy fuel acc kv.2)
        have ⟨c1, n1⟩ := ih acc kv.2 hwa (by have := hl kv (List.mem_cons_self ..); omega)
        have ⟨c2, p2⟩ := ihl _ (hwa.mono m1) (m1.n.trans hna) fun kv' h => hl kv' (List.mem_cons_of_mem _ h)
        refine ⟨DC.trans m1 m2 c1 c2, fun kv' hmem => ?_⟩
        rcases List.mem_cons.mp hmem with e | hmem
        · rw [e]; exact fun h => n1 (m2.run _ h)
        · exact p2 kv' hmem
    have hr0 : (s.get x).status = .running := hr
    have hx : x < s.actors.length := lt_of_status_ne (by rw [hr0]; decide)
    unfold stopA
    rw [if_pos hr0]
    have hne : ∀ u, u ≠ x → (unregister (markStopped s x) x).get u = s.get u := fun u h => get_upd_ne s _ h
    have m01 := mono_mark s x hr
    have ⟨c12, p12⟩ := fold (s.get x).kids _ (hwf.mono m01) m01.n fun kv h => (hwf x kv h).1
    have m12 := mono_stopKids busy fuel (s.get x).kids (unregister (markStopped s x) x)
    generalize (s.get x).kids.foldl (fun a kv => stopA busy fuel a kv.2) (unregister (markStopped s x) x) = fin at m12 c12 p12 ⊢
    -- from here on nobody's status changes
    have hxfin : (fin.get x).status = .stopped := m12.stopped x (markStopped_status s x hx)
    have s23 : ∀ u, ((clearKids fin x).get u).status = (fin.get u).status := fun u =>
      get_upd_proj (·.status) fin x u _ fun _ => rfl
    have t34 := still_stopTail busy (clearKids fin x) x
    have m24 : Mono fin (stopTail busy (clearKids fin x) x) :=
      (mono_clearKids fin x (by rw [R, hxfin]; decide)).trans t34.mono
    have c14 := DC.trans m12 m24 c12 (dc_of_status fun u => (t34.get u).1.trans (s23 u))
    have hdead : Dead (stopTail busy (clearKids fin x) x) x := stopTail_dead busy _ x ((s23 x).trans hxfin)
    have hkx : ((stopTail busy (clearKids fin x) x).get x).kids = [] :=
      (t34.get x).2.1.trans (clearKids_kids fin x (by rw [m12.n, m01.n]; exact hx))
    refine ⟨dc_mark hne c14 hdead hkx fun kv hkv hrk => ?_, fun h => by rw [R, hdead.1] at h; cases h⟩
    have hr1 : R (unregister (markStopped s x) x) kv.2 := by
      rw [R, hne _ (Nat.ne_of_gt (hwf x kv hkv).1)]; exact hrk
    exact (c14 kv.2 hr1 fun h => p12 kv hkv (m24.run _ h)).1

theorem stopA_spec (busy : Option Nat) : ∀ (fuel : Nat) (s : Sys) (x : Nat), WF s → s.actors.length ≤ x + fuel →
    x < s.actors.length → R s x →
    Dead (stopA busy fuel s x) x ∧ Mono s (stopA busy fuel s x) ∧ DC s (stopA busy fuel s x) := by
  intro fuel s x hwf hfuel _ hr
  have ⟨c, nr⟩ := stopA_dc busy fuel s x hwf hfuel
  exact ⟨(c x hr nr).1, mono_stopA busy fuel s x, c⟩

theorem stop_spec (busy : Option Nat) (s : Sys) (x : Nat) (hwf : WF s) :
    Mono s (stop busy s x) ∧ DC s (stop busy s x) ∧ (R s x → Dead (stop busy s x) x) :=
  have ⟨c, nr⟩ := stopA_dc busy s.actors.length s x hwf (by omega)
  ⟨mono_stop busy s x, c, fun hr => (c x hr nr).1⟩

/-! ### descendants -/

/-- `d` is `x` or below it in the children maps of `s` -/
inductive Desc (s : Sys) : Nat → Nat → Prop
  | self (x : Nat) : Desc s x x
  | kid {x d : Nat} (kv : String × Nat) : kv ∈ (s.get x).kids → Desc s kv.2 d → Desc s x d

/-- at an observation point every actor is running or completely stopped … -/
def Settled (s : Sys) : Prop := ∀ u, u < s.actors.length → R s u ∨ Dead s u

/-- … and a stopped actor has an empty children map -/
def Tidy (s : Sys) : Prop := ∀ u, Dead s u → (s.get u).kids = []

theorem desc_down {s s' : Sys} (hwf : WF s) (hset : Settled s) (htidy : Tidy s) (m : Mono s s') (c : DC s s')
    {y d : Nat} (h : Desc s y d) : y < s.actors.length → Dead s' y → Dead s' d ∧ (s'.get d).kids = [] := by
  induction h with
  | self x =>
    intro hx hd
    refine ⟨hd, ?_⟩
    rcases hset x hx with hr | hdd
    · have : ¬ R s' x := by unfold R; rw [hd.1]; decide
      exact (c x hr this).2.1
    · rcases m.kids x with e | e
      · rw [e]; exact htidy x hdd
      · exact e
  | @kid x d kv hkv _ ih =>
    intro hx hd
    have hc := hwf x kv hkv
    apply ih hc.2
    rcases hset x hx with hr | hdd
    · have hnr : ¬ R s' x := by unfold R; rw [hd.1]; decide
      rcases hset kv.2 hc.2 with hrk | hdk
      · exact (c x hr hnr).2.2 kv hkv hrk
      · exact m.dead _ hdk
    · rw [htidy x hdd] at hkv; cases hkv

/-! ### `stop()` touches the status of descendants only -/

theorem desc_sub {s s' : Sys} (h : ∀ u kv, kv ∈ (s'.get u).kids → kv ∈ (s.get u).kids) {y d : Nat} (hd : Desc s' y d) : Desc s y d := by
  induction hd with
  | self x => exact Desc.self x
  | @kid y d kv hkv _ ih => exact Desc.kid kv (h y kv hkv) ih

theorem Mono.kidsSub {s s' : Sys} (m : Mono s s') : ∀ u kv, kv ∈ (s'.get u).kids → kv ∈ (s.get u).kids := by
  intro u kv hkv
  rcases m.kids u with e | e
  · rw [e] at hkv; exact hkv
  · rw [e] at hkv; cases hkv

theorem stopA_frame (busy : Option Nat) (fuel : Nat) (s : Sys) (x u : Nat) (hnd : ¬ Desc s x u) :
    ((stopA busy fuel s x).get u).status = (s.get u).status := by
  induction fuel generalizing s x with
  | zero => rfl
  | succ fuel ih =>
    unfold stopA
    split
    · -- children maps only shrink while the children are stopped, so `u` stays outside every subtree
      have fold : ∀ (l : List (String × Nat)) (acc : Sys), (∀ kv ∈ l, ¬ Desc acc kv.2 u) →
          ((l.foldl (fun a kv => stopA busy fuel a kv.2) acc).get u).status = (acc.get u).status := by
        intro l
        induction l with
        | nil => intro acc _; rfl
        | cons kv r ihl =>
          intro acc hnd'
          rw [List.foldl_cons, ihl _ fun kv' h hd => hnd' kv' (List.mem_cons_of_mem _ h)
            (desc_sub (mono_stopA busy fuel acc kv.2).kidsSub hd), ih acc kv.2 (hnd' kv (List.mem_cons_self ..))]
      have hux : u ≠ x := fun e => hnd (e ▸ Desc.self u)
      have hk : ∀ v kv, kv ∈ ((unregister (markStopped s x) x).get v).kids → kv ∈ (s.get v).kids := fun v kv h =>
        get_upd_proj (·.kids) s x v (fun a => { a with status := .stopped }) (fun _ => rfl) ▸ h
      rw [((still_stopTail busy _ x).get u).1, clearKids, get_upd_ne _ _ hux,
        fold _ _ fun kv hkv hd => hnd (Desc.kid kv hkv (desc_sub hk hd))]
      exact congrArg Actor.status (get_upd_ne s _ hux)
    · rfl

theorem stop_frame (busy : Option Nat) (s : Sys) (x : Nat) (u : Nat) (hnd : ¬ Desc s x u) :
    ((stop busy s x).get u).status = (s.get u).status :=
  stopA_frame busy _ s x u hnd

/-! ### `invB` -/

theorem deadB_iff (s : Sys) (u : Nat) : deadB s (s.get u) = true ↔ Dead s u := by
  unfold deadB Dead
  cases hfl : s.flavor <;> simp

theorem invB_sound {s : Sys} (h : invB s = true) : WF s ∧ Settled s ∧ Tidy s := by
  unfold invB at h
  rw [List.all_eq_true] at h
  have hu : ∀ u, u < s.actors.length →
      ((s.get u).kids.all (fun kv => u < kv.2 && kv.2 < s.actors.length) = true) ∧
      (runningB (s.get u) = true ∨ deadB s (s.get u) = true) ∧
      (deadB s (s.get u) = false ∨ (s.get u).kids.isEmpty = true) := by
    intro u hlt
    have := h u (List.mem_range.mpr hlt)
    simp only [Bool.and_eq_true, Bool.or_eq_true, Bool.not_eq_true'] at this
    exact ⟨this.1.1, this.1.2, this.2⟩
  refine ⟨?_, ?_, ?_⟩
  · intro u kv hkv
    by_cases hlt : u < s.actors.length
    · have h1 := (hu u hlt).1
      rw [List.all_eq_true] at h1
      have := h1 kv hkv
      simp only [Bool.and_eq_true, decide_eq_true_eq] at this
      exact this
    · rw [get_oob s hlt] at hkv; cases hkv
  · intro u hlt
    rcases (hu u hlt).2.1 with h1 | h1
    · left; unfold R; simpa [runningB] using h1
    · right; exact (deadB_iff s u).mp h1
  · intro u hd
    by_cases hlt : u < s.actors.length
    · rcases (hu u hlt).2.2 with h1 | h1
      · have := (deadB_iff s u).mpr hd; rw [this] at h1; cases h1
      · simpa [List.isEmpty_iff] using h1
    · rw [get_oob s hlt]; rfl

/-! ## single operations -/

/-! ### spawn -/

theorem register_frame (s : Sys) (sid : Option String) (u : Nat) :
    (register s sid u).actors = s.actors ∧ (register s sid u).flavor = s.flavor ∧ (register s sid u).oos = s.oos := by
  unfold register
  split
  · exact ⟨rfl, rfl, rfl⟩
  · split
    · split <;> exact ⟨rfl, rfl, rfl⟩
    · exact ⟨rfl, rfl, rfl⟩

theorem register_lookup (s : Sys) (x : String) (u : Nat) : dlookup x (register s (some x) u).registry = some u := by
  unfold register
  simp only
  cases dlookup x s.registry with
  | none => exact dlookup_dinsert_self x u _
  | some v => simp only; split <;> exact dlookup_dinsert_self x u _

/-- `_spawn_actor` on a free id, actor by actor: the parent gets the entry, the new uid is the child, the rest
    is as it was -/
theorem spawnFresh_spec (s : Sys) (p : Nat) (key : String) (eid sid : Option String) (b : Bool) (hp : p < s.actors.length) :
    (spawnFresh s p key eid sid b).actors.length = s.actors.length + 1 ∧
    (spawnFresh s p key eid sid b).flavor = s.flavor ∧
    (∀ x, sid = some x → dlookup x (spawnFresh s p key eid sid b).registry = some s.actors.length) ∧
    ∀ v, (spawnFresh s p key eid sid b).get v =
      if v = p then { s.get p with kids := dinsert (mkId (s.get p).id key eid s.fresh) s.actors.length (s.get p).kids,
                                   sources := dinsert (mkId (s.get p).id key eid s.fresh) key (s.get p).sources }
      else if v = s.actors.length then newActor s p (mkId (s.get p).id key eid s.fresh) key (startedAtSpawn s b)
      else s.get v := by
  have ⟨ha, hf, _⟩ := register_frame
    (addActor s (newActor s p (mkId (s.get p).id key eid s.fresh) key (startedAtSpawn s b)) (freshAfter s eid)) sid s.actors.length
  have core : (spawnCore s p key eid sid b).actors.length = s.actors.length + 1 ∧
      (spawnCore s p key eid sid b).flavor = s.flavor ∧
      (∀ x, sid = some x → dlookup x (spawnCore s p key eid sid b).registry = some s.actors.length) ∧
      ∀ v, (spawnCore s p key eid sid b).get v = _ :=
    ⟨by unfold spawnCore linkChild; rw [n_upd, ha]; simp [addActor], hf,
      fun x hx => by subst hx; exact register_lookup _ x _, get_grown ha hp _⟩
  unfold spawnFresh
  split
  · exact core
  · exact core

/-! ### what `stop()` never touches: the engine, the id counter, `oos`, the number of actors, every id and parent link -/

structure Static (s s' : Sys) : Prop where
  flavor : s'.flavor = s.flavor
  eager : s'.eager = s.eager
  fresh : s'.fresh = s.fresh
  oos : s'.oos = s.oos
  n : s'.actors.length = s.actors.length
  get : ∀ u, (s'.get u).id = (s.get u).id ∧ (s'.get u).parent = (s.get u).parent

theorem static_upd (s : Sys) (u : Nat) (f : Actor → Actor) (h : ∀ a, (f a).id = a.id ∧ (f a).parent = a.parent) :
    Static s (s.upd u f) :=
  ⟨rfl, rfl, rfl, rfl, n_upd s u f, fun v =>
    ⟨get_upd_proj (·.id) s u v f fun a => (h a).1, get_upd_proj (·.parent) s u v f fun a => (h a).2⟩⟩

theorem static_of_actors_eq {s s' : Sys} (h1 : s'.flavor = s.flavor) (h2 : s'.eager = s.eager) (h3 : s'.fresh = s.fresh)
    (h4 : s'.oos = s.oos) (ha : s'.actors = s.actors) : Static s s' :=
  ⟨h1, h2, h3, h4, by rw [ha], fun u => by rw [get_congr ha u]; exact ⟨rfl, rfl⟩⟩

theorem static_closed : StopClosed Static where
  refl _ := ⟨rfl, rfl, rfl, rfl, rfl, fun _ => ⟨rfl, rfl⟩⟩
  trans h1 h2 := ⟨h2.flavor.trans h1.flavor, h2.eager.trans h1.eager, h2.fresh.trans h1.fresh, h2.oos.trans h1.oos,
    h2.n.trans h1.n, fun u => ⟨(h2.get u).1.trans (h1.get u).1, (h2.get u).2.trans (h1.get u).2⟩⟩
  side _ _ _ _ _ := static_of_actors_eq rfl rfl rfl rfl rfl
  book s u _ _ _ _ _ := static_upd s u _ fun _ => ⟨rfl, rfl⟩
  mail s u _ _ _ _ := static_upd s u _ fun _ => ⟨rfl, rfl⟩
  finish s p := static_upd s p _ fun a => by split <;> exact ⟨rfl, rfl⟩
  drain busy s := ⟨rfl, rfl, rfl, rfl, n_drainAll busy s, fun u => by
    rw [get_drainAll]; exact ⟨(drainActor_frame busy u _).2.2.1, (drainActor_frame busy u _).2.2.2.1⟩⟩
  unreg _ _ := static_of_actors_eq rfl rfl rfl rfl rfl
  unloop s x := static_upd s x _ fun _ => ⟨rfl, rfl⟩
  mark s x _ := ⟨rfl, rfl, rfl, rfl, n_upd s x _, fun v =>
    ⟨get_upd_proj (·.id) s x v _ fun _ => rfl, get_upd_proj (·.parent) s x v _ fun _ => rfl⟩⟩

/-- a spawn, actor by actor: a spawn on a free id in the state `e` the eviction of the previous holder leaves,
    which has the same ids and counters -/
theorem spawn_spec (busy : Option Nat) (s : Sys) (p : Nat) (key : String) (eid sid : Option String) (b : Bool)
    (hp : p < s.actors.length) :
    ∃ e, e = evict busy s p (mkId (s.get p).id key eid s.fresh) ∧ Static s e ∧
    (spawn busy s p key eid sid b).actors.length = s.actors.length + 1 ∧
    (spawn busy s p key eid sid b).flavor = s.flavor ∧
    (∀ x, sid = some x → dlookup x (spawn busy s p key eid sid b).registry = some s.actors.length) ∧
    ∀ v, (spawn busy s p key eid sid b).get v =
      if v = p then { e.get p with kids := dinsert (mkId (s.get p).id key eid s.fresh) s.actors.length (e.get p).kids,
                                   sources := dinsert (mkId (s.get p).id key eid s.fresh) key (e.get p).sources }
      else if v = s.actors.length then newActor s p (mkId (s.get p).id key eid s.fresh) key (startedAtSpawn s b)
      else e.get v := by
  have hst := static_closed.evict busy s p (mkId (s.get p).id key eid s.fresh)
  unfold spawn
  generalize evict busy s p (mkId (s.get p).id key eid s.fresh) = e at hst ⊢
  have h := spawnFresh_spec e p key eid sid b (by rw [hst.n]; exact hp)
  have hna : ∀ c st, newActor e p c key st = newActor s p c key st := fun c st => by unfold newActor; rw [hst.flavor]
  have hsa : startedAtSpawn e b = startedAtSpawn s b := by unfold startedAtSpawn; rw [hst.flavor, hst.eager]
  rw [(hst.get p).1, hst.fresh, hst.n, hna, hsa] at h
  exact ⟨e, rfl, hst, h.1, h.2.1.trans hst.flavor, h.2.2.1, h.2.2.2⟩

/-! ### ordered delivery -/

def deliverAll (s : Sys) (t : Nat) (evs : List String) : Sys := evs.foldl (fun s e => deliverNow s t e) s

theorem deliverAll_frame (s : Sys) (t : Nat) (evs : List String) (v : Nat) (h : v ≠ t) : (deliverAll s t evs).get v = s.get v :=
  foldl_rel (Rel := fun a b : Sys => b.get v = a.get v) (fun _ => rfl) (fun h1 h2 => h2.trans h1) _
    (fun s e => deliverNow_frame s t e v h) evs s

theorem deliverAll_sync (s : Sys) (t : Nat) (evs : List String) (hfl : s.flavor = .sync) (hr : (s.get t).status = .running)
    (hb : (s.get t).busy = false) (ht : t < s.actors.length) :
    ((deliverAll s t evs).get t).received = (s.get t).received ++ evs ∧ ((deliverAll s t evs).get t).inbox = (s.get t).inbox := by
  unfold deliverAll
  induction evs generalizing s with
  | nil => simp
  | cons e r ih =>
    simp only [List.foldl_cons]
    have hd : deliverNow s t e = s.upd t (fun a => { a with received := a.received ++ [e] }) := by
      unfold deliverNow; simp [hfl, hr, hb]
    rw [hd]
    have hg := get_upd_self s (fun a => { a with received := a.received ++ [e] }) ht
    have ⟨i1, i2⟩ := ih (s.upd t (fun a => { a with received := a.received ++ [e] })) hfl (by rw [hg]; exact hr) (by rw [hg]; exact hb)
      (by rw [n_upd]; exact ht)
    rw [i1, i2, hg]
    simp

theorem deliverAll_async (s : Sys) (t : Nat) (evs : List String) (hfl : s.flavor = .async) (hr : (s.get t).status ≠ .stopped)
    (ht : t < s.actors.length) :
    ((deliverAll s t evs).get t).inbox = (s.get t).inbox ++ evs ∧ ((deliverAll s t evs).get t).received = (s.get t).received ∧
    ((deliverAll s t evs).get t).status = (s.get t).status ∧ ((deliverAll s t evs).get t).alive = (s.get t).alive := by
  unfold deliverAll
  induction evs generalizing s with
  | nil => simp
  | cons e r ih =>
    simp only [List.foldl_cons]
    have hd : deliverNow s t e = s.upd t (fun a => { a with inbox := a.inbox ++ [e] }) := by
      unfold deliverNow; simp [hfl, hr]
    rw [hd]
    have hg := get_upd_self s (fun a => { a with inbox := a.inbox ++ [e] }) ht
    have ⟨i1, i2, i3, i4⟩ := ih (s.upd t (fun a => { a with inbox := a.inbox ++ [e] })) hfl (by rw [hg]; exact hr) (by rw [n_upd]; exact ht)
    rw [i1, i2, i3, i4, hg]
    simp

/-! ### cancel / supersede -/

theorem cancelSend_spec (s : Sys) (p : Nat) (k : String) (j : Nat) (h : dlookup k (s.get p).sends = some j) :
    (timerAt (cancelSend s p k) j).live = false ∧ (∀ i, i ≠ j → timerAt (cancelSend s p k) i = timerAt s i) ∧
    (cancelSend s p k).timers.length = s.timers.length := by
  unfold cancelSend
  simp only [h]
  refine ⟨?_, fun i hi => ?_, ?_⟩
  · rw [timerAt_killTimer]; simp
  · rw [timerAt_killTimer]; simp [hi, timerAt_upd]
  · rw [timers_len_killTimer]; rfl

theorem cancelSend_sends (s : Sys) (p : Nat) (k : String) (hp : p < s.actors.length) :
    dlookup k ((cancelSend s p k).get p).sends = none := by
  unfold cancelSend
  split
  · show dlookup k ((s.upd p _).get p).sends = none
    rw [get_upd_self s _ hp]; exact dlookup_derase_self k _
  · next h => exact h

theorem timerAt_addTimer_lt (s : Sys) (tm : Timer) (i : Nat) (h : i < s.timers.length) : timerAt (addTimer s tm) i = timerAt s i := by
  simp [timerAt, addTimer, List.getElem?_append_left h]

theorem timerAt_addTimer_new (s : Sys) (tm : Timer) : timerAt (addTimer s tm) s.timers.length = tm := by
  simp [timerAt, addTimer]

/-! ### steps that stop nobody: what they leave of `WF`, `Settled`, `Tidy` and of the subtrees -/

structure Shrinks (f : Actor → Actor) : Prop where
  status : ∀ a, (f a).status = a.status
  alive : ∀ a, (f a).alive = a.alive
  parent : ∀ a, (f a).parent = a.parent
  kids : ∀ a kv, kv ∈ (f a).kids → kv ∈ a.kids

def Calmed (a a' : Actor) : Prop :=
  a'.status = a.status ∧ a'.parent = a.parent ∧ (a.alive = false → a'.alive = false) ∧ ∀ kv ∈ a'.kids, kv ∈ a.kids

structure Shrunk (s s' : Sys) : Prop where
  flavor : s'.flavor = s.flavor
  n : s'.actors.length = s.actors.length
  oos : s'.oos = s.oos
  get : ∀ u, Calmed (s.get u) (s'.get u)

theorem Calmed.refl (a : Actor) : Calmed a a := ⟨rfl, rfl, id, fun _ m => m⟩

theorem Calmed.trans {a b c : Actor} : Calmed a b → Calmed b c → Calmed a c
  | ⟨status, parent, alive, kids⟩, ⟨status', parent', alive', kids'⟩ =>
    ⟨status'.trans status, parent'.trans parent, fun h => alive' (alive h), fun kv m => kids kv (kids' kv m)⟩

theorem shrunk_upd (s : Sys) (p : Nat) {f : Actor → Actor} (hf : Shrinks f) : Shrunk s (s.upd p f) :=
  ⟨rfl, n_upd s p f, rfl,
    upd_rel Calmed.refl s p f ⟨hf.status _, hf.parent _, fun h => (hf.alive _).trans h, hf.kids _⟩⟩

theorem shrunk_closed : CalmClosed Shrunk where
  refl _ := ⟨rfl, rfl, rfl, fun _ => Calmed.refl _⟩
  trans h1 h2 := ⟨h2.flavor.trans h1.flavor, h2.n.trans h1.n, h2.oos.trans h1.oos, fun u => (h1.get u).trans (h2.get u)⟩
  side _ _ _ _ _ := ⟨rfl, rfl, rfl, fun _ => Calmed.refl _⟩
  book s u _ _ _ _ hk := shrunk_upd s u ⟨fun _ => rfl, fun _ => rfl, fun _ => rfl, hk⟩
  mail s u _ _ _ _ := shrunk_upd s u ⟨fun _ => rfl, fun _ => rfl, fun _ => rfl, fun _ _ m => m⟩
  finish s p := shrunk_upd s p ⟨fun a => by split <;> rfl, fun a => by split <;> rfl, fun a => by split <;> rfl,
    fun a kv m => by split at m <;> exact m⟩
  drain busy s := ⟨rfl, n_drainAll busy s, rfl, fun u => by
    rw [get_drainAll]
    have ⟨h1, h2, _, h4, h5⟩ := drainActor_frame busy u (s.get u)
    exact ⟨h1, h4, h5, fun _ m => h2 ▸ m⟩⟩
  unreg _ _ := ⟨rfl, rfl, rfl, fun _ => Calmed.refl _⟩

theorem inv_of_calmed {s s' : Sys} (hf : s'.flavor = s.flavor) (hn : s'.actors.length = s.actors.length)
    (h : ∀ u, Calmed (s.get u) (s'.get u)) (hwf : WF s) (hset : Settled s) (htidy : Tidy s) :
    WF s' ∧ Settled s' ∧ Tidy s' := by
  have hstatus := fun u => (h u).1
  have halive := fun u => (h u).2.2.1
  have hkids := fun u => (h u).2.2.2
  refine ⟨fun u kv hkv => ?_, fun u hu => ?_, fun u hd => ?_⟩
  · have := hwf u kv (hkids u kv hkv)
    exact ⟨this.1, by rw [hn]; exact this.2⟩
  · rw [hn] at hu
    exact (hset u hu).imp (fun e => (hstatus u).trans e) fun e =>
      ⟨(hstatus u).trans e.1, fun ha => halive u (e.2 (hf ▸ ha))⟩
  · -- an actor that is dead now was dead before (`Settled`), so its map was empty
    have hs : (s.get u).status = .stopped := (hstatus u).symm.trans hd.1
    rcases hset u (lt_of_status_ne (by rw [hs]; decide)) with e | e
    · rw [R, hs] at e; cases e
    · refine List.eq_nil_iff_forall_not_mem.mpr fun kv m => ?_
      have := hkids u kv m
      rw [htidy u e] at this; cases this

theorem desc_above {s s' : Sys} (hwf : WF s) {p : Nat} (h : ∀ v, p < v → (s'.get v).kids = (s.get v).kids) {y d : Nat}
    (hd : Desc s y d) : p < y → Desc s' y d := by
  induction hd with
  | self x => intro _; exact Desc.self _
  | @kid y d kv hkv _ ih =>
    intro hpy
    exact Desc.kid kv (by rw [h y hpy]; exact hkv) (ih (by have := (hwf y kv hkv).1; omega))

theorem desc_bounds {s : Sys} (hwf : WF s) {y d : Nat} (h : Desc s y d) : y ≤ d ∧ (y < s.actors.length → d < s.actors.length) := by
  induction h with
  | self x => exact ⟨Nat.le_refl _, id⟩
  | @kid y d kv hkv _ ih =>
    have hc := hwf y kv hkv
    exact ⟨by omega, fun _ => ih.2 hc.2⟩

/-- `stop()` of `x` once its entry in the map of an actor `p` above it is gone: everything that was below `x` at
    the observation point `s` goes down, whether or not `x` still ran -/
theorem stop_unlinked_down (busy : Option Nat) {s q : Sys} {p x : Nat} (hwf : WF s) (hset : Settled s) (htidy : Tidy s)
    (hf : q.flavor = s.flavor) (hn : q.actors.length = s.actors.length) (hc : ∀ u, Calmed (s.get u) (q.get u))
    (hk : ∀ v, p < v → (q.get v).kids = (s.get v).kids) (hpx : p < x) (hx : x < s.actors.length) {d : Nat}
    (hd : Desc s x d) : Dead (stop busy q x) d ∧ ((stop busy q x).get d).kids = [] := by
  have ⟨w1, w2, w3⟩ := inv_of_calmed hf hn hc hwf hset htidy
  have hxq : x < q.actors.length := hn ▸ hx
  have ⟨m, c, hdr⟩ := stop_spec busy q x w1
  exact desc_down w1 w2 w3 m c (desc_above hwf hk hd hpx) hxq ((w2 x hxq).elim hdr (m.dead x))

/-! ### stopChild -/

theorem markOos_frame (s : Sys) (b : Bool) : (markOos s b).actors = s.actors ∧ (markOos s b).flavor = s.flavor := by
  unfold markOos; split <;> exact ⟨rfl, rfl⟩

/-- `stopChildTo` is `stop` in a state that differs from `s` in the entry of `x` in `p`'s maps (and in the registry) -/
theorem stopChildTo_spec (busy : Option Nat) (s : Sys) (p x : Nat) (cid : String) (hp : p < s.actors.length)
    (hfind : (s.get p).kids.find? (fun kv => kv.2 = x) = some (cid, x)) :
    ∃ t, stopChildTo busy s p x = stop busy t x ∧ t.flavor = s.flavor ∧ t.actors.length = s.actors.length ∧
      (∀ u, Calmed (s.get u) (t.get u)) ∧ (∀ v, v ≠ p → t.get v = s.get v) ∧ dlookup cid (t.get p).kids = none := by
  have h0 := shrunk_closed.unlinkChild s p x
  have hne : ∀ v, v ≠ p → (unlinkChild s p x).get v = s.get v := fun v hv => by
    unfold unlinkChild; rw [hfind]; exact get_upd_ne s _ hv
  have hk : dlookup cid ((unlinkChild s p x).get p).kids = none := by
    unfold unlinkChild; rw [hfind, get_upd_self s _ hp]; exact dlookup_derase_self cid _
  have ⟨ma, mf⟩ := markOos_frame (unregister (unlinkChild s p x) x) (isAncestorOrSelf s x s.actors.length p)
  have hg := get_congr ma
  exact ⟨_, rfl, mf.trans h0.flavor, (congrArg List.length ma).trans h0.n, fun u => by rw [hg]; exact h0.get u,
    fun v hv => by rw [hg]; exact hne v hv, by rw [hg]; exact hk⟩

/-! ### F50: `stop()` processes nothing of what is queued for the actor it stops -/

theorem stop_own_queue (busy : Option Nat) (s : Sys) (x : Nat) (hx : x < s.actors.length) (hr : R s x) :
    ((stop busy s x).get x).status = .stopped ∧ ((stop busy s x).get x).received = (s.get x).received := by
  unfold stop
  obtain ⟨f, hf⟩ : ∃ f, s.actors.length = f + 1 := ⟨s.actors.length - 1, by omega⟩
  rw [hf]
  unfold stopA
  have hr0 : (s.get x).status = .running := hr
  simp only [hr0, if_true]
  have h0 : ((unregister (markStopped s x) x).get x).status = .stopped := markStopped_status s x hx
  have hrec : ((unregister (markStopped s x) x).get x).received = (s.get x).received := by
    show ((markStopped s x).get x).received = _
    unfold markStopped; rw [get_upd_self s _ hx]
  have q := ((quiet_closed.foldl (fun acc (kv : String × Nat) => stopA busy f acc kv.2) (fun acc kv => quiet_closed.stopA busy f acc kv.2)
      (s.get x).kids (unregister (markStopped s x) x)).trans (quiet_closed.book _ x _ _ _ _ fun _ _ m => absurd m List.not_mem_nil :
        Quiet _ (clearKids _ x))).trans (quiet_closed.stopTail busy _ x)
  have ⟨f1, f2, _⟩ := q.2.2 x h0
  exact ⟨f1, f2.trans hrec⟩

end XSM.Actors

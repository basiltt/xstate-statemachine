import Xsm.Proofs.Lifecycle
import Xsm.Proofs.Termination
/-
The sync drain `drainLoop` (`_process_event_queue`) after the second repair of F10: only MARKED events
(enqueued while a drain was in flight) count towards the bound, a cut purges the marked entries and the
loop goes on. One macrostep appends marked entries only, so the measure `drainPot` decreases in every
iteration: the model fuel `drainFuel` never runs out and is irrelevant. The instrumented twins of `drainLoop`
(`drainSteps`, `drainTrips`, `drainCut`, `drainHang`; `drainLogQ` is defined with the model) follow its
recursion; every statement about them is an induction by `drainLoop_cases`.
-/
namespace XSM.Term
open XSM XSM.Done

/-! ## 1. elementary facts -/

theorem extCount_eq_cntExt (l : List QEv) : extCount l = cntExt l := rfl

theorem syncTrips_eq_true (m : Machine) (c : Nat) (q : QEv) :
    syncTrips m c q = true ↔ (q.self = true ∧ m.maxIterations < c + 1) := by
  unfold syncTrips
  cases q.self <;> simp

theorem syncTrips_eq_false (m : Machine) (c : Nat) (q : QEv) :
    syncTrips m c q = false ↔ (q.self = false ∨ c + 1 ≤ m.maxIterations) := by
  unfold syncTrips
  cases q.self <;> simp <;> omega

theorem syncTrips_ext (m : Machine) (c : Nat) {q : QEv} (h : q.self = false) : syncTrips m c q = false := by
  simp [syncTrips, h]

theorem chainedNext_ext (c : Nat) {q : QEv} (h : q.self = false) : chainedNext c q = c := by
  simp [chainedNext, h]
theorem chainedNext_self (c : Nat) {q : QEv} (h : q.self = true) : chainedNext c q = c + 1 := by
  simp [chainedNext, h]

theorem chainedNext_le (m : Machine) (c : Nat) (q : QEv) (hc : c ≤ m.maxIterations) (ht : syncTrips m c q = false) :
    chainedNext c q ≤ m.maxIterations := by
  rcases (syncTrips_eq_false m c q).1 ht with h | h
  · rw [chainedNext_ext c h]; exact hc
  · unfold chainedNext; split <;> omega

theorem syncPurge_eq_extOf (s : St) : (syncPurge s).queue = extOf s.queue := rfl
theorem syncPurge_status (s : St) : (syncPurge s).status = s.status := rfl

/-- **the cut discards marked entries only**: the external events queued are kept, all of them, in order -/
theorem extOf_syncPurge (s : St) : extOf (syncPurge s).queue = extOf s.queue := extOf_extOf s.queue
theorem syncPurge_all_ext (s : St) : ∀ q ∈ (syncPurge s).queue, q.self = false := by
  intro q hq
  rw [syncPurge_eq_extOf, extOf] at hq
  simpa using (List.mem_filter.1 hq).2
theorem cnt_syncPurge (s : St) : cntSelf (syncPurge s).queue = 0 ∧ cntExt (syncPurge s).queue = cntExt s.queue :=
  cnt_purge s.queue

theorem extOf_cons_ext {q : QEv} (l : List QEv) (h : q.self = false) : extOf (q :: l) = q :: extOf l := by
  unfold extOf; simp [h]
theorem extOf_cons_self {q : QEv} (l : List QEv) (h : q.self = true) : extOf (q :: l) = extOf l := by
  unfold extOf; simp [h]
theorem extOf_length (l : List QEv) : (extOf l).length = cntExt l := by
  unfold extOf cntExt; rw [List.countP_eq_length_filter]

/-- **one macrostep of the sync drain appends MARKED entries only** (everything a macrostep enqueues goes
    through `send()` while `_is_processing` is set) -/
theorem syncMacro_marked (m : Machine) (u : UEnv) (e : Ev) (s : St) :
    ∃ added, (syncMacro m u e s).queue = s.queue ++ added ∧ ∀ q ∈ added, q.self = true :=
  syncProcessed_marked m u e s

theorem syncMacro_cnt (m : Machine) (u : UEnv) (e : Ev) (s : St) :
    cntExt (syncMacro m u e s).queue = cntExt s.queue ∧ cntSelf s.queue ≤ cntSelf (syncMacro m u e s).queue ∧
      extOf (syncMacro m u e s).queue = extOf s.queue := by
  obtain ⟨added, hq, hm⟩ := syncMacro_marked m u e s
  rw [hq, cntExt_append, cntSelf_append, (cntSelf_all_true hm).2, extOf_append, extOf_marked hm]
  exact ⟨by omega, by omega, by simp⟩

/-! ## 2. the instrumented twins

Each twin follows the five cases of `drainLoop` (no fuel, empty queue, not running, the bound trips, a macrostep); its
five equations `_zero`, `_nil`, `_dead`, `_trip`, `_step` are what the inductions by `drainLoop_cases` rewrite with. -/

/-- twin of `drainLoop`: the number of queued events PROCESSED (dequeued and handed to `_process_event`) -/
def drainSteps (m : Machine) (u : UEnv) : Nat → Nat → St → Nat
  | 0, _, _ => 0
  | fuel + 1, c, s =>
    match s.queue with
    | [] => 0
    | q :: rest =>
      if s.status ≠ "running" then 0
      else if syncTrips m c q then drainSteps m u fuel 0 (syncPurge s)
      else if (syncMacro m u q.ev { s with queue := rest }).err.isSome then 1 else 1 + drainSteps m u fuel (chainedNext c q) (syncMacro m u q.ev { s with queue := rest })

theorem drainSteps_zero (m : Machine) (u : UEnv) (c : Nat) (s : St) : drainSteps m u 0 c s = 0 := rfl

theorem drainSteps_nil (m : Machine) (u : UEnv) (fuel c : Nat) (s : St) (hq : s.queue = []) :
    drainSteps m u (fuel + 1) c s = 0 := by
  rw [drainSteps, hq]

theorem drainSteps_dead (m : Machine) (u : UEnv) (fuel c : Nat) (s : St) (h : s.status ≠ "running") :
    drainSteps m u (fuel + 1) c s = 0 := by
  rw [drainSteps]; split
  · rfl
  · rw [if_pos h]

theorem drainSteps_trip (m : Machine) (u : UEnv) (fuel c : Nat) (s : St) (q : QEv) (rest : List QEv)
    (hq : s.queue = q :: rest) (hrun : s.status = "running") (ht : syncTrips m c q = true) :
    drainSteps m u (fuel + 1) c s = drainSteps m u fuel 0 (syncPurge s) := by
  rw [drainSteps, hq]; simp only [hrun, ht, ne_eq, not_true_eq_false, if_false, if_true]

theorem drainSteps_step (m : Machine) (u : UEnv) (fuel c : Nat) (s : St) (q : QEv) (rest : List QEv)
    (hq : s.queue = q :: rest) (hrun : s.status = "running") (ht : syncTrips m c q = false) :
    drainSteps m u (fuel + 1) c s =
      if (syncMacro m u q.ev { s with queue := rest }).err.isSome then 1 else 1 + drainSteps m u fuel (chainedNext c q) (syncMacro m u q.ev { s with queue := rest }) := by
  rw [drainSteps, hq]; simp only [hrun, ht, ne_eq, not_true_eq_false, if_false, Bool.false_eq_true]

/-- twin of `drainLoop`: the number of cuts (`chained > limit`: marked entries purged, counter reset) -/
def drainTrips (m : Machine) (u : UEnv) : Nat → Nat → St → Nat
  | 0, _, _ => 0
  | fuel + 1, c, s =>
    match s.queue with
    | [] => 0
    | q :: rest =>
      if s.status ≠ "running" then 0
      else if syncTrips m c q then 1 + drainTrips m u fuel 0 (syncPurge s)
      else if (syncMacro m u q.ev { s with queue := rest }).err.isSome then 0 else drainTrips m u fuel (chainedNext c q) (syncMacro m u q.ev { s with queue := rest })

theorem drainTrips_zero (m : Machine) (u : UEnv) (c : Nat) (s : St) : drainTrips m u 0 c s = 0 := rfl

theorem drainTrips_nil (m : Machine) (u : UEnv) (fuel c : Nat) (s : St) (hq : s.queue = []) :
    drainTrips m u (fuel + 1) c s = 0 := by
  rw [drainTrips, hq]

theorem drainTrips_dead (m : Machine) (u : UEnv) (fuel c : Nat) (s : St) (h : s.status ≠ "running") :
    drainTrips m u (fuel + 1) c s = 0 := by
  rw [drainTrips]; split
  · rfl
  · rw [if_pos h]

theorem drainTrips_trip (m : Machine) (u : UEnv) (fuel c : Nat) (s : St) (q : QEv) (rest : List QEv)
    (hq : s.queue = q :: rest) (hrun : s.status = "running") (ht : syncTrips m c q = true) :
    drainTrips m u (fuel + 1) c s = 1 + drainTrips m u fuel 0 (syncPurge s) := by
  rw [drainTrips, hq]; simp only [hrun, ht, ne_eq, not_true_eq_false, if_false, if_true]

theorem drainTrips_step (m : Machine) (u : UEnv) (fuel c : Nat) (s : St) (q : QEv) (rest : List QEv)
    (hq : s.queue = q :: rest) (hrun : s.status = "running") (ht : syncTrips m c q = false) :
    drainTrips m u (fuel + 1) c s =
      if (syncMacro m u q.ev { s with queue := rest }).err.isSome then 0 else drainTrips m u fuel (chainedNext c q) (syncMacro m u q.ev { s with queue := rest }) := by
  rw [drainTrips, hq]; simp only [hrun, ht, ne_eq, not_true_eq_false, if_false, Bool.false_eq_true]

/-- twin of `drainLoop`: the drain did not run to its natural end — a cut happened, or the MODEL's fuel ran
    out with events still queued on a running interpreter (never the case with `drainFuel`: `drainCut_iff_trips`) -/
def drainCut (m : Machine) (u : UEnv) : Nat → Nat → St → Bool
  | 0, _, s => !s.queue.isEmpty && decide (s.status = "running")
  | fuel + 1, c, s =>
    match s.queue with
    | [] => false
    | q :: rest =>
      if s.status ≠ "running" then false
      else if syncTrips m c q then true
      else if (syncMacro m u q.ev { s with queue := rest }).err.isSome then false else drainCut m u fuel (chainedNext c q) (syncMacro m u q.ev { s with queue := rest })

theorem drainCut_zero (m : Machine) (u : UEnv) (c : Nat) (s : St) : drainCut m u 0 c s = (!s.queue.isEmpty && decide (s.status = "running")) := rfl

theorem drainCut_nil (m : Machine) (u : UEnv) (fuel c : Nat) (s : St) (hq : s.queue = []) :
    drainCut m u (fuel + 1) c s = false := by
  rw [drainCut, hq]

theorem drainCut_dead (m : Machine) (u : UEnv) (fuel c : Nat) (s : St) (h : s.status ≠ "running") :
    drainCut m u (fuel + 1) c s = false := by
  rw [drainCut]; split
  · rfl
  · rw [if_pos h]

theorem drainCut_trip (m : Machine) (u : UEnv) (fuel c : Nat) (s : St) (q : QEv) (rest : List QEv)
    (hq : s.queue = q :: rest) (hrun : s.status = "running") (ht : syncTrips m c q = true) :
    drainCut m u (fuel + 1) c s = true := by
  rw [drainCut, hq]; simp only [hrun, ht, ne_eq, not_true_eq_false, if_false, if_true]

theorem drainCut_step (m : Machine) (u : UEnv) (fuel c : Nat) (s : St) (q : QEv) (rest : List QEv)
    (hq : s.queue = q :: rest) (hrun : s.status = "running") (ht : syncTrips m c q = false) :
    drainCut m u (fuel + 1) c s =
      if (syncMacro m u q.ev { s with queue := rest }).err.isSome then false else drainCut m u fuel (chainedNext c q) (syncMacro m u q.ev { s with queue := rest }) := by
  rw [drainCut, hq]; simp only [hrun, ht, ne_eq, not_true_eq_false, if_false, Bool.false_eq_true]

/-- twin of `drainLoop`: the MODEL's fuel ran out with events pending on a running interpreter (the code has
    no such bound: this would be a `send()` that does not return) -/
def drainHang (m : Machine) (u : UEnv) : Nat → Nat → St → Bool
  | 0, _, s => !s.queue.isEmpty && decide (s.status = "running")
  | fuel + 1, c, s =>
    match s.queue with
    | [] => false
    | q :: rest =>
      if s.status ≠ "running" then false
      else if syncTrips m c q then drainHang m u fuel 0 (syncPurge s)
      else if (syncMacro m u q.ev { s with queue := rest }).err.isSome then false else drainHang m u fuel (chainedNext c q) (syncMacro m u q.ev { s with queue := rest })

theorem drainHang_zero (m : Machine) (u : UEnv) (c : Nat) (s : St) : drainHang m u 0 c s = (!s.queue.isEmpty && decide (s.status = "running")) := rfl

theorem drainHang_nil (m : Machine) (u : UEnv) (fuel c : Nat) (s : St) (hq : s.queue = []) :
    drainHang m u (fuel + 1) c s = false := by
  rw [drainHang, hq]

theorem drainHang_dead (m : Machine) (u : UEnv) (fuel c : Nat) (s : St) (h : s.status ≠ "running") :
    drainHang m u (fuel + 1) c s = false := by
  rw [drainHang]; split
  · rfl
  · rw [if_pos h]

theorem drainHang_trip (m : Machine) (u : UEnv) (fuel c : Nat) (s : St) (q : QEv) (rest : List QEv)
    (hq : s.queue = q :: rest) (hrun : s.status = "running") (ht : syncTrips m c q = true) :
    drainHang m u (fuel + 1) c s = drainHang m u fuel 0 (syncPurge s) := by
  rw [drainHang, hq]; simp only [hrun, ht, ne_eq, not_true_eq_false, if_false, if_true]

theorem drainHang_step (m : Machine) (u : UEnv) (fuel c : Nat) (s : St) (q : QEv) (rest : List QEv)
    (hq : s.queue = q :: rest) (hrun : s.status = "running") (ht : syncTrips m c q = false) :
    drainHang m u (fuel + 1) c s =
      if (syncMacro m u q.ev { s with queue := rest }).err.isSome then false else drainHang m u fuel (chainedNext c q) (syncMacro m u q.ev { s with queue := rest }) := by
  rw [drainHang, hq]; simp only [hrun, ht, ne_eq, not_true_eq_false, if_false, Bool.false_eq_true]

theorem drainLogQ_zero (m : Machine) (u : UEnv) (c : Nat) (s : St) : drainLogQ m u 0 c s = [] := rfl

theorem drainLogQ_nil (m : Machine) (u : UEnv) (fuel c : Nat) (s : St) (hq : s.queue = []) :
    drainLogQ m u (fuel + 1) c s = [] := by
  rw [drainLogQ, hq]

theorem drainLogQ_dead (m : Machine) (u : UEnv) (fuel c : Nat) (s : St) (h : s.status ≠ "running") :
    drainLogQ m u (fuel + 1) c s = [] := by
  rw [drainLogQ]; split
  · rfl
  · rw [if_pos h]

theorem drainLogQ_trip (m : Machine) (u : UEnv) (fuel c : Nat) (s : St) (q : QEv) (rest : List QEv)
    (hq : s.queue = q :: rest) (hrun : s.status = "running") (ht : syncTrips m c q = true) :
    drainLogQ m u (fuel + 1) c s = drainLogQ m u fuel 0 (syncPurge s) := by
  rw [drainLogQ, hq]; simp only [hrun, ht, ne_eq, not_true_eq_false, if_false, if_true]

theorem drainLogQ_step (m : Machine) (u : UEnv) (fuel c : Nat) (s : St) (q : QEv) (rest : List QEv)
    (hq : s.queue = q :: rest) (hrun : s.status = "running") (ht : syncTrips m c q = false) :
    drainLogQ m u (fuel + 1) c s =
      q :: (if (syncMacro m u q.ev { s with queue := rest }).err.isSome = true then [] else drainLogQ m u fuel (chainedNext c q) (syncMacro m u q.ev { s with queue := rest })) := by
  rw [drainLogQ, hq]; simp only [hrun, ht, ne_eq, not_true_eq_false, if_false, Bool.false_eq_true]

theorem isSome_false_iff_none {α : Type} (o : Option α) : o.isSome = false ↔ o = none := by
  cases o <;> simp

theorem drainLoop_dead {m : Machine} {u : UEnv} (n c : Nat) {s : St} (hr : s.status ≠ "running") :
    drainLoop m u n c s = s ∨ drainLoop m u n c s = { s with queue := [] } := by
  cases n with
  | zero =>
    rw [drainLoop_zero]; split
    · exact Or.inl rfl
    · exact Or.inr rfl
  | succ n =>
    rw [drainLoop_not_running m u n c hr]; split
    · exact Or.inl rfl
    · exact Or.inr rfl

theorem drainTrips_of_not_cut (m : Machine) (u : UEnv) :
    ∀ fuel c s, drainCut m u fuel c s = false → drainTrips m u fuel c s = 0 := by
  apply drainLoop_cases m u (fun fuel c s => drainCut m u fuel c s = false → drainTrips m u fuel c s = 0)
  · intro c s _; rfl
  · intro fuel c s hq _; exact drainTrips_nil m u fuel c s hq
  · intro fuel c s hr _; exact drainTrips_dead m u fuel c s hr
  · intro fuel c s q rest hq hr ht _ hc
    rw [drainCut_trip m u fuel c s q rest hq hr ht] at hc
    exact absurd hc (by simp)
  · intro fuel c s q rest hq hr ht ih hc
    rw [drainCut_step m u fuel c s q rest hq hr ht] at hc
    rw [drainTrips_step m u fuel c s q rest hq hr ht]
    split
    · rfl
    · rename_i he
      rw [if_neg he] at hc
      exact ih (by simpa using he) hc

/-! ## 3. termination: the model fuel `drainFuel` always suffices -/

/-- the shape of both measures of the drain loop: `A + 1` per pending EXTERNAL event, plus — while a marked
    event is pending — the room the counter has left below `A` -/
def loopPot (A c : Nat) (q : List QEv) : Nat := cntExt q * (A + 1) + (if cntSelf q = 0 then 0 else A - c)

theorem room_le (A c x : Nat) : (if x = 0 then 0 else A - c) ≤ A - c := by split <;> omega

/-- dequeuing an external event pays `A + 1`, more than the room of any chain -/
theorem loopPot_ext (A c e x y : Nat) :
    e * (A + 1) + (if x = 0 then 0 else A - c) + 1 ≤ (1 + e) * (A + 1) + y := by
  have := room_le A c x
  rw [Nat.add_mul, Nat.one_mul]; omega

/-- dequeuing a marked event below the bound uses up one unit of room -/
theorem loopPot_self (A c e x cs : Nat) (h : c + 1 ≤ A) :
    e * (A + 1) + (if x = 0 then 0 else A - (c + 1)) + 1 ≤ e * (A + 1) + (if 1 + cs = 0 then 0 else A - c) := by
  have := room_le A (c + 1) x
  rw [if_neg (by omega : ¬ 1 + cs = 0)]; omega

theorem loopPot_step (m : Machine) (u : UEnv) (A c : Nat) (s : St) (q : QEv) (rest : List QEv)
    (hq : s.queue = q :: rest) (hA : m.maxIterations ≤ A) (ht : syncTrips m c q = false) :
    loopPot A (chainedNext c q) (syncMacro m u q.ev { s with queue := rest }).queue + 1 ≤ loopPot A c s.queue := by
  have h1 : cntExt (syncMacro m u q.ev { s with queue := rest }).queue = cntExt rest :=
    (syncMacro_cnt m u q.ev { s with queue := rest }).1
  unfold loopPot
  rw [h1, hq, cntExt_cons, cntSelf_cons]
  generalize cntSelf (syncMacro m u q.ev { s with queue := rest }).queue = x
  cases hs : q.self with
  | false => rw [chainedNext_ext c hs]; exact loopPot_ext A c _ x _
  | true =>
    have hlt : c + 1 ≤ m.maxIterations := ((syncTrips_eq_false m c q).1 ht).resolve_left (by simp [hs])
    rw [chainedNext_self c hs]
    simp only [if_true, Nat.zero_add]
    exact loopPot_self A c _ x _ (Nat.le_trans hlt hA)

/-- the measure of the drain loop: `L + 2` per pending EXTERNAL event (it is dequeued once; until the next
    one is, at most `L` marked events are processed and one cut happens), plus — while a marked event is
    pending — the room left below the bound, `L + 1 - chained` -/
def drainPot (L c : Nat) (q : List QEv) : Nat := cntExt q * (L + 2) + (if cntSelf q = 0 then 0 else L + 1 - c)

theorem drainPot_le_fuel (m : Machine) (s : St) : drainPot m.maxIterations 0 s.queue ≤ drainFuel m s := by
  unfold drainPot drainFuel
  rw [extCount_eq_cntExt, Nat.add_mul, Nat.one_mul]
  split <;> omega

theorem drainPot_step (m : Machine) (u : UEnv) (c : Nat) (s : St) (q : QEv) (rest : List QEv)
    (hq : s.queue = q :: rest) (ht : syncTrips m c q = false) :
    drainPot m.maxIterations (chainedNext c q) (syncMacro m u q.ev { s with queue := rest }).queue + 1 ≤
      drainPot m.maxIterations c s.queue :=
  loopPot_step m u (m.maxIterations + 1) c s q rest hq (Nat.le_succ _) ht

theorem drainPot_trip (m : Machine) (c : Nat) (s : St) (q : QEv) (rest : List QEv)
    (hq : s.queue = q :: rest) (hc : c ≤ m.maxIterations) (ht : syncTrips m c q = true) :
    drainPot m.maxIterations 0 (syncPurge s).queue + 1 ≤ drainPot m.maxIterations c s.queue := by
  obtain ⟨h1, h2⟩ := cnt_syncPurge s
  have hself := ((syncTrips_eq_true m c q).1 ht).1
  unfold drainPot
  rw [h1, h2, if_pos rfl]
  have : ¬ (cntSelf s.queue = 0) := by rw [hq, cntSelf_cons, hself]; simp
  rw [if_neg this]
  omega

/-- **the drain terminates**: with a fuel of at least the measure the model's fuel never runs out with events
    pending on a running interpreter — for every machine, user code, state and counter within the bound -/
theorem drain_no_hang_pot (m : Machine) (u : UEnv) :
    ∀ fuel c s, c ≤ m.maxIterations → drainPot m.maxIterations c s.queue ≤ fuel → drainHang m u fuel c s = false := by
  apply drainLoop_cases m u (fun fuel c s => c ≤ m.maxIterations → drainPot m.maxIterations c s.queue ≤ fuel →
    drainHang m u fuel c s = false)
  · intro c s hc hp
    rw [drainHang_zero, queue_nil_of_weight_zero (Nat.le_zero.1 hp) (Nat.succ_pos _) (by omega)]; rfl
  · intro fuel c s hq _ _; exact drainHang_nil m u fuel c s hq
  · intro fuel c s hr _ _; exact drainHang_dead m u fuel c s hr
  · intro fuel c s q rest hq hr ht ih hc hp
    rw [drainHang_trip m u fuel c s q rest hq hr ht]
    have := drainPot_trip m c s q rest hq hc ht
    exact ih (Nat.zero_le _) (by omega)
  · intro fuel c s q rest hq hr ht ih hc hp
    rw [drainHang_step m u fuel c s q rest hq hr ht]
    split
    · rfl
    · rename_i he
      have := drainPot_step m u c s q rest hq ht
      exact ih (by simpa using he) (chainedNext_le m c q hc ht) (by omega)

theorem drain_no_hang (m : Machine) (u : UEnv) (s : St) (F : Nat) (hF : drainFuel m s ≤ F) :
    drainHang m u F 0 s = false :=
  drain_no_hang_pot m u F 0 s (Nat.zero_le _) (Nat.le_trans (drainPot_le_fuel m s) hF)

theorem drain_fuel_mono (m : Machine) (u : UEnv) :
    ∀ fuel c s, drainHang m u fuel c s = false → ∀ fuel', fuel ≤ fuel' →
      drainLoop m u fuel' c s = drainLoop m u fuel c s ∧ drainLogQ m u fuel' c s = drainLogQ m u fuel c s := by
  apply drainLoop_cases m u (fun fuel c s => drainHang m u fuel c s = false → ∀ fuel', fuel ≤ fuel' →
      drainLoop m u fuel' c s = drainLoop m u fuel c s ∧ drainLogQ m u fuel' c s = drainLogQ m u fuel c s)
  · intro c s hh fuel' _
    cases fuel' with
    | zero => exact ⟨rfl, rfl⟩
    | succ k =>
      cases hq : s.queue with
      | nil =>
        rw [drainLoop_nil m u k c s hq, drainLogQ_nil m u k c s hq, drainLoop_zero, drainLogQ_zero]
        simp [hq]
      | cons q rest =>
        have hr : s.status ≠ "running" := by
          rw [drainHang_zero] at hh
          intro hr
          simp [hq, hr] at hh
        rw [drainLoop_not_running m u k c hr, drainLogQ_dead m u k c s hr, drainLoop_zero, drainLogQ_zero]
        simp [hq]
  · intro fuel c s hq _ fuel' hf
    obtain ⟨k, rfl⟩ : ∃ k, fuel' = k + 1 := ⟨fuel' - 1, by omega⟩
    rw [drainLoop_nil m u k c s hq, drainLogQ_nil m u k c s hq, drainLoop_nil m u fuel c s hq,
      drainLogQ_nil m u fuel c s hq]
    exact ⟨rfl, rfl⟩
  · intro fuel c s hr _ fuel' hf
    obtain ⟨k, rfl⟩ : ∃ k, fuel' = k + 1 := ⟨fuel' - 1, by omega⟩
    rw [drainLoop_not_running m u k c hr, drainLogQ_dead m u k c s hr, drainLoop_not_running m u fuel c hr,
      drainLogQ_dead m u fuel c s hr]
    exact ⟨rfl, rfl⟩
  · intro fuel c s q rest hq hr ht ih hh fuel' hf
    obtain ⟨k, rfl⟩ : ∃ k, fuel' = k + 1 := ⟨fuel' - 1, by omega⟩
    rw [drainHang_trip m u fuel c s q rest hq hr ht] at hh
    rw [drainLoop_trip m u k c s q rest hq hr ht, drainLogQ_trip m u k c s q rest hq hr ht,
      drainLoop_trip m u fuel c s q rest hq hr ht, drainLogQ_trip m u fuel c s q rest hq hr ht]
    exact ih hh k (by omega)
  · intro fuel c s q rest hq hr ht ih hh fuel' hf
    obtain ⟨k, rfl⟩ : ∃ k, fuel' = k + 1 := ⟨fuel' - 1, by omega⟩
    rw [drainHang_step m u fuel c s q rest hq hr ht] at hh
    rw [drainLoop_step m u k c s q rest hq hr ht, drainLogQ_step m u k c s q rest hq hr ht,
      drainLoop_step m u fuel c s q rest hq hr ht, drainLogQ_step m u fuel c s q rest hq hr ht]
    by_cases he : (syncMacro m u q.ev { s with queue := rest }).err.isSome = true
    · rw [if_pos he, if_pos he, if_pos he, if_pos he]; exact ⟨rfl, rfl⟩
    · rw [if_neg he] at hh
      rw [if_neg he, if_neg he, if_neg he, if_neg he]
      obtain ⟨h1, h2⟩ := ih (by simpa using he) hh k (by omega)
      exact ⟨h1, by rw [h2]⟩

/-- **the model fuel is irrelevant**: the drain the model runs (`drainFlagged`: fuel `drainFuel`) is the drain
    with ANY larger fuel — the real, fuel-less `while self._event_queue:` loop -/
theorem sync_fuel_irrelevant (m : Machine) (u : UEnv) (s : St) (F : Nat) (hF : drainFuel m s ≤ F) :
    drainLoop m u F 0 s = drainFlagged m u s ∧ drainLogQ m u F 0 s = drainLogQ m u (drainFuel m s) 0 s :=
  drain_fuel_mono m u (drainFuel m s) 0 s (drain_no_hang m u s _ (Nat.le_refl _)) F hF

theorem drainCut_iff_trips (m : Machine) (u : UEnv) :
    ∀ fuel c s, drainHang m u fuel c s = false → (drainCut m u fuel c s = true ↔ 0 < drainTrips m u fuel c s) := by
  apply drainLoop_cases m u (fun fuel c s => drainHang m u fuel c s = false →
    (drainCut m u fuel c s = true ↔ 0 < drainTrips m u fuel c s))
  · intro c s hh
    rw [drainHang_zero] at hh
    rw [drainCut_zero, drainTrips_zero, hh]
    simp
  · intro fuel c s hq _; rw [drainCut_nil m u fuel c s hq, drainTrips_nil m u fuel c s hq]; simp
  · intro fuel c s hr _; rw [drainCut_dead m u fuel c s hr, drainTrips_dead m u fuel c s hr]; simp
  · intro fuel c s q rest hq hr ht _ _
    rw [drainCut_trip m u fuel c s q rest hq hr ht, drainTrips_trip m u fuel c s q rest hq hr ht]
    simp only [true_iff]; omega
  · intro fuel c s q rest hq hr ht ih hh
    rw [drainHang_step m u fuel c s q rest hq hr ht] at hh
    rw [drainCut_step m u fuel c s q rest hq hr ht, drainTrips_step m u fuel c s q rest hq hr ht]
    by_cases he : (syncMacro m u q.ev { s with queue := rest }).err.isSome = true
    · rw [if_pos he, if_pos he]; simp
    · rw [if_neg he] at hh
      rw [if_neg he, if_neg he]
      exact ih (by simpa using he) hh

/-! ## 4. external events are never discarded by the bound -/

/-- **external events: a prefix of them is received, in order, the rest is still queued or was dropped by the
    status gate.** For every machine, user code, state, counter and fuel: the external (unmarked) events the
    drain received, followed by those still queued when it returns, are an initial segment of the external
    events that were queued when it started — none skipped, none duplicated, order kept, whatever marked
    entries (leftovers of a drain that raised, events raised meanwhile) are queued between them, and however
    often the bound cuts. **And none is discarded**: when the drain returns with the interpreter still "running"
    (the status gate did not fire) and the model's fuel did not run out (`drain_no_hang`: it never does with
    `drainFuel`), they ARE the external events that were queued at the start. -/
theorem drain_external (m : Machine) (u : UEnv) :
    ∀ fuel c s, (extOf (drainLogQ m u fuel c s) ++ extOf (drainLoop m u fuel c s).queue <+: extOf s.queue) ∧
      (drainHang m u fuel c s = false → (drainLoop m u fuel c s).status = "running" →
        extOf (drainLogQ m u fuel c s) ++ extOf (drainLoop m u fuel c s).queue = extOf s.queue) := by
  apply drainLoop_cases m u (fun fuel c s =>
    (extOf (drainLogQ m u fuel c s) ++ extOf (drainLoop m u fuel c s).queue <+: extOf s.queue) ∧
      (drainHang m u fuel c s = false → (drainLoop m u fuel c s).status = "running" →
        extOf (drainLogQ m u fuel c s) ++ extOf (drainLoop m u fuel c s).queue = extOf s.queue))
  · intro c s
    rw [drainLogQ_zero, drainLoop_zero, drainHang_zero]
    split
    · exact ⟨List.prefix_refl _, fun _ _ => rfl⟩
    · rename_i hq
      exact ⟨List.nil_prefix, fun hh hr => by simp [hq, show s.status = "running" from hr] at hh⟩
  · intro fuel c s hq; rw [drainLogQ_nil m u fuel c s hq, drainLoop_nil m u fuel c s hq]
    exact ⟨List.prefix_refl _, fun _ _ => rfl⟩
  · intro fuel c s hr
    refine ⟨?_, fun _ hrun => ?_⟩
    · rw [drainLogQ_dead m u fuel c s hr, drainLoop_not_running m u fuel c hr]
      split
      · exact List.prefix_refl _
      · exact List.nil_prefix
    · rcases drainLoop_dead (m := m) (u := u) (fuel + 1) c hr with h | h <;> rw [h] at hrun <;> exact absurd hrun hr
  · intro fuel c s q rest hq hr ht ih
    rw [drainLogQ_trip m u fuel c s q rest hq hr ht, drainLoop_trip m u fuel c s q rest hq hr ht,
      drainHang_trip m u fuel c s q rest hq hr ht]
    rw [extOf_syncPurge] at ih; exact ih
  · intro fuel c s q rest hq hr ht ih
    rw [drainLogQ_step m u fuel c s q rest hq hr ht, drainLoop_step m u fuel c s q rest hq hr ht,
      drainHang_step m u fuel c s q rest hq hr ht]
    have hM : extOf (syncMacro m u q.ev { s with queue := rest }).queue = extOf rest :=
      (syncMacro_cnt m u q.ev { s with queue := rest }).2.2
    have hcons : ∀ l : List QEv, extOf (q :: l) = extOf [q] ++ extOf l := fun l => extOf_append [q] l
    by_cases he : (syncMacro m u q.ev { s with queue := rest }).err.isSome = true
    · rw [if_pos he, if_pos he, hM, hq, hcons rest]
      exact ⟨List.prefix_refl _, fun _ _ => rfl⟩
    · rw [if_neg he, if_neg he, if_neg he, hq, hcons rest, hcons (drainLogQ _ _ _ _ _), List.append_assoc]
      obtain ⟨i1, i2⟩ := ih (by simpa using he)
      rw [hM] at i1 i2
      exact ⟨(List.prefix_append_right_inj _).2 i1, fun hh hrun => by rw [i2 hh hrun]⟩

/-- a drain that did not raise leaves NOTHING queued (processed, purged by a cut, or dropped by the status gate
    of a machine that stopped running) -/
theorem drainLoop_queue_nil_of_ok (m : Machine) (u : UEnv) :
    ∀ fuel c s, (drainLoop m u fuel c s).err = none → (drainLoop m u fuel c s).queue = [] := by
  apply drainLoop_cases m u (fun fuel c s => (drainLoop m u fuel c s).err = none → (drainLoop m u fuel c s).queue = [])
  · intro c s _
    rw [drainLoop_zero]; split
    · rename_i h; exact List.isEmpty_iff.1 h
    · rfl
  · intro fuel c s hq _; rw [drainLoop_nil m u fuel c s hq]; exact hq
  · intro fuel c s hr _
    rw [drainLoop_not_running m u fuel c hr]; split
    · assumption
    · rfl
  · intro fuel c s q rest hq hr ht ih he
    rw [drainLoop_trip m u fuel c s q rest hq hr ht] at he ⊢
    exact ih he
  · intro fuel c s q rest hq hr ht ih he
    rw [drainLoop_step m u fuel c s q rest hq hr ht] at he ⊢
    by_cases hs : (syncMacro m u q.ev { s with queue := rest }).err.isSome = true
    · rw [if_pos hs] at he
      rw [he] at hs; exact absurd hs (by simp)
    · rw [if_neg hs] at he ⊢
      exact ih (by simpa using hs) he

/-! ## 5. what one drain can do, whatever is queued -/

/-- **one drain processes at most `L + 1` events per external event queued when it starts, plus `L`** — a
    bound that does NOT depend on how many marked entries (leftovers of a drain that raised) are queued: the
    events processed are bounded by `loopPot L`, i.e. `L + 1` per pending external event (itself, and up to `L`
    marked events before the next cut), plus — while a marked event is pending — the room left below the bound. -/
theorem drainSteps_le_pot (m : Machine) (u : UEnv) :
    ∀ fuel c s, drainSteps m u fuel c s ≤ loopPot m.maxIterations c s.queue := by
  apply drainLoop_cases m u (fun fuel c s => drainSteps m u fuel c s ≤ loopPot m.maxIterations c s.queue)
  · intro c s; exact Nat.zero_le _
  · intro fuel c s hq; rw [drainSteps_nil m u fuel c s hq]; exact Nat.zero_le _
  · intro fuel c s hr; rw [drainSteps_dead m u fuel c s hr]; exact Nat.zero_le _
  · intro fuel c s q rest hq hr ht ih
    rw [drainSteps_trip m u fuel c s q rest hq hr ht]
    refine Nat.le_trans ih ?_
    unfold loopPot
    rw [(cnt_syncPurge s).1, (cnt_syncPurge s).2, if_pos rfl]
    omega
  · intro fuel c s q rest hq hr ht ih
    rw [drainSteps_step m u fuel c s q rest hq hr ht]
    have key := loopPot_step m u m.maxIterations c s q rest hq (Nat.le_refl _) ht
    split
    · omega
    · rename_i he
      have := ih (by simpa using he)
      omega

theorem drainSteps_le (m : Machine) (u : UEnv) (fuel : Nat) (s : St) :
    drainSteps m u fuel 0 s ≤ cntExt s.queue * (m.maxIterations + 1) + m.maxIterations := by
  refine Nat.le_trans (drainSteps_le_pot m u fuel 0 s) ?_
  unfold loopPot; split <;> omega

theorem drainLogQ_length (m : Machine) (u : UEnv) :
    ∀ fuel c s, (drainLogQ m u fuel c s).length = drainSteps m u fuel c s := by
  apply drainLoop_cases m u (fun fuel c s => (drainLogQ m u fuel c s).length = drainSteps m u fuel c s)
  · intro c s; rfl
  · intro fuel c s hq; rw [drainLogQ_nil m u fuel c s hq, drainSteps_nil m u fuel c s hq]; rfl
  · intro fuel c s hr; rw [drainLogQ_dead m u fuel c s hr, drainSteps_dead m u fuel c s hr]; rfl
  · intro fuel c s q rest hq hr ht ih
    rw [drainLogQ_trip m u fuel c s q rest hq hr ht, drainSteps_trip m u fuel c s q rest hq hr ht]; exact ih
  · intro fuel c s q rest hq hr ht ih
    rw [drainLogQ_step m u fuel c s q rest hq hr ht, drainSteps_step m u fuel c s q rest hq hr ht]
    split
    · rfl
    · rename_i he
      rw [List.length_cons, ih (by simpa using he)]; omega

/-- `K` bounds what one macrostep of this machine, with this user code, can enqueue -/
def MacroFanout (m : Machine) (u : UEnv) (K : Nat) : Prop :=
  ∀ (e : Ev) (s : St), (syncMacro m u e s).queue.length ≤ s.queue.length + K

theorem syncMacro_cntSelf_le {m : Machine} {u : UEnv} {K : Nat} (hK : MacroFanout m u K) (e : Ev) (s : St) :
    cntSelf (syncMacro m u e s).queue ≤ cntSelf s.queue + K := by
  obtain ⟨added, hq, hm⟩ := syncMacro_marked m u e s
  have := hK e s
  rw [hq, List.length_append] at this
  rw [hq, cntSelf_append, (cntSelf_all_true hm).1]
  omega

/-- **what a drain leaves queued.** The marked entries in the queue when a drain returns — in particular one
    that ended with an error, which keeps them — are at most the marked entries queued when it started (none
    of them if the bound cut at least once: a cut purges them all) plus `K` per event this drain processed;
    the whole queue grows by at most `K` per processed event. -/
theorem drain_leftovers (m : Machine) (u : UEnv) (K : Nat) (hK : MacroFanout m u K) :
    ∀ fuel c s,
      cntSelf (drainLoop m u fuel c s).queue ≤
        (if drainTrips m u fuel c s = 0 then cntSelf s.queue else 0) + K * drainSteps m u fuel c s ∧
      (drainLoop m u fuel c s).queue.length ≤ s.queue.length + K * drainSteps m u fuel c s := by
  have hgate : ∀ s : St, cntSelf (if s.queue = [] then s else { s with queue := [] }).queue ≤ cntSelf s.queue + 0 ∧
      (if s.queue = [] then s else { s with queue := [] }).queue.length ≤ s.queue.length + 0 := fun s => by
    split
    · exact ⟨Nat.le_refl _, Nat.le_refl _⟩
    · exact ⟨Nat.zero_le _, Nat.zero_le _⟩
  apply drainLoop_cases m u (fun fuel c s =>
      cntSelf (drainLoop m u fuel c s).queue ≤
        (if drainTrips m u fuel c s = 0 then cntSelf s.queue else 0) + K * drainSteps m u fuel c s ∧
      (drainLoop m u fuel c s).queue.length ≤ s.queue.length + K * drainSteps m u fuel c s)
  · intro c s
    rw [drainLoop_zero, drainTrips_zero, drainSteps_zero, if_pos rfl]
    simpa using hgate s
  · intro fuel c s hq
    rw [drainLoop_nil m u fuel c s hq, drainTrips_nil m u fuel c s hq, if_pos rfl]
    exact ⟨Nat.le_add_right _ _, Nat.le_add_right _ _⟩
  · intro fuel c s hr
    rw [drainLoop_not_running m u fuel c hr, drainTrips_dead m u fuel c s hr, drainSteps_dead m u fuel c s hr, if_pos rfl]
    exact hgate s
  · intro fuel c s q rest hq hr ht ih
    rw [drainLoop_trip m u fuel c s q rest hq hr ht, drainTrips_trip m u fuel c s q rest hq hr ht,
      drainSteps_trip m u fuel c s q rest hq hr ht, if_neg (by omega)]
    obtain ⟨i1, i2⟩ := ih
    rw [(cnt_syncPurge s).1] at i1
    have : (syncPurge s).queue.length ≤ s.queue.length := List.length_filter_le _ _
    exact ⟨by split at i1 <;> omega, by omega⟩
  · intro fuel c s q rest hq hr ht ih
    rw [drainLoop_step m u fuel c s q rest hq hr ht, drainTrips_step m u fuel c s q rest hq hr ht,
      drainSteps_step m u fuel c s q rest hq hr ht]
    have hM := syncMacro_cntSelf_le hK q.ev { s with queue := rest }
    have hL := hK q.ev { s with queue := rest }
    have hrest : cntSelf ({ s with queue := rest } : St).queue ≤ cntSelf s.queue ∧
        ({ s with queue := rest } : St).queue.length + 1 = s.queue.length := by
      show cntSelf rest ≤ _ ∧ rest.length + 1 = _
      rw [hq, cntSelf_cons]; exact ⟨Nat.le_add_left _ _, rfl⟩
    by_cases he : (syncMacro m u q.ev { s with queue := rest }).err.isSome = true
    · rw [if_pos he, if_pos he, if_pos he, if_pos rfl, Nat.mul_one]; omega
    · rw [if_neg he, if_neg he, if_neg he, Nat.mul_add, Nat.mul_one]
      obtain ⟨i1, i2⟩ := ih (by simpa using he)
      exact ⟨by split <;> split at i1 <;> omega, by omega⟩

/-! ## 6. an example machine for `Xsm/Properties/C13.lean` -/
namespace Ex
open XSM.Done.Ex

/-- a fan-out machine with a failing action: `E` raises `R` twice and then FAILS (`nope` is not implemented:
    the sync `send` raises, the drain is aborted, what is queued stays queued); `R` raises `R` twice; bound 3 -/
def fanErrM : Machine :=
  mkM 3 [("E", [tE 0 "E" [raiseA "R", raiseA "R", { type := "nope" }]]),
         ("R", [tE 1 "R" [{ type := "sawR" }, raiseA "R", raiseA "R"]])]
end Ex

end XSM.Term

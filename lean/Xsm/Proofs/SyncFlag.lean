import Xsm.Model.Lifecycle
/-
The `_is_processing` protocol of `SyncInterpreter.send` executed by two threads (`XSM.SyncFlag`):
test-then-set is not mutual exclusion; test-and-set is.
-/
namespace XSM.SyncFlag

/-- invariant of the ATOMIC protocol: the flag is set exactly while a thread is inside the region, at most
    one thread is, and no thread is ever at the separate "set the flag" statement -/
def Inv (s : S) : Prop :=
  s.flag = (s.pcA.inRegion || s.pcB.inRegion) ∧ Mutex s ∧ s.pcA ≠ .setFlag ∧ s.pcB ≠ .setFlag

theorem inv_init : Inv {} := by
  unfold Inv; decide

/-- The invariant as the running thread sees it (`other`: the other thread is inside the region): an atomic
    statement keeps it. Only the thread's own counter and the flag change, so this is the whole step. -/
theorem stmtAtomic_keeps (pc : PC) (other : Bool) (q p : Nat) (hpc : pc ≠ .setFlag)
    (hx : ¬ (pc.inRegion = true ∧ other = true)) :
    (stmtAtomic pc (pc.inRegion || other) q p).2.1
      = ((stmtAtomic pc (pc.inRegion || other) q p).1.inRegion || other) ∧
    ¬ ((stmtAtomic pc (pc.inRegion || other) q p).1.inRegion = true ∧ other = true) ∧
    (stmtAtomic pc (pc.inRegion || other) q p).1 ≠ .setFlag := by
  cases pc <;> cases other <;> simp [stmtAtomic, stmt, PC.inRegion] at hpc hx ⊢
  all_goals split <;> simp

theorem inv_step (s : S) (a : Bool) (h : Inv s) : Inv (step stmtAtomic s a) := by
  obtain ⟨hf, hx, hA, hB⟩ := h
  cases a
  · have := stmtAtomic_keeps s.pcB s.pcA.inRegion s.queue s.processed hB (hx ∘ And.symm)
    rw [Bool.or_comm, ← hf] at this
    exact ⟨this.1.trans (Bool.or_comm ..), this.2.1 ∘ And.symm, hA, this.2.2⟩
  · have := stmtAtomic_keeps s.pcA s.pcB.inRegion s.queue s.processed hA hx
    rw [← hf] at this
    exact ⟨this.1, this.2.1, this.2.2, hB⟩

theorem inv_run (sched : List Bool) (s : S) (h : Inv s) : Inv (run stmtAtomic sched s) :=
  List.foldlRecOn sched _ h (fun s hs a _ => inv_step s a hs)

end XSM.SyncFlag

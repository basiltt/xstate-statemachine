import Xsm.Model.Machine
import Xsm.Model.Str
/-!
The state tree and its dotted ids, before any semantics: `findKid` and `SNode.at` along a concatenated path,
and the round trip between a path and its id. `(m.idOf p).toList` is the machine id followed by `idTail p`
(a `'.'` and the key, for every key), and `splitDotL`, Python's `split(".")`, gives the keys back when they are
dot-free (`splitDotL_idTail`, `splitDot_idTail`); so `idTail` is injective on dot-free paths.
-/
namespace XSM

theorem findKid_some_mem {k : String} {ks : List (String × SNode)} {c : SNode}
    (h : findKid k ks = some c) : (k, c) ∈ ks := by
  induction ks with
  | nil => cases h
  | cons hd rest ih =>
    obtain ⟨k', n⟩ := hd
    simp only [findKid] at h
    split at h
    · rename_i hk; cases h; subst hk; exact List.mem_cons_self ..
    · exact List.mem_cons_of_mem _ (ih h)

theorem SNode.at_append (n : SNode) (a b : Path) : n.at (a ++ b) = (n.at a).bind (fun c => c.at b) := by
  induction a generalizing n with
  | nil => simp [SNode.at]
  | cons k a ih =>
    obtain ⟨d, ks⟩ := n
    simp only [List.cons_append, SNode.at]
    cases findKid k ks with
    | none => rfl
    | some c => exact ih c

namespace Spec

def keys (ks : List (String × SNode)) : List String := ks.map (·.1)

theorem findKid_mem {k : String} {ks : List (String × SNode)} {c : SNode}
    (h : findKid k ks = some c) : k ∈ keys ks :=
  List.mem_map_of_mem (f := (·.1)) (findKid_some_mem h)

theorem findKid_of_mem_nodup {k : String} {ks : List (String × SNode)} {c : SNode}
    (hnd : (keys ks).Nodup) (h : (k, c) ∈ ks) : findKid k ks = some c := by
  induction ks with
  | nil => cases h
  | cons hd rest ih =>
    obtain ⟨k', n⟩ := hd
    have hnd' := List.nodup_cons.1 hnd
    simp only [findKid]
    rcases List.mem_cons.1 h with h | h
    · cases h; exact if_pos rfl
    · have hne : k' ≠ k := fun heq => hnd'.1 (by subst heq; exact List.mem_map_of_mem (f := (·.1)) h)
      rw [if_neg hne]
      exact ih hnd'.2 h

theorem kid_unique {ks : List (String × SNode)} (hnd : (keys ks).Nodup) {k : String} {c c' : SNode}
    (h : (k, c) ∈ ks) (h' : (k, c') ∈ ks) : c = c' :=
  Option.some.inj ((findKid_of_mem_nodup hnd h).symm.trans (findKid_of_mem_nodup hnd h'))

theorem at_cons_some {d : StateDef} {kids : List (String × SNode)} {k : String} {p : Path} {n : SNode} :
    (SNode.mk d kids).at (k :: p) = some n ↔ ∃ c, findKid k kids = some c ∧ c.at p = some n := by
  simp only [SNode.at]
  cases findKid k kids <;> simp

theorem at_append (root : SNode) (p q : Path) (n : SNode) (h : root.at p = some n) :
    root.at (p ++ q) = n.at q := by
  rw [SNode.at_append, h]; rfl

theorem at_of_prefix {root : SNode} {p q : Path} {n : SNode} (hpq : p <+: q) (h : root.at q = some n) :
    ∃ n', root.at p = some n' := by
  obtain ⟨t, rfl⟩ := hpq
  rw [SNode.at_append] at h
  cases hp : root.at p with
  | none => rw [hp] at h; cases h
  | some n' => exact ⟨n', rfl⟩

theorem at_snoc (root : SNode) (p : Path) (d : StateDef) (kids : List (String × SNode)) (k : String)
    (h : root.at p = some (.mk d kids)) : root.at (p ++ [k]) = findKid k kids := by
  rw [at_append root p [k] _ h]
  simp only [SNode.at]
  cases findKid k kids <;> rfl

end Spec

/-! ### dotted ids -/

/-- the part of a state id after the machine id -/
def idTail (p : Path) : List Char := p.flatMap (fun k => '.' :: k.toList)

theorem idOf_toList (m : Machine) (p : Path) : (m.idOf p).toList = m.id.toList ++ idTail p := by
  unfold Machine.idOf
  generalize m.id = acc
  induction p generalizing acc with
  | nil => simp [idTail]
  | cons k ks ih =>
    simp only [List.foldl_cons]
    rw [ih]
    simp only [String.toList_append, idTail, List.flatMap_cons, List.append_assoc]
    rfl

theorem splitDotL_ne_nil (l : List Char) : splitDotL l ≠ [] := by
  cases l with
  | nil => simp [splitDotL]
  | cons c cs =>
    simp only [splitDotL]
    split
    · simp
    · split <;> simp

theorem splitDotL_dot (cs : List Char) : splitDotL ('.' :: cs) = [] :: splitDotL cs := by
  simp only [splitDotL]
  split
  · rename_i h; exact absurd h (splitDotL_ne_nil cs)
  · rename_i seg rest h; simp [h]

theorem splitDotL_nondot (c : Char) (cs : List Char) (hc : c ≠ '.') (seg : List Char)
    (rest : List (List Char)) (h : splitDotL cs = seg :: rest) :
    splitDotL (c :: cs) = (c :: seg) :: rest := by
  simp only [splitDotL, h, hc, if_false]

theorem splitDotL_append_dot (a b : List Char) :
    splitDotL (a ++ '.' :: b) = splitDotL a ++ splitDotL b := by
  induction a with
  | nil => simp [splitDotL_dot, splitDotL]
  | cons c a ih =>
    by_cases hc : c = '.'
    · subst hc
      simp only [List.cons_append, splitDotL_dot, ih, List.cons_append]
    · cases hs : splitDotL a with
      | nil => exact absurd hs (splitDotL_ne_nil a)
      | cons seg rest =>
        rw [List.cons_append, splitDotL_nondot c (a ++ '.' :: b) hc seg (rest ++ splitDotL b)
          (by rw [ih, hs]; rfl), splitDotL_nondot c a hc seg rest hs]
        rfl

theorem splitDotL_dotfree (a : List Char) (h : '.' ∉ a) : splitDotL a = [a] := by
  induction a with
  | nil => simp [splitDotL]
  | cons c a ih =>
    have hc : c ≠ '.' := fun e => h (by simp [e])
    have ha : '.' ∉ a := fun e => h (by simp [e])
    exact splitDotL_nondot c a hc a [] (ih ha)

theorem splitDotL_idTail (a : List Char) (ks : Path) (hks : ∀ k ∈ ks, '.' ∉ k.toList) :
    splitDotL (a ++ idTail ks) = splitDotL a ++ ks.map String.toList := by
  induction ks generalizing a with
  | nil => simp [idTail]
  | cons k ks ih =>
    have : a ++ idTail (k :: ks) = (a ++ '.' :: k.toList) ++ idTail ks := by
      simp [idTail]
    rw [this, ih _ (fun k' hk' => hks k' (by simp [hk'])), splitDotL_append_dot,
      splitDotL_dotfree k.toList (hks k (by simp))]
    simp

/-- segments of an id: the head (the machine id, a custom id), then the keys, all dot-free -/
theorem splitDot_idTail (t s : String) (p : Path) (ht : t.toList = s.toList ++ idTail p) (hs : '.' ∉ s.toList)
    (hp : ∀ k ∈ p, '.' ∉ k.toList) : splitDot t = s :: p := by
  unfold splitDot
  rw [ht, splitDotL_idTail _ _ hp, splitDotL_dotfree _ hs]
  simp [String.ofList_toList]

theorem splitDot_dotfree {s : String} (h : '.' ∉ s.toList) : splitDot s = [s] :=
  splitDot_idTail s s [] (List.append_nil _).symm h nofun

theorem idTail_inj {p q : Path} (hp : ∀ k ∈ p, '.' ∉ k.toList) (hq : ∀ k ∈ q, '.' ∉ k.toList)
    (h : idTail p = idTail q) : p = q := by
  have e := splitDotL_idTail [] p hp
  rw [h, splitDotL_idTail [] q hq] at e
  exact ((List.map_inj_right fun _ _ => String.toList_inj.1).1 (List.append_cancel_left e)).symm

end XSM

import Xsm.Model.Pure
import Xsm.Proofs.SnapshotRun
import Xsm.Proofs.Fifo
import Xsm.Proofs.Agree
/-
The pure transition API (C05, "the pure functions").

1. the probe's user environment `pureEnv u` depends on `u.a` only through WHICH names are registered, and is `u`
   itself when every action is a registered no-op or an unregistered built-in;
2. re-sorting a remembered list that `_record_history` produced is the identity (no injectivity of ids needed: an
   insertion sort leaves a list alone whose every element is ≤ all later ones);
3. `Quiescent`: what every state between two calls of the sync engine satisfies when the previous call did not
   raise; on such a state that is running, `restorePure m (capture s) = obsReset s`;
4. the chain: `pureChain` from `capture s` is `syncChain` from `s`.
-/
namespace XSM
namespace Pure
open Snap XSM.Done

/-! ### 1. the probe's user environment -/

/-- two user environments register the same action names (at every context and event) -/
def SameRegistered (u1 u2 : UEnv) : Prop := ∀ n c e, u1.a n c e = .missing ↔ u2.a n c e = .missing

theorem pureAct_of_registered (u : UEnv) (n : String) (c : Ctx) (e : String) (h : u.a n c e ≠ .missing) :
    pureAct u n c e = .ok c := by
  unfold pureAct
  cases hh : u.a n c e with
  | missing => exact absurd hh h
  | ok c' => rfl
  | raises => rfl
  | isAsync c' => rfl

theorem pureAct_of_missing (u : UEnv) (n : String) (c : Ctx) (e : String) (h : u.a n c e = .missing) :
    pureAct u n c e = if (canonicalBuiltin n).isSome then .missing else .ok c := by
  unfold pureAct; rw [h]

/-- the only outcomes the probe ever sees: "recorded, context as it was" or "not a user action" -/
theorem pureAct_cases (u : UEnv) (n : String) (c : Ctx) (e : String) :
    pureAct u n c e = .ok c ∨
      (pureAct u n c e = .missing ∧ u.a n c e = .missing ∧ (canonicalBuiltin n).isSome = true) := by
  by_cases h : u.a n c e = .missing
  · rw [pureAct_of_missing u n c e h]
    by_cases hb : (canonicalBuiltin n).isSome = true
    · right; rw [if_pos hb]; exact ⟨rfl, h, hb⟩
    · left; rw [if_neg hb]
  · left; exact pureAct_of_registered u n c e h

theorem pureAct_congr {u1 u2 : UEnv} (h : SameRegistered u1 u2) : pureAct u1 = pureAct u2 := by
  funext n c e
  by_cases h1 : u1.a n c e = .missing
  · rw [pureAct_of_missing u1 n c e h1, pureAct_of_missing u2 n c e ((h n c e).1 h1)]
  · rw [pureAct_of_registered u1 n c e h1, pureAct_of_registered u2 n c e (fun h2 => h1 ((h n c e).2 h2))]

theorem pureEnv_congr {u1 u2 : UEnv} (hg : u1.g = u2.g) (h : SameRegistered u1 u2) : pureEnv u1 = pureEnv u2 := by
  unfold pureEnv; rw [hg, pureAct_congr h]

/-- the API's own premise: context changes only through `assign` — every action is either a registered
    function that returns normally and leaves the context alone, or a built-in the user did not override -/
def ActsQuiet (u : UEnv) : Prop :=
  ∀ n c e, u.a n c e = .ok c ∨ (u.a n c e = .missing ∧ (canonicalBuiltin n).isSome = true)

theorem pureAct_of_quiet {u : UEnv} (h : ActsQuiet u) : pureAct u = u.a := by
  funext n c e
  rcases h n c e with h1 | ⟨h1, h2⟩
  · rw [pureAct_of_registered u n c e (by rw [h1]; exact fun hh => by cases hh), h1]
  · rw [pureAct_of_missing u n c e h1, if_pos h2, h1]

theorem pureEnv_of_quiet {u : UEnv} (h : ActsQuiet u) : pureEnv u = u := by
  unfold pureEnv; rw [pureAct_of_quiet h]

/-! ### 2. re-sorting a recorded list -/

theorem sortDI_of_diSorted (m : Machine) (hist : List (Path × List Path)) (h : DISorted m hist)
    (kv : Path × List Path) (hkv : kv ∈ hist) : sortDI m kv.2 = kv.2 :=
  sortBy_of_pairwise (depthIdLeM m) kv.2 (h kv hkv)

/-- what `transition()` does to the remembered history of a snapshot whose lists are in recorded order -/
theorem restoreHist_id (m : Machine) (hist : List (Path × List Path)) (h : DISorted m hist) :
    hist.map (fun kv => (kv.1, sortDI m kv.2)) = hist := by
  conv => rhs; rw [← List.map_id hist]
  apply List.map_congr_left
  intro kv hkv
  rw [sortDI_of_diSorted m hist h kv hkv]
  rfl

/-! ### 3. the states between two calls -/

/-- a state of the sync engine between two calls, the previous call not having raised -/
structure Quiescent (m : Machine) (s : St) : Prop where
  queue : s.queue = []
  rd : s.raiseDepth = 0
  status : s.status = "running" ∨ s.status = "done"
  hist : DISorted m s.hist

theorem Quiescent.obsReset {m : Machine} {s : St} (h : Quiescent m s) : Quiescent m (obsReset s) :=
  ⟨h.queue, h.rd, h.status, h.hist⟩

theorem capture_obsReset (s : St) : capture (obsReset s) = capture s := rfl

theorem restore_capture (m : Machine) (s : St) (hq : Quiescent m s) (hrun : s.status = "running") :
    restorePure m (capture s) = obsReset s := by
  cases s with
  | mk cfg hist queue status trace err ctx rd errors =>
    have h1 := hq.queue; have h2 := hq.rd; have h3 := hq.hist
    simp only at h1 h2 h3 hrun
    subst h1; subst h2; subst hrun
    simp only [restorePure, capture, Snap.obsReset, restoreHist_id m hist h3]

theorem capture_restore (m : Machine) (p : PureSnap) (hs : p.status = "active") (hd : DISorted m p.hist) :
    capture (restorePure m p) = p := by
  cases p with
  | mk cfg ctx status hist =>
    simp only at hs hd
    subst hs
    simp only [restorePure, capture, restoreHist_id m hist hd]
    rfl

-- the chain-breaker counter is an async affair: the sync engine never touches it
def rdRel (s s' : St) : Prop := s'.raiseDepth = s.raiseDepth
theorem rdRel_eng : EngRel rdRel where
  refl := fun _ => rfl
  trans := fun h1 h2 => Eq.trans h2 h1
  ctx := fun _ _ => rfl
  trace := fun _ _ => rfl
  err := fun _ _ => rfl
  expCut := fun _ _ => rfl
  cfg := fun _ _ => rfl
  hist := fun _ _ => rfl
  complete := by intro s; unfold complete rdRel; split <;> rfl

theorem enqueueQ_rd (b : Bool) (e : Ev) (s : St) : rdRel s (enqueueQ b e s) := by
  unfold enqueueQ rdRel; split <;> rfl
theorem hooksFlagged_rd (u : UEnv) (m : Machine) : HooksRel rdRel (hooksFlagged u m) :=
  ⟨enqueueQ_rd true, enqueueQ_rd true⟩

theorem syncMacro_rd (m : Machine) (u : UEnv) (e : Ev) (s : St) : (syncMacro m u e s).raiseDepth = s.raiseDepth :=
  processed_rel rdRel_eng _ (hooksFlagged_rd u m) .sync m u e s

theorem drainLoop_rd (m : Machine) (u : UEnv) (fuel c : Nat) (s : St) :
    (drainLoop m u fuel c s).raiseDepth = s.raiseDepth := by
  apply drainLoop_ind m u (fun s' => s'.raiseDepth = s.raiseDepth)
  · intro s' q h; exact h
  · intro s' e h; exact (syncMacro_rd m u e s').trans h
  · rfl

theorem syncSend_quiescent (m : Machine) (u : UEnv) (e : Ev) (s : St) (hq : Quiescent m s)
    (he : (syncSend m u e s).err = none) : Quiescent m (syncSend m u e s) := by
  by_cases hrun : s.status = "running"
  · refine ⟨Bisim.syncSend_queue_nil e (fun _ => hq.queue) he, ?_, ?_, syncSend_histQ (diSorted_recClosed m) u e s hq.hist⟩
    · rw [Bisim.syncSend_running e hrun, drainLoop_rd]; exact hq.rd
    · rw [Bisim.syncSend_running e hrun]
      rcases drainLoop_status m u (drainFuel m (Bisim.pushExt e s)) 0 (Bisim.pushExt e s) with h | ⟨_, h⟩
      · left; rw [h]; exact hrun
      · right; exact h
  · rw [syncSend_not_running m u e hrun]; exact hq

theorem syncEntered_rd (m : Machine) (u : UEnv) (s : St) : (Bisim.syncStartEntered m u s).raiseDepth = s.raiseDepth :=
  startEntered_rel rdRel_eng _ (hooksFlagged_rd u m) .sync m none { s with status := "running", ctx := m.ctx0 }

theorem syncStart_quiescent (m : Machine) (u : UEnv) (he : (syncStart m u {}).err = none) :
    Quiescent m (syncStart m u {}) := by
  refine ⟨Bisim.syncStart_queue_nil {} he, ?_, (syncStart_status m u {}).elim Or.inl (fun h => Or.inr h.2),
    start_histQ (diSorted_recClosed m) .sync u {} (fun _ h => by cases h)⟩
  -- a `start()` that does not raise went all the way to the drain
  rw [(Bisim.syncStart_of_ok he).2.2, drainLoop_rd]
  exact Eq.trans (transientLoop_rel rdRel_eng (hooksFlagged u m) (hooksFlagged_rd u m) .sync m u m.maxIterations
    _) (syncEntered_rd m u {})

/-! ### 4. the chain -/

/-- the sync engine driven as the harness drives it (each `send` from a cleared observation: `cmdO`),
    observed through `capture` / `reported`; the chain ends at the first call that raises -/
def syncChain (m : Machine) (u : UEnv) : St → List Ev → List (Except EErr (PureSnap × List String))
  | _, [] => []
  | s, e :: es =>
    match observe (cmdO .sync m u s e) with
    | .ok r => .ok r :: syncChain m u (cmdO .sync m u s e) es
    | .error x => [.error x]

/-- the states the sync engine goes through: after each `send` -/
def syncStates (m : Machine) (u : UEnv) : St → List Ev → List St
  | _, [] => []
  | s, e :: es => cmdO .sync m u s e :: syncStates m u (cmdO .sync m u s e) es

theorem observe_ok {s : St} {r : PureSnap × List String} (h : observe s = .ok r) :
    s.err = none ∧ r = (capture s, reported s) := by
  unfold observe at h
  cases he : s.err with
  | none => rw [he] at h; simp only at h; exact ⟨rfl, (Except.ok.inj h).symm⟩
  | some x => rw [he] at h; simp only at h; cases h

theorem observe_of_ok {s : St} (h : s.err = none) : observe s = .ok (capture s, reported s) := by
  unfold observe; rw [h]

theorem cmdO_sync (m : Machine) (u : UEnv) (s : St) (e : Ev) : cmdO .sync m u s e = syncSend m u e (obsReset s) := rfl

/-- **one call**: `transition()` on the snapshot captured from a quiescent state of the sync engine returns
    what the engine's own `send` returns from that state -/
theorem pureTransition_capture (m : Machine) (u : UEnv) (hu : ActsQuiet u) (s : St) (hq : Quiescent m s) (e : Ev) :
    pureTransition m u (capture s) e = observe (cmdO .sync m u s e) := by
  rcases hq.status with hrun | hdone
  · have hact : (capture s).status = "active" := by
      unfold capture; simp only [hrun]; decide
    unfold pureTransition
    rw [if_pos hact, pureEnv_of_quiet hu, restore_capture m s hq hrun, cmdO_sync]
  · have hact : ¬ (capture s).status = "active" := by
      unfold capture; simp only [hdone]; decide
    have hnr : (obsReset s).status ≠ "running" := by
      show s.status ≠ "running"; rw [hdone]; decide
    unfold pureTransition
    rw [if_neg hact, cmdO_sync, syncSend_not_running m u e hnr]
    rfl

theorem pureChain_eq_syncChain (m : Machine) (u : UEnv) (hu : ActsQuiet u) :
    ∀ (evs : List Ev) (s : St), Quiescent m s → pureChain m u (capture s) evs = syncChain m u s evs
  | [], _, _ => rfl
  | e :: es, s, hq => by
    simp only [pureChain, syncChain, pureTransition_capture m u hu s hq e]
    cases hobs : observe (cmdO .sync m u s e) with
    | error x => rfl
    | ok r =>
      obtain ⟨herr, hr⟩ := observe_ok hobs
      have hq' : Quiescent m (cmdO .sync m u s e) := syncSend_quiescent m u e _ hq.obsReset herr
      simp only [hr]
      rw [pureChain_eq_syncChain m u hu es _ hq']

theorem syncChain_of_ok (m : Machine) (u : UEnv) :
    ∀ (evs : List Ev) (s : St), (∀ x ∈ syncStates m u s evs, x.err = none) →
      syncChain m u s evs = (syncStates m u s evs).map (fun x => .ok (capture x, reported x))
  | [], _, _ => rfl
  | e :: es, s, h => by
    have h1 : (cmdO .sync m u s e).err = none := h _ (List.mem_cons_self ..)
    simp only [syncChain, syncStates, observe_of_ok h1, List.map_cons]
    rw [syncChain_of_ok m u es _ (fun x hx => h x (List.mem_cons_of_mem _ hx))]

end Pure
end XSM

import Xsm.Proofs.Lifecycle
import Xsm.Proofs.Termination
import Xsm.Proofs.SyncDrain
/-
For C04: what a drain receives, in which order, and what it writes. For the sync drain: what one macrostep appends
to the queue, the log of received events with its FIFO theorem, and the trace cut into one segment per dequeued
event; then the same for the async run loop.
-/
namespace XSM
open XSM.Done

theorem enqueueQ_eq (b : Bool) (e : Ev) (s : St) :
    enqueueQ b e s = if s.status = "running" then { s with queue := s.queue ++ [⟨e, b⟩] } else s := rfl

/-- the events the macrostep of `e` (run from `s`, `e` already dequeued) appended to the queue -/
def raisedBy (m : Machine) (u : UEnv) (e : Ev) (s : St) : List QEv := (syncMacro m u e s).queue.drop s.queue.length

theorem syncMacro_queue (m : Machine) (u : UEnv) (e : Ev) (s : St) :
    (syncMacro m u e s).queue = s.queue ++ raisedBy m u e s := by
  obtain ⟨x, hx⟩ := syncProcessed_queue m u e s
  unfold raisedBy
  rw [syncMacro_eq, ← hx]
  simp

/-- `raisedBy` on the async engine: what the step of `q` (already dequeued) appended to the queue -/
def asyncRaisedBy (m : Machine) (u : UEnv) (q : QEv) (s : St) : List QEv :=
  (asyncStep m u q s).queue.drop s.queue.length

theorem asyncStep_queue_eq (m : Machine) (u : UEnv) (q : QEv) (s : St) (hd : ¬ s.raiseDepth > m.maxIterations) :
    (asyncStep m u q s).queue = s.queue ++ asyncRaisedBy m u q s := by
  obtain ⟨l, _, hl, _⟩ := Term.asyncProcess_spec m u q.ev s
  unfold asyncRaisedBy
  rw [asyncStep_below_bound m u q s (Nat.le_of_not_lt hd), hl]
  simp

/-- what `send_events(es)` leaves queued on an interpreter with nothing queued: the events of `es`, unmarked -/
theorem pushAll_idle (es : List Ev) {s : St} (hq : s.queue = []) :
    (pushAll es s).queue = es.map (fun e => (⟨e, false⟩ : QEv)) := by
  show s.queue ++ _ = _
  rw [hq]; rfl

theorem unmarked_evs (es : List Ev) : (es.map (fun e => (⟨e, false⟩ : QEv))).map (·.ev) = es := by
  rw [List.map_map]; exact List.map_id _

theorem unmarked_ext (es : List Ev) : ∀ q ∈ es.map (fun e => (⟨e, false⟩ : QEv)), q.self = false := by
  intro q hq
  obtain ⟨e, _, rfl⟩ := List.mem_map.1 hq
  rfl

open XSM.Term in
theorem drainLog_zero (m : Machine) (u : UEnv) (c : Nat) (s : St) : drainLog m u 0 c s = [] := rfl

open XSM.Term in
theorem drainLog_cons (m : Machine) (u : UEnv) (fuel c : Nat) (s : St) (q : QEv) (rest : List QEv)
    (hq : s.queue = q :: rest) (hrun : s.status = "running") (ht : syncTrips m c q = false) :
    drainLog m u (fuel + 1) c s =
      q.ev :: (if (syncMacro m u q.ev { s with queue := rest }).err.isSome = true then []
               else drainLog m u fuel (chainedNext c q) (syncMacro m u q.ev { s with queue := rest })) := by
  unfold drainLog
  rw [drainLogQ_step m u fuel c s q rest hq hrun ht]
  split <;> simp

open XSM.Term in
theorem drainLog_trip (m : Machine) (u : UEnv) (fuel c : Nat) (s : St) (q : QEv) (rest : List QEv)
    (hq : s.queue = q :: rest) (hrun : s.status = "running") (ht : syncTrips m c q = true) :
    drainLog m u (fuel + 1) c s = drainLog m u fuel 0 (syncPurge s) := by
  unfold drainLog
  rw [drainLogQ_trip m u fuel c s q rest hq hrun ht]

open XSM.Term in
theorem drainLog_nil (m : Machine) (u : UEnv) (fuel c : Nat) (s : St) (hq : s.queue = []) :
    drainLog m u (fuel + 1) c s = [] := by
  unfold drainLog; rw [drainLogQ_nil m u fuel c s hq]; rfl

open XSM.Term in
theorem drainLog_not_running (m : Machine) (u : UEnv) (fuel c : Nat) (s : St) (h : s.status ≠ "running") :
    drainLog m u fuel c s = [] := by
  cases fuel with
  | zero => rfl
  | succ n => unfold drainLog; rw [drainLogQ_dead m u n c s h]; rfl

open XSM.Term in
/-- the instrumented step counter of C13 counts exactly the received events -/
theorem drainLog_length (m : Machine) (u : UEnv) (fuel c : Nat) (s : St) :
    (drainLog m u fuel c s).length = Term.drainSteps m u fuel c s := by
  unfold drainLog; rw [List.length_map]; exact drainLogQ_length m u fuel c s

/-- nothing cuts this drain short: the bound never trips (and the model's fuel suffices), the machine keeps
    running, no macrostep raises -/
def DrainClean (m : Machine) (u : UEnv) : Nat → Nat → St → Prop
  | 0, _, s => s.queue = []
  | fuel + 1, c, s =>
    match s.queue with
    | [] => True
    | q :: rest =>
      s.status = "running" ∧ syncTrips m c q = false ∧ (syncMacro m u q.ev { s with queue := rest }).err = none ∧
        DrainClean m u fuel (chainedNext c q) (syncMacro m u q.ev { s with queue := rest })

theorem DrainClean_cons (m : Machine) (u : UEnv) (fuel c : Nat) (s : St) (q : QEv) (rest : List QEv)
    (hq : s.queue = q :: rest) :
    DrainClean m u (fuel + 1) c s ↔
      (s.status = "running" ∧ syncTrips m c q = false ∧ (syncMacro m u q.ev { s with queue := rest }).err = none ∧
        DrainClean m u fuel (chainedNext c q) (syncMacro m u q.ev { s with queue := rest })) := by
  rw [DrainClean, hq]

instance decDrainClean (m : Machine) (u : UEnv) : ∀ (b c : Nat) (s : St), Decidable (DrainClean m u b c s)
  | 0, c, s => by unfold DrainClean; exact inferInstance
  | b + 1, c, s => by
    cases hq : s.queue with
    | nil => exact isTrue (by cases s; simp only at hq; subst hq; simp [DrainClean])
    | cons q rest =>
      have := decDrainClean m u b (chainedNext c q) (syncMacro m u q.ev { s with queue := rest })
      exact decidable_of_iff _ (DrainClean_cons m u b c s q rest hq).symm

/-- the events the macrosteps of this drain append to the queue, in the order they are appended -/
def drainRaised (m : Machine) (u : UEnv) : Nat → Nat → St → List Ev
  | 0, _, _ => []
  | fuel + 1, c, s =>
    match s.queue with
    | [] => []
    | q :: rest =>
      if s.status ≠ "running" then []
      else if syncTrips m c q then drainRaised m u fuel 0 (syncPurge s)
      else (raisedBy m u q.ev { s with queue := rest }).map (·.ev) ++ (if (syncMacro m u q.ev { s with queue := rest }).err.isSome then [] else drainRaised m u fuel (chainedNext c q) (syncMacro m u q.ev { s with queue := rest }))

theorem drainRaised_zero (m : Machine) (u : UEnv) (c : Nat) (s : St) : drainRaised m u 0 c s = ([]) := by
  simp only [drainRaised]

theorem drainRaised_nil (m : Machine) (u : UEnv) (fuel c : Nat) (s : St) (hq : s.queue = []) :
    drainRaised m u (fuel + 1) c s = [] := by
  rw [drainRaised, hq]

theorem drainRaised_dead (m : Machine) (u : UEnv) (fuel c : Nat) (s : St) (h : s.status ≠ "running") :
    drainRaised m u (fuel + 1) c s = [] := by
  rw [drainRaised]
  cases s.queue with
  | nil => rfl
  | cons q rest => exact if_pos h

theorem drainRaised_trip (m : Machine) (u : UEnv) (fuel c : Nat) (s : St) (q : QEv) (rest : List QEv)
    (hq : s.queue = q :: rest) (hrun : s.status = "running") (ht : syncTrips m c q = true) :
    drainRaised m u (fuel + 1) c s = drainRaised m u fuel 0 (syncPurge s) := by
  rw [drainRaised, hq]
  exact (if_neg (not_not_intro hrun)).trans (if_pos ht)

theorem drainRaised_step (m : Machine) (u : UEnv) (fuel c : Nat) (s : St) (q : QEv) (rest : List QEv)
    (hq : s.queue = q :: rest) (hrun : s.status = "running") (ht : syncTrips m c q = false) :
    drainRaised m u (fuel + 1) c s =
      (raisedBy m u q.ev { s with queue := rest }).map (·.ev) ++ (if (syncMacro m u q.ev { s with queue := rest }).err.isSome = true then [] else drainRaised m u fuel (chainedNext c q) (syncMacro m u q.ev { s with queue := rest })) := by
  rw [drainRaised, hq]
  exact (if_neg (not_not_intro hrun)).trans (if_neg (ht ▸ Bool.false_ne_true))

/-- **FIFO, exactly once (sync drain)**: a drain that nothing cuts short receives exactly the queued
    events, in queue order, each once, and THEN the events its macrosteps raised, in raise order; nothing is left queued -/
theorem drain_fifo (m : Machine) (u : UEnv) : ∀ (fuel c : Nat) (s : St), DrainClean m u fuel c s →
    drainLog m u fuel c s = s.queue.map (·.ev) ++ drainRaised m u fuel c s ∧ (drainLoop m u fuel c s).queue = [] := by
  intro fuel
  induction fuel with
  | zero => intro c s h; simp only [DrainClean] at h; rw [drainLoop_zero]; simp [drainLog_zero, drainRaised_zero, h]
  | succ n ih =>
    intro c s h
    cases hq : s.queue with
    | nil => rw [drainLog_nil m u n c s hq, drainRaised_nil m u n c s hq, drainLoop_nil m u n c s hq]; exact ⟨rfl, hq⟩
    | cons q rest =>
      obtain ⟨hrun, ht, herr, hc⟩ := (DrainClean_cons m u n c s q rest hq).1 h
      have hns : ¬ (syncMacro m u q.ev { s with queue := rest }).err.isSome = true := by rw [herr]; simp
      rw [drainLog_cons m u n c s q rest hq hrun ht, drainRaised_step m u n c s q rest hq hrun ht,
        drainLoop_step m u n c s q rest hq hrun ht, if_neg hns, if_neg hns, if_neg hns, (ih _ _ hc).1, syncMacro_queue]
      exact ⟨by simp, (ih _ _ hc).2⟩

open XSM.Term in
/-- **external events queued at the head when a drain starts are received first, in order.** `init` is a
    prefix of the queue consisting of EXTERNAL (unmarked) events — what `send()` / `send_events()` accepted on
    an interpreter with nothing queued, or whatever external events are at the head — `more` is the rest, and
    the model's fuel covers `init`. Then (1) the first events the drain receives ARE the events of `init`, in
    queue order, none skipped, none twice — as many of them as the drain receives at all (an external event
    never trips the bound, and is never purged); (2) a drain that returns with the interpreter still "running"
    and without raising has received ALL of `init`; (3) a drain that raises (a macrostep failed: the sync
    engine aborts the drain) leaves the part of `init` not yet received in the queue, in order, at its head.
    (The remaining way out: the machine completed / was stopped — the status gate of the drain then drops
    what is queued, as `send()` drops later events.) -/
theorem drain_initial (m : Machine) (u : UEnv) : ∀ (init : List QEv) (fuel c : Nat) (s : St) (more : List QEv),
    s.queue = init ++ more → (∀ q ∈ init, q.self = false) → init.length ≤ fuel →
    (drainLog m u fuel c s).take init.length = (init.map (·.ev)).take (drainLog m u fuel c s).length ∧
    ((drainLoop m u fuel c s).err = none → (drainLoop m u fuel c s).status = "running" →
      init.length ≤ (drainLog m u fuel c s).length) ∧
    (s.status = "running" → (drainLoop m u fuel c s).err ≠ none →
      init.drop (drainLog m u fuel c s).length <+: (drainLoop m u fuel c s).queue) := by
  intro init
  induction init with
  | nil =>
    intro fuel c s more _ _ _
    exact ⟨by simp, fun _ _ => Nat.zero_le _, fun _ _ => by simp⟩
  | cons q init' ih =>
    intro fuel c s more hq hext hB
    cases fuel with
    | zero => exact absurd hB (Nat.not_succ_le_zero _)
    | succ b =>
    have hq' : s.queue = q :: (init' ++ more) := hq
    have hB' : init'.length ≤ b := Nat.le_of_succ_le_succ hB
    have hext' : ∀ x ∈ init', x.self = false := fun x hx => hext x (List.mem_cons_of_mem _ hx)
    have ht : syncTrips m c q = false := syncTrips_ext m c (hext q List.mem_cons_self)
    by_cases hrun : s.status = "running"
    · rw [drainLog_cons m u b c s q _ hq' hrun ht, drainLoop_step m u b c s q _ hq' hrun ht]
      have hsq : (syncMacro m u q.ev { s with queue := init' ++ more }).queue =
          init' ++ (more ++ raisedBy m u q.ev { s with queue := init' ++ more }) := by
        rw [syncMacro_queue]; exact List.append_assoc _ _ _
      by_cases herr : (syncMacro m u q.ev { s with queue := init' ++ more }).err.isSome = true
      · rw [if_pos herr, if_pos herr]
        refine ⟨by simp, fun h => ?_, fun _ _ => ?_⟩
        · rw [h] at herr; exact absurd herr Bool.false_ne_true
        · rw [hsq]; exact List.prefix_append _ _
      · rw [if_neg herr, if_neg herr]
        obtain ⟨i1, i2, i3⟩ := ih b (chainedNext c q) _ _ hsq hext' hB'
        refine ⟨congrArg (q.ev :: ·) i1, fun h1 h2 => Nat.succ_le_succ (i2 h1 h2), fun _ h => ?_⟩
        by_cases hr' : (syncMacro m u q.ev { s with queue := init' ++ more }).status = "running"
        · exact i3 hr' h
        · -- the machine stopped running without raising: the rest of the drain raises nothing either
          have hnone : (syncMacro m u q.ev { s with queue := init' ++ more }).err = none := by
            cases hx : (syncMacro m u q.ev { s with queue := init' ++ more }).err with
            | none => rfl
            | some _ => rw [hx] at herr; exact absurd rfl herr
          refine absurd ?_ h
          rcases Term.drainLoop_dead (m := m) (u := u) b _ hr' with h | h <;> rw [h] <;> exact hnone
    · rw [drainLog_not_running m u _ c s hrun, drainLoop_not_running m u b c hrun]
      refine ⟨rfl, fun _ h2 => absurd ?_ hrun, fun h => absurd h hrun⟩
      split at h2 <;> exact h2

open XSM.Term in
/-- **a drain in which at most `maxIterations` MARKED events come up is never cut**: the marked entries queued
    when it starts (`cntSelf`: leftovers of a drain that raised, what `start()` queued) plus the events its
    macrosteps enqueue (`drainRaised`: every `raise`, every `done.state.*`, every `send` to itself, over all
    events processed) plus the counter at the start within the bound — however many EXTERNAL events are queued -/
theorem drainTrips_zero_of_raised (m : Machine) (u : UEnv) : ∀ (fuel c : Nat) (s : St),
    c + cntSelf s.queue + (drainRaised m u fuel c s).length ≤ m.maxIterations → Term.drainTrips m u fuel c s = 0 := by
  apply drainLoop_cases m u (fun fuel c s =>
    c + cntSelf s.queue + (drainRaised m u fuel c s).length ≤ m.maxIterations → Term.drainTrips m u fuel c s = 0)
  · intro c s _; rfl
  · intro fuel c s hq _; exact drainTrips_nil m u fuel c s hq
  · intro fuel c s hr _; exact drainTrips_dead m u fuel c s hr
  · intro fuel c s q rest hq hr ht _ h
    exfalso
    obtain ⟨hself, hlt⟩ := (syncTrips_eq_true m c q).1 ht
    rw [hq, cntSelf_cons, hself] at h
    simp only [if_true] at h
    omega
  · intro fuel c s q rest hq hr ht ih h
    rw [drainTrips_step m u fuel c s q rest hq hr ht]
    split
    · rfl
    · rename_i he
      rw [drainRaised_step m u fuel c s q rest hq hr ht, if_neg he, List.length_append, List.length_map] at h
      apply ih (by simpa using he)
      obtain ⟨added, hqa, hm⟩ := syncMacro_marked m u q.ev { s with queue := rest }
      have hrb : raisedBy m u q.ev { s with queue := rest } = added := by
        unfold raisedBy; rw [hqa]; simp
      rw [hrb] at h
      rw [hqa, cntSelf_append, (cntSelf_all_true hm).1]
      rw [hq, cntSelf_cons] at h
      show chainedNext c q + (cntSelf rest + added.length) + _ ≤ _
      have hc' : chainedNext c q = c + (if q.self = true then 1 else 0) := by
        unfold chainedNext; split <;> rfl
      generalize chainedNext c q = c' at h hc' ⊢
      omega

/-- a record written during the macrostep of `e`: by a transition taken for `e`, or by an eventless
    (`always`) transition while settling -/
def MacroRec (e : Ev) (r : String) : Prop := TransRec e.type r ∨ TransRec "" r

theorem transientLoop_adds (h : Hooks) (htr : HooksTraceOK h) (fl : Flavor) (m : Machine) (u : UEnv) :
    ∀ (fuel : Nat) (s : St), Adds (TransRec "") s (transientLoop h fl m u fuel s) := by
  intro fuel
  induction fuel with
  | zero => intro s; exact Adds.refl _ _
  | succ n ih =>
    intro s
    simp only [transientLoop]
    split
    · exact Adds.refl _ _
    · split
      · exact Adds.of_eq (fail_trace _ _)
      · split
        · exact Adds.trans (processEvent_adds h htr fl m u (.user "") s) (ih _)
        · exact Adds.refl _ _

theorem macro_adds (h : Hooks) (htr : HooksTraceOK h) (fl : Flavor) (m : Machine) (u : UEnv) (e : Ev) (s : St) :
    Adds (MacroRec e) s (transientLoop h fl m u m.maxIterations (processEvent h fl m u e s)) :=
  Adds.trans ((processEvent_adds h htr fl m u e _).mono (fun _ h => Or.inl h))
    ((transientLoop_adds h htr fl m u _ _).mono (fun _ h => Or.inr h))

theorem syncMacro_adds (m : Machine) (u : UEnv) (e : Ev) (s : St) :
    Adds (MacroRec e) (emit ("#recv:" ++ e.type) s) (syncMacro m u e s) :=
  macro_adds (hooksFlagged u m) (hooksFlagged_traceOK u m) .sync m u e _

/-- the records of the macrostep of `e` after its `#recv` record -/
def macroRecords (m : Machine) (u : UEnv) (e : Ev) (s : St) : List String :=
  delta (emit ("#recv:" ++ e.type) s) (syncMacro m u e s)

theorem syncMacro_chron (m : Machine) (u : UEnv) (e : Ev) (s : St) :
    (syncMacro m u e s).chron = s.chron ++ ("#recv:" ++ e.type) :: macroRecords m u e s := by
  rw [(syncMacro_adds m u e s).chron.1, chron_emit]
  simp [macroRecords]

theorem macroRecords_spec (m : Machine) (u : UEnv) (e : Ev) (s : St) : ∀ r ∈ macroRecords m u e s, MacroRec e r :=
  (syncMacro_adds m u e s).chron.2

/-- the macrosteps of a drain: the dequeued event with the records written while it was processed -/
def drainSegs (m : Machine) (u : UEnv) : Nat → Nat → St → List (Ev × List String)
  | 0, _, _ => []
  | fuel + 1, c, s =>
    match s.queue with
    | [] => []
    | q :: rest =>
      if s.status ≠ "running" then []
      else if syncTrips m c q then drainSegs m u fuel 0 (syncPurge s)
      else (q.ev, macroRecords m u q.ev { s with queue := rest }) :: (if (syncMacro m u q.ev { s with queue := rest }).err.isSome then [] else drainSegs m u fuel (chainedNext c q) (syncMacro m u q.ev { s with queue := rest }))

theorem drainSegs_zero (m : Machine) (u : UEnv) (c : Nat) (s : St) : drainSegs m u 0 c s = ([]) := by
  simp only [drainSegs]

theorem drainSegs_nil (m : Machine) (u : UEnv) (fuel c : Nat) (s : St) (hq : s.queue = []) :
    drainSegs m u (fuel + 1) c s = [] := by
  rw [drainSegs, hq]

theorem drainSegs_trip (m : Machine) (u : UEnv) (fuel c : Nat) (s : St) (q : QEv) (rest : List QEv)
    (hq : s.queue = q :: rest) (hrun : s.status = "running") (ht : syncTrips m c q = true) :
    drainSegs m u (fuel + 1) c s = drainSegs m u fuel 0 (syncPurge s) := by
  rw [drainSegs, hq]
  exact (if_neg (not_not_intro hrun)).trans (if_pos ht)

theorem drainSegs_step (m : Machine) (u : UEnv) (fuel c : Nat) (s : St) (q : QEv) (rest : List QEv)
    (hq : s.queue = q :: rest) (hrun : s.status = "running") (ht : syncTrips m c q = false) :
    drainSegs m u (fuel + 1) c s =
      (q.ev, macroRecords m u q.ev { s with queue := rest }) :: (if (syncMacro m u q.ev { s with queue := rest }).err.isSome = true then [] else drainSegs m u fuel (chainedNext c q) (syncMacro m u q.ev { s with queue := rest })) := by
  rw [drainSegs, hq]
  exact (if_neg (not_not_intro hrun)).trans (if_neg (ht ▸ Bool.false_ne_true))

theorem drainSegs_not_running (m : Machine) (u : UEnv) (fuel c : Nat) (s : St) (h : s.status ≠ "running") :
    drainSegs m u fuel c s = [] := by
  cases fuel with
  | zero => rfl
  | succ n =>
    rw [drainSegs]
    cases s.queue with
    | nil => rfl
    | cons q rest => exact if_pos h

/-- how one macrostep shows in the trace: its `#recv` record, then its own records -/
def segRecords (p : Ev × List String) : List String := ("#recv:" ++ p.1.type) :: p.2

open XSM.Term in
/-- **run-to-completion structure of the trace**: what a drain appends to the trace is the concatenation,
    per dequeued event and in dequeue order, of `#recv:e · records of e's macrostep` — whatever happens
    (cuts, error, completion) -/
theorem drain_chron (m : Machine) (u : UEnv) : ∀ (fuel c : Nat) (s : St),
    (drainLoop m u fuel c s).chron = s.chron ++ (drainSegs m u fuel c s).flatMap segRecords := by
  apply drainLoop_cases m u (fun fuel c s =>
    (drainLoop m u fuel c s).chron = s.chron ++ (drainSegs m u fuel c s).flatMap segRecords)
  · intro c s
    rw [drainLoop_zero, drainSegs_zero]
    split <;> simp [St.chron]
  · intro fuel c s hq; rw [drainLoop_nil m u fuel c s hq, drainSegs_nil m u fuel c s hq]; simp
  · intro fuel c s hr
    rw [drainLoop_not_running m u fuel c hr, drainSegs_not_running m u _ c s hr]
    split <;> simp [St.chron]
  · intro fuel c s q rest hq hr ht ih
    rw [drainLoop_trip m u fuel c s q rest hq hr ht, drainSegs_trip m u fuel c s q rest hq hr ht, ih]
    rfl
  · intro fuel c s q rest hq hr ht ih
    rw [drainLoop_step m u fuel c s q rest hq hr ht, drainSegs_step m u fuel c s q rest hq hr ht]
    have hc := syncMacro_chron m u q.ev { s with queue := rest }
    have hs : ({ s with queue := rest } : St).chron = s.chron := rfl
    rw [hs] at hc
    split
    · rw [hc]; simp [segRecords]
    · rename_i he
      rw [ih (by simpa using he), hc]; simp [segRecords]

open XSM.Term in
theorem drainSegs_events (m : Machine) (u : UEnv) : ∀ (fuel c : Nat) (s : St),
    (drainSegs m u fuel c s).map (·.1) = drainLog m u fuel c s := by
  apply drainLoop_cases m u (fun fuel c s => (drainSegs m u fuel c s).map (·.1) = drainLog m u fuel c s)
  · intro c s; rfl
  · intro fuel c s hq; rw [drainSegs_nil m u fuel c s hq, drainLog_nil m u fuel c s hq]; rfl
  · intro fuel c s hr; rw [drainSegs_not_running m u _ c s hr, drainLog_not_running m u _ c s hr]; rfl
  · intro fuel c s q rest hq hr ht ih
    rw [drainSegs_trip m u fuel c s q rest hq hr ht, drainLog_trip m u fuel c s q rest hq hr ht]; exact ih
  · intro fuel c s q rest hq hr ht ih
    rw [drainSegs_step m u fuel c s q rest hq hr ht, drainLog_cons m u fuel c s q rest hq hr ht]
    split
    · simp
    · rename_i he
      simp [ih (by simpa using he)]

open XSM.Term in
theorem drainSegs_records (m : Machine) (u : UEnv) : ∀ (fuel c : Nat) (s : St),
    ∀ p ∈ drainSegs m u fuel c s, ∀ r ∈ p.2, MacroRec p.1 r := by
  apply drainLoop_cases m u (fun fuel c s => ∀ p ∈ drainSegs m u fuel c s, ∀ r ∈ p.2, MacroRec p.1 r)
  · intro c s p hp; simp [drainSegs] at hp
  · intro fuel c s hq p hp; rw [drainSegs_nil m u fuel c s hq] at hp; simp at hp
  · intro fuel c s hr p hp; rw [drainSegs_not_running m u _ c s hr] at hp; simp at hp
  · intro fuel c s q rest hq hr ht ih p hp
    rw [drainSegs_trip m u fuel c s q rest hq hr ht] at hp; exact ih p hp
  · intro fuel c s q rest hq hr ht ih p hp
    rw [drainSegs_step m u fuel c s q rest hq hr ht] at hp
    rcases List.mem_cons.1 hp with hp | hp
    · subst hp; exact macroRecords_spec m u q.ev _
    · split at hp
      · simp at hp
      · rename_i he
        exact ih (by simpa using he) p hp

theorem asyncLogQ_cons (m : Machine) (u : UEnv) (fuel : Nat) (s : St) (q : QEv) (rest : List QEv)
    (hq : s.queue = q :: rest) (hrun : s.status = "running") :
    asyncLogQ m u (fuel + 1) s =
      (if asyncReceives m q s = true then [q] else []) ++
        asyncLogQ m u fuel (asyncStep m u q { s with queue := rest }) := by
  rw [asyncLogQ, if_neg (not_not_intro hrun), hq]

theorem asyncLogQ_nil (m : Machine) (u : UEnv) (fuel : Nat) (s : St) (hq : s.queue = []) :
    asyncLogQ m u (fuel + 1) s = [] := by
  rw [asyncLogQ, hq]
  exact ite_self _

theorem asyncLogQ_not_running (m : Machine) (u : UEnv) (fuel : Nat) (s : St) (h : s.status ≠ "running") :
    asyncLogQ m u fuel s = [] := by
  cases fuel with
  | zero => rfl
  | succ n => simp only [asyncLogQ, h, ne_eq, not_false_eq_true, if_true]

theorem asyncReceives_eq_true (m : Machine) (q : QEv) (s : St) :
    asyncReceives m q s = true ↔ ¬ (s.raiseDepth > m.maxIterations ∧ q.self = true) := by
  unfold asyncReceives
  by_cases hd : s.raiseDepth > m.maxIterations <;> cases hq : q.self <;> simp [hd]

/-- an EXTERNAL event is always handed to `on_event_received` / `_process_event` -/
theorem asyncReceives_external (m : Machine) (q : QEv) (s : St) (hq : q.self = false) : asyncReceives m q s = true := by
  unfold asyncReceives; simp [hq]

theorem asyncLog_cons (m : Machine) (u : UEnv) (fuel : Nat) (s : St) (q : QEv) (rest : List QEv)
    (hq : s.queue = q :: rest) (hrun : s.status = "running") :
    asyncLog m u (fuel + 1) s =
      (if asyncReceives m q s = true then [q.ev] else []) ++
        asyncLog m u fuel (asyncStep m u q { s with queue := rest }) := by
  unfold asyncLog
  rw [asyncLogQ_cons m u fuel s q rest hq hrun, List.map_append]
  split <;> rfl

theorem asyncLog_nil (m : Machine) (u : UEnv) (fuel : Nat) (s : St) (hq : s.queue = []) :
    asyncLog m u (fuel + 1) s = [] := by
  unfold asyncLog; rw [asyncLogQ_nil m u fuel s hq]; rfl

/-- nothing cuts this run of the loop short: the MODEL's fuel suffices, the machine keeps running while
    events are queued, the chain breaker never trips -/
def AsyncClean (m : Machine) (u : UEnv) : Nat → St → Prop
  | 0, s => s.queue = []
  | fuel + 1, s =>
    match s.queue with
    | [] => True
    | q :: rest =>
      s.status = "running" ∧ ¬ s.raiseDepth > m.maxIterations ∧
        AsyncClean m u fuel (asyncStep m u q { s with queue := rest })

theorem AsyncClean_cons (m : Machine) (u : UEnv) (fuel : Nat) (s : St) (q : QEv) (rest : List QEv)
    (hq : s.queue = q :: rest) :
    AsyncClean m u (fuel + 1) s ↔
      (s.status = "running" ∧ ¬ s.raiseDepth > m.maxIterations ∧
        AsyncClean m u fuel (asyncStep m u q { s with queue := rest })) := by
  rw [AsyncClean, hq]

instance decAsyncClean (m : Machine) (u : UEnv) : ∀ (f : Nat) (s : St), Decidable (AsyncClean m u f s)
  | 0, s => by unfold AsyncClean; exact inferInstance
  | f + 1, s => by
    cases hq : s.queue with
    | nil => exact isTrue (by cases s; simp only at hq; subst hq; simp [AsyncClean])
    | cons q rest =>
      have := decAsyncClean m u f (asyncStep m u q { s with queue := rest })
      exact decidable_of_iff _ (AsyncClean_cons m u f s q rest hq).symm

/-- `drainRaised` on the async engine: what the steps of `asyncDrain` append, in order -/
def asyncRaised (m : Machine) (u : UEnv) : Nat → St → List Ev
  | 0, _ => []
  | fuel + 1, s =>
    match s.queue with
    | [] => []
    | q :: rest =>
      (asyncRaisedBy m u q { s with queue := rest }).map (·.ev) ++
        asyncRaised m u fuel (asyncStep m u q { s with queue := rest })

theorem asyncRaised_cons (m : Machine) (u : UEnv) (fuel : Nat) (s : St) (q : QEv) (rest : List QEv)
    (hq : s.queue = q :: rest) :
    asyncRaised m u (fuel + 1) s =
      (asyncRaisedBy m u q { s with queue := rest }).map (·.ev) ++
        asyncRaised m u fuel (asyncStep m u q { s with queue := rest }) := by
  rw [asyncRaised, hq]

theorem asyncRaised_nil (m : Machine) (u : UEnv) (fuel : Nat) (s : St) (hq : s.queue = []) :
    asyncRaised m u (fuel + 1) s = [] := by
  rw [asyncRaised, hq]

/-- **FIFO, exactly once (async run loop)** -/
theorem async_fifo (m : Machine) (u : UEnv) : ∀ (fuel : Nat) (s : St), AsyncClean m u fuel s →
    asyncLog m u fuel s = s.queue.map (·.ev) ++ asyncRaised m u fuel s ∧ (asyncDrain m u fuel s).queue = [] := by
  intro fuel
  induction fuel with
  | zero =>
    intro s h
    simp only [AsyncClean] at h
    refine ⟨by simp [asyncLog, asyncLogQ, asyncRaised, h], ?_⟩
    simp only [asyncDrain]
    split
    · exact h
    · exact h
  | succ n ih =>
    intro s h
    cases hq : s.queue with
    | nil =>
      rw [asyncLog_nil m u n s hq, asyncRaised_nil m u n s hq, asyncDrain_queue_nil m u _ hq]
      exact ⟨rfl, hq⟩
    | cons q rest =>
      obtain ⟨hrun, hd, hc⟩ := (AsyncClean_cons m u n s q rest hq).1 h
      obtain ⟨h1, h2⟩ := ih _ hc
      have hd' : ¬ ({ s with queue := rest } : St).raiseDepth > m.maxIterations := hd
      have hrecv : asyncReceives m q s = true := (asyncReceives_eq_true m q s).2 (fun hh => hd hh.1)
      rw [asyncLog_cons m u n s q rest hq hrun, asyncRaised_cons m u n s q rest hq, if_pos hrecv, h1,
        asyncStep_queue_eq m u q _ hd', asyncDrain_step m u n hrun hq]
      exact ⟨by simp, h2⟩

open XSM.Term in
/-- **external events: exactly once, in order, UNCONDITIONALLY** (any fuel, any counter, breaker tripping
    or not, macrosteps failing or not, machine completing or not): the external events the run loop
    received, followed by the external events still queued when it returns, are exactly the external
    events that were queued when it started — same events, same order, none lost, none duplicated. -/
theorem async_external_split (m : Machine) (u : UEnv) : ∀ (fuel : Nat) (s : St),
    extOf (asyncLogQ m u fuel s) ++ extOf (asyncDrain m u fuel s).queue = extOf s.queue := by
  intro fuel
  induction fuel with
  | zero =>
    intro s
    simp only [asyncLogQ, asyncDrain]
    split <;> simp [extOf]
  | succ n ih =>
    intro s
    by_cases hrun : s.status = "running"
    · cases hq : s.queue with
      | nil => rw [asyncLogQ_nil m u n s hq, asyncDrain_queue_nil m u _ hq, hq]; rfl
      | cons q rest =>
        rw [asyncLogQ_cons m u n s q rest hq hrun, asyncDrain_step m u n hrun hq]
        have hk := asyncStep_keeps_queued_external m u q { s with queue := rest }
        have hi := ih (asyncStep m u q { s with queue := rest })
        rw [hk] at hi
        have hrest : extOf ({ s with queue := rest } : St).queue = extOf rest := rfl
        rw [hrest] at hi
        cases hself : q.self with
        | false =>
          rw [if_pos (asyncReceives_external m q s hself)]
          unfold extOf at hi ⊢
          rw [List.filter_append, List.append_assoc, hi]
          simp [hself]
        | true =>
          unfold extOf at hi ⊢
          rw [List.filter_append, List.append_assoc, hi]
          split <;> simp [hself]
    · rw [asyncLogQ_not_running m u _ s hrun, asyncDrain_not_running m u _ hrun]; rfl

theorem asyncProcess_adds (m : Machine) (u : UEnv) (e : Ev) (s : St) :
    Adds (MacroRec e) (emit ("#recv:" ++ e.type) s) (asyncProcess m u e s) := by
  obtain ⟨t, ht, hp⟩ := macro_adds (hooksAsync u m) (hooksAsync_traceOK u m) .async m u e (emit ("#recv:" ++ e.type) s)
  refine ⟨t, ?_, hp⟩
  rw [asyncProcess_eq, asyncChainEnd_trace]
  split <;> exact ht

/-- the records of the async macrostep of `e` after its `#recv` record -/
def asyncMacroRecords (m : Machine) (u : UEnv) (e : Ev) (s : St) : List String :=
  delta (emit ("#recv:" ++ e.type) s) (asyncProcess m u e s)

theorem asyncProcess_chron (m : Machine) (u : UEnv) (e : Ev) (s : St) :
    (asyncProcess m u e s).chron = s.chron ++ ("#recv:" ++ e.type) :: asyncMacroRecords m u e s ∧
    ∀ r ∈ asyncMacroRecords m u e s, MacroRec e r := by
  refine ⟨?_, (asyncProcess_adds m u e s).chron.2⟩
  rw [(asyncProcess_adds m u e s).chron.1, chron_emit]
  simp [asyncMacroRecords]

theorem asyncBase_chron (m : Machine) (s : St) : (Term.asyncBase m s).chron = s.chron := by
  unfold Term.asyncBase; split <;> rfl

end XSM

import Xsm.Model.Parse
import Xsm.Proofs.Guard
/-!
Helper definitions and lemmas for property C18 (config front end).

* §1 the monad `PM = StateT PState (Except PErr)`: `throw_bind`, loops as `foldlM`;
* §2 a restructured copy of `parseStateDef` (the model's `StateNode.__init__`): first in
  continuation-passing style, block by block, which is the form the `do` notation gives the original
  (`parseStateDef_eq_CPS`), then in direct style (`parseStateDef_eq`), which is what the spelling and
  error theorems are proved about; post-conditions of parser computations (`PM.Post`);
* §3 spellings of transitions and actions, `always` against `on[""]` (`onAlways_eq`), look-ups in
  object literals;
* §4 errors: `ErrOK x G` (every failure of `x` satisfies `G`) passes through `>>=`, `if`, `mapM` and the loops, so
  "every error is a library error" is one statement per block, from `normalizeTransitions` up to `parseMachine`;
* (target spellings through `resolveTarget` / `resolveRobust`: `Xsm/Proofs/Targets.lean`).
-/
namespace XSM

/-! ## 1. The parser monad -/

theorem PM.throw_bind {α β : Type} (e : PErr) (f : α → PM β) : ((throw e : PM α) >>= f) = throw e := by
  funext s; rfl

theorem PM.map_throw {α β : Type} (e : PErr) (f : α → β) : (f <$> (throw e : PM α)) = throw e := by
  funext s; rfl

theorem forIn_yield_foldlM {m : Type → Type} [Monad m] [LawfulMonad m] {α β : Type}
    (l : List α) (init : β) (body : α → β → m (ForInStep β)) (step : α → β → m β)
    (h : ∀ a b, body a b = step a b >>= fun c => pure (ForInStep.yield c)) :
    forIn l init body = l.foldlM (fun b a => step a b) init := by
  induction l generalizing init with
  | nil => simp
  | cons a l ih => simp [h, ih]

/-! ## 2. `parseStateDef`, block by block -/

section
variable {α : Type}

def customIdK (idJ : Option J) (sid : String) (path : Path) (isRoot : Bool)
    (K : Unit → Option String → PM α) : PM α :=
  if (!isRoot) = true then
    match idJ with
    | none => K () none
    | some J.null => K () none
    | some (J.str s) =>
      have jp1 : Unit → PM α := fun _ => do
        let st ← get
        have jp2 : Unit → PM α := fun _ => do
          set { st with customIds := st.customIds ++ [(s, path)] }
          K () (some s)
        if st.customIds.any (fun kv => kv.1 == s) then do
          let r ← (throw s!"InvalidConfigError: duplicate state id '{s}'" : PM Unit)
          jp2 r
        else jp2 ()
      if s = "" then do
        let r ← (throw s!"InvalidConfigError: state '{sid}' has an invalid 'id'" : PM Unit)
        jp1 r
      else jp1 ()
    | some _ => do
      let r ← (throw s!"InvalidConfigError: state '{sid}' has an invalid 'id'" : PM Unit)
      K r none
  else K () none

def initialRawK (iJ : Option J) (sid : String) (K : Option String → PM α) : PM α :=
  match iJ with
  | none => (pure none : PM (Option String)) >>= K
  | some J.null => (pure none : PM (Option String)) >>= K
  | some (J.str s) => (pure (some s) : PM (Option String)) >>= K
  | some _ => (throw s!"InvalidConfigError: state '{sid}' has an invalid 'initial'" : PM (Option String)) >>= K

def inferInitialK (kind : Kind) (initialRaw : Option String) (statesJ : J) (K : Option String → PM α) : PM α :=
  if (kind != Kind.compound || (initialRaw.map (· != "")).getD false) = true then
    (pure initialRaw : PM (Option String)) >>= K
  else
    match statesJ with
    | J.obj kvs =>
      have cands := kvs.filter (fun kv => !(isHistoryCfg kv.2))
      (pure (match cands with | [kv] => some kv.1 | _ => initialRaw) : PM (Option String)) >>= K
    | _ => (throw "InvalidConfigError: invalid 'states' value (not an object)" : PM (Option String)) >>= K

def tagsK (tJ : Option J) (sid : String) (K : List String → PM α) : PM α :=
  match tJ with
  | none => (pure [] : PM (List String)) >>= K
  | some (J.str s) => (pure [s] : PM (List String)) >>= K
  | some (J.arr xs) =>
    (xs.mapM (fun | J.str s => pure s | _ => throw s!"InvalidConfigError: state '{sid}' has non-string tag(s)") : PM (List String)) >>= K
  | some _ => (throw s!"InvalidConfigError: state '{sid}' has an invalid 'tags' value" : PM (List String)) >>= K

def metaK (mJ : Option J) (sid : String) (K : Unit → PM α) : PM α :=
  match mJ with
  | none => K ()
  | some v =>
    if truthy v = true then
      (match v with
        | J.obj _ => (pure () : PM Unit)
        | _ => throw s!"InvalidConfigError: state '{sid}' has an invalid 'meta' value") >>= K
    else K ()

def onBody (x : String × J) (on : List (String × List Trans)) : PM (ForInStep (List (String × List Trans))) :=
  match x with
  | (ev, tc) => do
    let ts ← parseTransList ev tc
    pure (ForInStep.yield ((on.filter (fun kv => kv.1 != ev)) ++ [(ev, ts)]))

def onK (onJ : J) (sid : String) (K : Unit → List (String × List Trans) → PM α) : PM α :=
  match onJ with
  | J.obj kvs => (forIn kvs ([] : List (String × List Trans)) onBody) >>= fun s => K () s
  | _ => (throw s!"InvalidConfigError: state '{sid}' has an invalid 'on' value" : PM Unit) >>= fun r => K r []

def mergeAlways (on : List (String × List Trans)) (ts : List Trans) : List (String × List Trans) :=
  match on.find? (fun kv => kv.1 == "") with
  | some _ => on.map (fun kv => if kv.1 == "" then (kv.1, kv.2 ++ ts) else kv)
  | none => on ++ [("", ts)]

def alwaysK (aJ : Option J) (on : List (String × List Trans)) (K : Unit → List (String × List Trans) → PM α) : PM α :=
  match aJ with
  | none => K () on
  | some J.null => K () on
  | some a => parseTransList "" a >>= fun ts => K () (mergeAlways on ts)

def onDoneK (dJ : Option J) (sid : String) (K : Option Trans → PM α) : PM α :=
  match dJ with
  | none => (pure none : PM (Option Trans)) >>= K
  | some v =>
    if (!truthy v) = true then (pure none : PM (Option Trans)) >>= K
    else
      (liftM (normalizeTransitions v) : PM (List J)) >>= fun cfgs =>
        match cfgs with
        | [] => (pure none : PM (Option Trans)) >>= K
        | c :: _ => parseTransition ("done.state." ++ sid) c >>= fun t => (pure (some t) : PM (Option Trans)) >>= K

def afterBody (sid : String) (x : String × J) (after : List (String × List Trans)) : PM (ForInStep (List (String × List Trans))) :=
  match x with
  | (delay, tc) => do
    let cfgs ← (normalizeTransitions tc : Except PErr _)
    let ts ← cfgs.mapM (parseTransition ("after." ++ delay ++ "." ++ sid))
    pure (ForInStep.yield (after ++ [(delay, ts)]))

def afterK (afterJ : J) (sid : String) (K : Unit → List (String × List Trans) → PM α) : PM α :=
  match afterJ with
  | J.obj kvs => (forIn kvs ([] : List (String × List Trans)) (afterBody sid)) >>= fun s => K () s
  | _ => (throw s!"InvalidConfigError: state '{sid}' has an invalid 'after' value" : PM Unit) >>= fun r => K r []

def invokeBody (sid : String) (ic : J) (invoke : List Invoke) : PM (ForInStep (List Invoke)) :=
  match ic with
  | J.obj _ =>
    have iid := match ic.get? "id" with | some (J.str s) => s | _ => sid
    have jpOd : List Trans → PM (ForInStep (List Invoke)) := fun od =>
      have jpOe : List Trans → PM (ForInStep (List Invoke)) := fun oe =>
        have src := match ic.get? "src" with | some (J.str s) => some s | _ => none
        pure (ForInStep.yield (invoke ++ [{ id := iid, src := src, onDone := od, onError := oe }]))
      match ic.get? "onError" with
      | none => (pure [] : PM (List Trans)) >>= jpOe
      | some v => parseTransList ("error.platform." ++ iid) v >>= jpOe
    match ic.get? "onDone" with
    | none => (pure [] : PM (List Trans)) >>= jpOd
    | some v => parseTransList ("done.invoke." ++ iid) v >>= jpOd
  | _ => (throw s!"InvalidConfigError: state '{sid}' has an invalid 'invoke' entry" : PM Unit) >>= fun _ => pure (ForInStep.yield invoke)

def kidsBody (sid : String) (kvs : List (String × J)) (x : String × J) (_s : PUnit) : PM (ForInStep PUnit) :=
  match x with
  | (k, c) =>
    have jp : Unit → PM (ForInStep PUnit) := fun _ =>
      if k.contains '.' = true then
        have head := (splitDot k).headD ""
        if (kvs.any fun kv => kv.1 == head) = true then
          (throw s!"InvalidConfigError: state key '{k}' in '{sid}' is ambiguous" : PM Unit) >>= fun _ => pure (ForInStep.yield PUnit.unit)
        else pure (ForInStep.yield PUnit.unit)
      else pure (ForInStep.yield PUnit.unit)
    match c with
    | J.obj _ => jp ()
    | _ => (throw s!"InvalidConfigError: state '{sid}.{k}' must be an object/dict" : PM Unit) >>= jp

def kidsK (statesJ : J) (sid : String) (K : Unit → PM α) : PM α :=
  match statesJ with
  | J.obj kvs => (forIn kvs PUnit.unit (kidsBody sid kvs)) >>= fun _ => K ()
  | _ => (throw s!"InvalidConfigError: state '{sid}' has an invalid 'states' value" : PM Unit) >>= K

end

def kindOf (cfg : J) : Kind :=
  let tyStr : Option String := match cfg.get? "type" with | some (.str s) => some s | _ => none
  if cfg.hasKey "states" then (if tyStr = some "parallel" then .parallel else .compound)
  else if tyStr = some "final" then .final
  else if tyStr = some "history" then .history
  else .atomic

def statesJOf (cfg : J) : J := (cfg.get? "states").getD (.obj [])

def parseStateDefCPS (cfg : J) (sid : String) (path : Path) (isRoot : Bool) : PM StateDef :=
  customIdK (cfg.get? "id") sid path isRoot fun _ customId =>
  initialRawK (cfg.get? "initial") sid fun initialRaw =>
  inferInitialK (kindOf cfg) initialRaw (statesJOf cfg) fun initial =>
  tagsK (cfg.get? "tags") sid fun tags =>
  metaK (cfg.get? "meta") sid fun _ =>
  (liftM (parseActions (cfg.get? "entry")) : PM (List ActionRef)) >>= fun entry =>
  (liftM (parseActions (cfg.get? "exit")) : PM (List ActionRef)) >>= fun exit =>
  onK ((cfg.get? "on").getD (.obj [])) sid fun _ on =>
  alwaysK (cfg.get? "always") on fun _ on =>
  onDoneK (cfg.get? "onDone") sid fun onDone =>
  afterK ((cfg.get? "after").getD (.obj [])) sid fun _ after =>
  (forIn (ensureList ((cfg.get? "invoke").getD (.arr []))) ([] : List Invoke) (invokeBody sid)) >>= fun invoke =>
  kidsK (statesJOf cfg) sid fun _ =>
  pure { kind := kindOf cfg, initial, entry, exit, on, onDone, after, invoke,
         deep := kindOf cfg == .history && (match cfg.get? "history" with | some (.str "deep") => true | _ => false),
         historyTarget := (match cfg.get? "target" with | some (.str s) => some s | _ => none),
         customId, tags }

/-- one block: `lhs` ends in the join point `jp` of the `do` notation where the block `F` takes its
continuation -/
theorem cont_congr {α β : Type} {lhs : β} {jp K : α} (F : α → β) (h₁ : lhs = F jp) (h₂ : jp = K) : lhs = F K :=
  h₂ ▸ h₁

/- The two sides are definitionally equal, but a bare `rfl` compares the rest of the function once more
for every branch of every block that calls its continuation with other arguments. Here each join
point is compared once: with its value forgotten, `rfl` sees the block only. -/
theorem parseStateDef_eq_CPS (cfg : J) (sid : String) (path : Path) (isRoot : Bool) :
    parseStateDef cfg sid path isRoot = parseStateDefCPS cfg sid path isRoot := by
  unfold parseStateDef parseStateDefCPS
  extract_lets
  rename_i jp
  clear_value (hjp : jp = _)
  refine cont_congr (customIdK _ _ _ _) rfl (hjp.trans (funext fun _ => funext fun customId => ?_))
  extract_lets jpInfer jp
  clear_value (hInfer : jpInfer = _) (hjp : jp = _)
  refine cont_congr (initialRawK _ _) rfl (hjp.trans (funext fun initialRaw => ?_))
  refine cont_congr (inferInitialK _ _ _) rfl (hInfer.trans (funext fun initial => ?_))
  extract_lets jp
  clear_value (hjp : jp = _)
  refine cont_congr (tagsK _ _) rfl (hjp.trans (funext fun tags => ?_))
  extract_lets jp
  clear_value (hjp : jp = _)
  refine cont_congr (metaK _ _) rfl (hjp.trans (funext fun _ => ?_))
  refine bind_congr fun entry => bind_congr fun exit => ?_
  extract_lets jpAlways jp
  clear_value (hAlways : jpAlways = _) (hjp : jp = _)
  refine cont_congr (onK _ _) rfl (hjp.trans (funext fun _ => funext fun on => ?_))
  refine cont_congr (alwaysK _ _) rfl (hAlways.trans (funext fun _ => funext fun on => ?_))
  extract_lets jp
  clear_value (hjp : jp = _)
  refine cont_congr (onDoneK _ _) rfl (hjp.trans (funext fun onDone => ?_))
  extract_lets jp
  clear_value (hjp : jp = _)
  refine cont_congr (afterK _ _) rfl (hjp.trans (funext fun _ => funext fun after => ?_))
  refine bind_congr fun invoke => ?_
  extract_lets _ jp
  clear_value (hjp : jp = _)
  exact cont_congr (kidsK _ _) rfl (hjp.trans rfl)

/-! ### direct style: each block as a computation of its own -/

def pCustomId (idJ : Option J) (sid : String) (path : Path) (isRoot : Bool) : PM (Option String) :=
  if isRoot then pure none else
  match idJ with
  | none => pure none
  | some J.null => pure none
  | some (J.str s) =>
    if s = "" then throw s!"InvalidConfigError: state '{sid}' has an invalid 'id'"
    else get >>= fun st =>
      if st.customIds.any (fun kv => kv.1 == s) then throw s!"InvalidConfigError: duplicate state id '{s}'"
      else set { st with customIds := st.customIds ++ [(s, path)] } >>= fun _ => pure (some s)
  | some _ => throw s!"InvalidConfigError: state '{sid}' has an invalid 'id'"

def pInitialRaw (iJ : Option J) (sid : String) : PM (Option String) :=
  match iJ with
  | none => pure none
  | some J.null => pure none
  | some (J.str s) => pure (some s)
  | some _ => throw s!"InvalidConfigError: state '{sid}' has an invalid 'initial'"

/-- `_parse_initial`: an explicit non-empty `initial` (or a non-compound state) is taken as it is;
otherwise the only non-history child is inferred -/
def pInferInitial (kind : Kind) (initialRaw : Option String) (statesJ : J) : PM (Option String) :=
  if (kind != Kind.compound || (initialRaw.map (· != "")).getD false) = true then pure initialRaw
  else
    match statesJ with
    | J.obj kvs => pure (match kvs.filter (fun kv => !(isHistoryCfg kv.2)) with | [kv] => some kv.1 | _ => initialRaw)
    | _ => throw "InvalidConfigError: invalid 'states' value (not an object)"

def pTags (tJ : Option J) (sid : String) : PM (List String) :=
  match tJ with
  | none => pure []
  | some (J.str s) => pure [s]
  | some (J.arr xs) =>
    xs.mapM (fun | J.str s => pure s | _ => throw s!"InvalidConfigError: state '{sid}' has non-string tag(s)")
  | some _ => throw s!"InvalidConfigError: state '{sid}' has an invalid 'tags' value"

def pMeta (mJ : Option J) (sid : String) : PM Unit :=
  match mJ with
  | none => pure ()
  | some v =>
    if truthy v = true then
      (match v with
        | J.obj _ => pure ()
        | _ => throw s!"InvalidConfigError: state '{sid}' has an invalid 'meta' value")
    else pure ()

def onStep (x : String × J) (on : List (String × List Trans)) : PM (List (String × List Trans)) :=
  parseTransList x.1 x.2 >>= fun ts => pure ((on.filter (fun kv => kv.1 != x.1)) ++ [(x.1, ts)])

def pOn (onJ : J) (sid : String) : PM (List (String × List Trans)) :=
  match onJ with
  | J.obj kvs => kvs.foldlM (fun on x => onStep x on) []
  | _ => throw s!"InvalidConfigError: state '{sid}' has an invalid 'on' value"

def pAlways (aJ : Option J) (on : List (String × List Trans)) : PM (List (String × List Trans)) :=
  match aJ with
  | none => pure on
  | some J.null => pure on
  | some a => parseTransList "" a >>= fun ts => pure (mergeAlways on ts)

def pOnDone (dJ : Option J) (sid : String) : PM (Option Trans) :=
  match dJ with
  | none => pure none
  | some v =>
    if (!truthy v) = true then pure none
    else
      (liftM (normalizeTransitions v) : PM (List J)) >>= fun cfgs =>
        match cfgs with
        | [] => pure none
        | c :: _ => parseTransition ("done.state." ++ sid) c >>= fun t => pure (some t)

def afterStep (sid : String) (x : String × J) (after : List (String × List Trans)) : PM (List (String × List Trans)) :=
  (liftM (normalizeTransitions x.2) : PM (List J)) >>= fun cfgs =>
    cfgs.mapM (parseTransition ("after." ++ x.1 ++ "." ++ sid)) >>= fun ts => pure (after ++ [(x.1, ts)])

def pAfter (afterJ : J) (sid : String) : PM (List (String × List Trans)) :=
  match afterJ with
  | J.obj kvs => kvs.foldlM (fun after x => afterStep sid x after) []
  | _ => throw s!"InvalidConfigError: state '{sid}' has an invalid 'after' value"

def invokeStep (sid : String) (ic : J) (invoke : List Invoke) : PM (List Invoke) :=
  match ic with
  | J.obj _ =>
    let iid := match ic.get? "id" with | some (J.str s) => s | _ => sid
    (match ic.get? "onDone" with
      | none => pure []
      | some v => parseTransList ("done.invoke." ++ iid) v) >>= fun od =>
    (match ic.get? "onError" with
      | none => pure []
      | some v => parseTransList ("error.platform." ++ iid) v) >>= fun oe =>
    pure (invoke ++ [{ id := iid, src := (match ic.get? "src" with | some (J.str s) => some s | _ => none),
                       onDone := od, onError := oe }])
  | _ => throw s!"InvalidConfigError: state '{sid}' has an invalid 'invoke' entry"

def pInvoke (iJ : J) (sid : String) : PM (List Invoke) :=
  (ensureList iJ).foldlM (fun inv ic => invokeStep sid ic inv) []

def kidStep (sid : String) (kvs : List (String × J)) (x : String × J) : PM Unit :=
  (match x.2 with
    | J.obj _ => pure ()
    | _ => throw s!"InvalidConfigError: state '{sid}.{x.1}' must be an object/dict") >>= fun _ =>
  if x.1.contains '.' = true then
    if (kvs.any fun kv => kv.1 == (splitDot x.1).headD "") = true then
      throw s!"InvalidConfigError: state key '{x.1}' in '{sid}' is ambiguous"
    else pure ()
  else pure ()

def pKids (statesJ : J) (sid : String) : PM Unit :=
  match statesJ with
  | J.obj kvs => kvs.foldlM (fun _ x => kidStep sid kvs x) ()
  | _ => throw s!"InvalidConfigError: state '{sid}' has an invalid 'states' value"

def pOnAlways (onJ : J) (aJ : Option J) (sid : String) : PM (List (String × List Trans)) :=
  pOn onJ sid >>= fun on0 => pAlways aJ on0

def parseStateDefD (cfg : J) (sid : String) (path : Path) (isRoot : Bool) : PM StateDef :=
  pCustomId (cfg.get? "id") sid path isRoot >>= fun customId =>
  pInitialRaw (cfg.get? "initial") sid >>= fun initialRaw =>
  pInferInitial (kindOf cfg) initialRaw (statesJOf cfg) >>= fun initial =>
  pTags (cfg.get? "tags") sid >>= fun tags =>
  pMeta (cfg.get? "meta") sid >>= fun _ =>
  (liftM (parseActions (cfg.get? "entry")) : PM (List ActionRef)) >>= fun entry =>
  (liftM (parseActions (cfg.get? "exit")) : PM (List ActionRef)) >>= fun exit =>
  pOnAlways ((cfg.get? "on").getD (.obj [])) (cfg.get? "always") sid >>= fun on =>
  pOnDone (cfg.get? "onDone") sid >>= fun onDone =>
  pAfter ((cfg.get? "after").getD (.obj [])) sid >>= fun after =>
  pInvoke ((cfg.get? "invoke").getD (.arr [])) sid >>= fun invoke =>
  pKids (statesJOf cfg) sid >>= fun _ =>
  pure { kind := kindOf cfg, initial, entry, exit, on, onDone, after, invoke,
         deep := kindOf cfg == .history && (match cfg.get? "history" with | some (.str "deep") => true | _ => false),
         historyTarget := (match cfg.get? "target" with | some (.str s) => some s | _ => none),
         customId, tags }

section Bridge
variable {α : Type}

theorem customIdK_eq (idJ : Option J) (sid : String) (path : Path) (isRoot : Bool) (K : Unit → Option String → PM α) :
    customIdK idJ sid path isRoot K = pCustomId idJ sid path isRoot >>= fun c => K () c := by
  unfold customIdK pCustomId
  cases isRoot
  · simp only [Bool.not_false, if_true, Bool.false_eq_true, if_false]
    split
    · simp
    · simp
    · rename_i s
      by_cases hs : s = ""
      · simp [hs, PM.throw_bind]
      · simp only [hs, if_false, bind_assoc]
        congr 1; funext st
        split
        · simp [PM.throw_bind]
        · simp
    · simp [PM.throw_bind]
  · simp

theorem initialRawK_eq (iJ : Option J) (sid : String) (K : Option String → PM α) :
    initialRawK iJ sid K = pInitialRaw iJ sid >>= K := by
  unfold initialRawK pInitialRaw; split <;> rfl

theorem inferInitialK_eq (kind : Kind) (ir : Option String) (st : J) (K : Option String → PM α) :
    inferInitialK kind ir st K = pInferInitial kind ir st >>= K := by
  unfold inferInitialK pInferInitial
  split
  · rfl
  · split <;> rfl

theorem tagsK_eq (tJ : Option J) (sid : String) (K : List String → PM α) :
    tagsK tJ sid K = pTags tJ sid >>= K := by
  unfold tagsK pTags; split <;> rfl

theorem metaK_eq (mJ : Option J) (sid : String) (K : Unit → PM α) :
    metaK mJ sid K = pMeta mJ sid >>= K := by
  unfold metaK pMeta
  split
  · simp
  · split
    · rfl
    · simp

theorem onK_eq (onJ : J) (sid : String) (K : Unit → List (String × List Trans) → PM α) :
    onK onJ sid K = pOn onJ sid >>= fun on => K () on := by
  unfold onK pOn
  split
  · rw [forIn_yield_foldlM _ _ _ onStep fun x on => by simp [onBody, onStep]]
  · simp [PM.throw_bind]

theorem alwaysK_eq (aJ : Option J) (on : List (String × List Trans)) (K : Unit → List (String × List Trans) → PM α) :
    alwaysK aJ on K = pAlways aJ on >>= fun on => K () on := by
  unfold alwaysK pAlways
  split <;> simp

theorem onDoneK_eq (dJ : Option J) (sid : String) (K : Option Trans → PM α) :
    onDoneK dJ sid K = pOnDone dJ sid >>= K := by
  unfold onDoneK pOnDone
  split
  · rfl
  · split
    · rfl
    · simp only [bind_assoc]
      congr 1; funext cfgs
      split <;> simp

theorem afterK_eq (afterJ : J) (sid : String) (K : Unit → List (String × List Trans) → PM α) :
    afterK afterJ sid K = pAfter afterJ sid >>= fun a => K () a := by
  unfold afterK pAfter
  split
  · rw [forIn_yield_foldlM _ _ _ (afterStep sid) fun x a => by simp [afterBody, afterStep]]
  · simp [PM.throw_bind]

theorem invokeBody_eq (sid : String) (ic : J) (inv : List Invoke) :
    invokeBody sid ic inv = invokeStep sid ic inv >>= fun c => pure (ForInStep.yield c) := by
  cases ic <;> simp only [invokeBody, invokeStep, PM.map_throw, bind_pure_comp]
  case obj kvs =>
    cases (J.obj kvs).get? "onDone" <;> cases (J.obj kvs).get? "onError" <;> simp

theorem invokeLoop_eq (iJ : J) (sid : String) :
    forIn (ensureList iJ) ([] : List Invoke) (invokeBody sid) = pInvoke iJ sid :=
  forIn_yield_foldlM _ _ _ _ (invokeBody_eq sid)

theorem kidsBody_eq (sid : String) (kvs : List (String × J)) (x : String × J) (u : PUnit) :
    kidsBody sid kvs x u = kidStep sid kvs x >>= fun c => pure (ForInStep.yield c) := by
  obtain ⟨k, c⟩ := x
  cases c <;> simp only [kidsBody, kidStep, PM.throw_bind, pure_bind]
  case obj kvs' =>
    split
    · split
      · simp [PM.map_throw]
      · simp
    · simp

theorem kidsK_eq (statesJ : J) (sid : String) (K : Unit → PM α) :
    kidsK statesJ sid K = pKids statesJ sid >>= K := by
  unfold kidsK pKids
  split
  · rw [forIn_yield_foldlM _ _ _ _ (kidsBody_eq sid _)]
  · rfl

end Bridge

theorem parseStateDef_eq (cfg : J) (sid : String) (path : Path) (isRoot : Bool) :
    parseStateDef cfg sid path isRoot = parseStateDefD cfg sid path isRoot := by
  rw [parseStateDef_eq_CPS]
  simp only [parseStateDefCPS, parseStateDefD, customIdK_eq, initialRawK_eq, inferInitialK_eq, tagsK_eq, metaK_eq,
    onK_eq, alwaysK_eq, onDoneK_eq, afterK_eq, invokeLoop_eq, kidsK_eq, pOnAlways, bind_assoc]

/-! ### post-conditions of parser computations -/

def PM.Post {α : Type} (x : PM α) (P : α → Prop) : Prop := ∀ s a s', x s = .ok (a, s') → P a

theorem PM.bind_ok {α β : Type} {x : PM α} {f : α → PM β} {s s' : PState} {a : α}
    (h : x s = .ok (a, s')) : (x >>= f) s = f a s' := by
  simp [bind, StateT.bind, h, Except.bind]

theorem PM.bind_err {α β : Type} {x : PM α} {f : α → PM β} {s : PState} {e : PErr}
    (h : x s = .error e) : (x >>= f) s = .error e := by
  simp [bind, StateT.bind, h, Except.bind]

theorem PM.bind_congr_post {α β : Type} {x : PM α} {P : α → Prop} (hP : x.Post P) {f g : α → PM β}
    (h : ∀ a, P a → f a = g a) : x >>= f = x >>= g := by
  funext s
  cases hx : x s with
  | error e => rw [PM.bind_err hx, PM.bind_err hx]
  | ok r =>
    obtain ⟨a, s'⟩ := r
    rw [PM.bind_ok hx, PM.bind_ok hx, h a (hP s a s' hx)]

theorem PM.Post_pure {α : Type} (a : α) (P : α → Prop) (h : P a) : (pure a : PM α).Post P := by
  intro s a' s' hr
  have : (a, s) = (a', s') := Except.ok.inj hr
  cases this; exact h

theorem PM.Post_bind {α β : Type} {x : PM α} {f : α → PM β} {P : α → Prop} {Q : β → Prop}
    (hx : x.Post P) (hf : ∀ a, P a → (f a).Post Q) : (x >>= f).Post Q := by
  intro s b s' hr
  cases hxs : x s with
  | error e => rw [PM.bind_err hxs] at hr; cases hr
  | ok r =>
    obtain ⟨a, s1⟩ := r
    rw [PM.bind_ok hxs] at hr
    exact hf a (hx s a s1 hxs) s1 b s' hr

theorem PM.Post_foldlM {α β : Type} (l : List α) (step : β → α → PM β) (Inv : β → Prop)
    (hstep : ∀ b, ∀ a ∈ l, Inv b → (step b a).Post Inv) (init : β) (h0 : Inv init) :
    (l.foldlM step init).Post Inv := by
  induction l generalizing init with
  | nil => simpa using PM.Post_pure init Inv h0
  | cons a l ih =>
    rw [List.foldlM_cons]
    exact PM.Post_bind (hstep init a (by simp) h0)
      (fun b hb => ih (fun b' a' ha' => hstep b' a' (by simp [ha'])) b hb)

/-! ## 3. Spellings -/

/-! ### transitions: string, object, one-element list -/

theorem normalizeTransitions_str (t : String) :
    normalizeTransitions (.str t) = .ok [.obj [("target", .str t)]] := rfl

theorem normalizeTransitions_obj (kvs : List (String × J)) :
    normalizeTransitions (.obj kvs) = .ok [.obj kvs] := rfl

/-- the per-item normalisation inside a list -/
def normItem : J → Except PErr J
  | .str s => .ok (.obj [("target", .str s)])
  | .obj kvs => .ok (.obj kvs)
  | _ => .error "InvalidConfigError: invalid transition item in list"

theorem normalizeTransitions_arr (xs : List J) : normalizeTransitions (.arr xs) = xs.mapM normItem := by
  simp only [normalizeTransitions]
  congr 1

theorem normalizeTransitions_singleton (x : J) (y : J) (h : normItem x = .ok y) :
    normalizeTransitions (.arr [x]) = .ok [y] := by
  rw [normalizeTransitions_arr]
  simp [List.mapM_cons, h, bind, Except.bind, pure, Except.pure]

theorem normalizeTransitions_item_congr (pre post : List J) (a b : J) (h : normItem a = normItem b) :
    normalizeTransitions (.arr (pre ++ a :: post)) = normalizeTransitions (.arr (pre ++ b :: post)) := by
  simp only [normalizeTransitions_arr, List.mapM_append, List.mapM_cons, h]

theorem parseTransList_congr (ev : String) (c1 c2 : J) (h : normalizeTransitions c1 = normalizeTransitions c2) :
    parseTransList ev c1 = parseTransList ev c2 := by
  simp only [parseTransList, h]

/-! ### actions: a single action, a one-element list, a string, an object -/

theorem parseAction_str_obj (s : String) : parseAction (.str s) = parseAction (.obj [("type", .str s)]) := by
  simp [parseAction, J.get?]

theorem parseActions_item_congr (pre post : List J) (a b : J) (h : parseAction a = parseAction b) :
    parseActions (some (.arr (pre ++ a :: post))) = parseActions (some (.arr (pre ++ b :: post))) := by
  simp [parseActions, truthy, ensureList, List.mapM_append, List.mapM_cons, h]

/-! ### `always` vs `on[""]` -/

theorem mergeAlways_fresh (on : List (String × List Trans)) (ts : List Trans) (h : ∀ kv ∈ on, kv.1 ≠ "") :
    mergeAlways on ts = on ++ [("", ts)] := by
  have : on.find? (fun kv => kv.1 == "") = none := by
    rw [List.find?_eq_none]; intro kv hkv; simpa using h kv hkv
  simp [mergeAlways, this]

/-- both present: the entries of `on[""]` come first, those of `always` after them, in one bucket
that stays where `on[""]` was -/
theorem mergeAlways_order (pre post : List (String × List Trans)) (ts1 ts2 : List Trans)
    (hpre : ∀ kv ∈ pre, kv.1 ≠ "") (hpost : ∀ kv ∈ post, kv.1 ≠ "") :
    mergeAlways (pre ++ ("", ts1) :: post) ts2 = pre ++ ("", ts1 ++ ts2) :: post := by
  have hf : (pre ++ ("", ts1) :: post).find? (fun kv => kv.1 == "") = some ("", ts1) := by
    have : pre.find? (fun kv => kv.1 == "") = none := by
      rw [List.find?_eq_none]; intro kv hkv; simpa using hpre kv hkv
    simp [List.find?_append, this]
  have hm : ∀ l : List (String × List Trans), (∀ kv ∈ l, kv.1 ≠ "") →
      l.map (fun kv => if kv.1 = "" then (kv.1, kv.2 ++ ts2) else kv) = l := by
    intro l hl
    induction l with
    | nil => rfl
    | cons x l ih =>
      simp only [List.map_cons, hl x (by simp), if_false]
      rw [ih (fun kv hkv => hl kv (by simp [hkv]))]
  simp [mergeAlways, hf, hm pre hpre, hm post hpost]

theorem onLoop_post (kvs : List (String × J)) (hne : ∀ kv ∈ kvs, kv.1 ≠ "") :
    (kvs.foldlM (fun on x => onStep x on) ([] : List (String × List Trans))).Post (fun on => ∀ kv ∈ on, kv.1 ≠ "") := by
  apply PM.Post_foldlM
  · intro on x hx hinv
    unfold onStep
    refine PM.Post_bind (P := fun _ => True) (fun _ _ _ _ => trivial) (fun ts _ => PM.Post_pure _ _ ?_)
    intro kv hkv
    rcases List.mem_append.1 hkv with h | h
    · exact hinv kv (List.mem_filter.1 h).1
    · simp only [List.mem_singleton] at h; subst h; exact hne x hx
  · intro kv hkv; cases hkv

/-- the `on` / `always` part of a state: `always: X` on top of `on: {…}` (no `""` key) builds the same
buckets, in the same order, with the same transition ids, as `on: {…, "": X}` without `always` -/
theorem onAlways_eq (kvs : List (String × J)) (X : J) (sid : String) (hX : X ≠ .null)
    (hne : ∀ kv ∈ kvs, kv.1 ≠ "") :
    pOnAlways (.obj kvs) (some X) sid = pOnAlways (.obj (kvs ++ [("", X)])) none sid := by
  unfold pOnAlways
  simp only [pOn, pAlways, List.foldlM_append, List.foldlM_cons, List.foldlM_nil, bind_pure]
  apply PM.bind_congr_post (onLoop_post kvs hne)
  intro on hon
  simp only [onStep]
  congr 1; funext ts
  rw [mergeAlways_fresh on ts hon, List.filter_eq_self.2 fun kv hkv => by simpa using hon kv hkv]

/-! ### object look-ups on appended key lists -/

theorem get?_nil (k : String) : (J.obj []).get? k = none := rfl

theorem get?_cons (k' : String) (v : J) (tl : List (String × J)) (k : String) :
    (J.obj ((k', v) :: tl)).get? k = if k' = k then some v else (J.obj tl).get? k := by
  by_cases h : k' = k <;> simp [J.get?, h]

theorem get?_append (a b : List (String × J)) (k : String) :
    (J.obj (a ++ b)).get? k = ((J.obj a).get? k).or ((J.obj b).get? k) := by
  simp only [J.get?, List.find?_append]
  cases a.find? (fun kv => kv.1 == k) <;> rfl

theorem get?_eq_none (a : List (String × J)) (k : String) (h : ∀ kv ∈ a, kv.1 ≠ k) : (J.obj a).get? k = none := by
  simp only [J.get?, Option.map_eq_none_iff, List.find?_eq_none]
  intro kv hkv; simpa using h kv hkv

theorem hasKey_append (a b : List (String × J)) (k : String) :
    (J.obj (a ++ b)).hasKey k = ((J.obj a).hasKey k || (J.obj b).hasKey k) := by
  simp [J.hasKey, List.any_append]

theorem kindOf_congr (c1 c2 : J) (ht : c1.get? "type" = c2.get? "type") (hs : c1.hasKey "states" = c2.hasKey "states") :
    kindOf c1 = kindOf c2 := by
  simp only [kindOf, ht, hs]

theorem kindOf_compound (c : J) (hst : c.hasKey "states" = true) (hnp : c.get? "type" ≠ some (.str "parallel")) :
    kindOf c = .compound := by
  simp only [kindOf, hst, if_true]
  refine if_neg fun h => ?_
  split at h
  · exact hnp (by rw [‹c.get? "type" = _›, Option.some.inj h])
  · cases h

theorem pInferInitial_single (kids : List (String × J)) (k : String) (ck : J) (ir : Option String)
    (hir : ir = none ∨ ir = some k) (hone : kids.filter (fun kv => !(isHistoryCfg kv.2)) = [(k, ck)]) :
    pInferInitial .compound ir (.obj kids) = pure (some k) := by
  simp only [pInferInitial, hone]
  rcases hir with rfl | rfl
  · rfl
  · by_cases hk0 : k = "" <;> simp [hk0]

/-- `parseStateDef` sees its config only through key look-ups, one block per key. Two configs that agree
on every key outside `initial`, `on`, `always` have the same definition as soon as the two blocks that
read those keys are the same computations: the initial state (`pInitialRaw`, then `pInferInitial`) and
the `on` buckets (`pOnAlways`). -/
theorem parseStateDefD_congr (c1 c2 : J) (sid : String) (path : Path) (isRoot : Bool)
    (hsame : ∀ k, k ∉ ["initial", "on", "always"] → c1.get? k = c2.get? k)
    (hst : c1.hasKey "states" = c2.hasKey "states")
    (hinit : (pInitialRaw (c1.get? "initial") sid >>= fun ir => pInferInitial (kindOf c1) ir (statesJOf c1)) =
      (pInitialRaw (c2.get? "initial") sid >>= fun ir => pInferInitial (kindOf c1) ir (statesJOf c1)))
    (hon : pOnAlways ((c1.get? "on").getD (.obj [])) (c1.get? "always") sid =
      pOnAlways ((c2.get? "on").getD (.obj [])) (c2.get? "always") sid) :
    parseStateDefD c1 sid path isRoot = parseStateDefD c2 sid path isRoot := by
  have hk : kindOf c1 = kindOf c2 := kindOf_congr c1 c2 (hsame "type" (by simp)) hst
  have hsj : statesJOf c1 = statesJOf c2 := by simp only [statesJOf, hsame "states" (by simp)]
  unfold parseStateDefD
  simp only [← bind_assoc (pInitialRaw _ sid), hinit, hon, ← hk, ← hsj,
    ← hsame "id" (by simp), ← hsame "tags" (by simp), ← hsame "meta" (by simp), ← hsame "entry" (by simp),
    ← hsame "exit" (by simp), ← hsame "onDone" (by simp), ← hsame "after" (by simp), ← hsame "invoke" (by simp),
    ← hsame "history" (by simp), ← hsame "target" (by simp)]

/-- in particular, configs with the same look-ups (the same keys in another order) -/
theorem parseStateDef_congr (c1 c2 : J) (sid : String) (path : Path) (isRoot : Bool)
    (h : ∀ k, c1.get? k = c2.get? k) (hs : c1.hasKey "states" = c2.hasKey "states") :
    parseStateDef c1 sid path isRoot = parseStateDef c2 sid path isRoot := by
  rw [parseStateDef_eq, parseStateDef_eq]
  exact parseStateDefD_congr c1 c2 sid path isRoot (fun k _ => h k) hs (by rw [h]) (by rw [h, h])

theorem get?_singleton_self (k : String) (v : J) : (J.obj [(k, v)]).get? k = some v := by simp [J.get?]

/-! ## 4. Errors of the parser -/

/-- a library error of the config front end: the text starts with the class name `InvalidConfigError` -/
def LibErr (e : PErr) : Prop := sStartsWith e "InvalidConfigError: " = true

theorem LibErr.append {a b : String} (h : LibErr a) : LibErr (a ++ b) := by
  unfold LibErr sStartsWith at *
  rw [String.toList_append]
  rw [List.isPrefixOf_iff_prefix] at *
  exact List.IsPrefix.trans h (List.prefix_append _ _)

theorem LibErr.tail (b : String) : LibErr ("InvalidConfigError: " ++ b) :=
  LibErr.append (List.isPrefixOf_iff_prefix.2 (List.prefix_refl _))

/-- a message literal `e`, split after the class name, so that the literal is only ever compared with a
literal (evaluating `LibErr` on it reads it character by character, which is slow) -/
theorem LibErr.lit {e : String} (b : String) (h : e = "InvalidConfigError: " ++ b) : LibErr (toString e) :=
  h ▸ LibErr.tail b

theorem LibErr.state : LibErr (toString "InvalidConfigError: state '") := .lit "state '" (by simp)

/-- the errors of `parseMachine` where the code used to raise RAW Python exceptions (findings F15a,
F15b, F15f) and now raises `InvalidConfigError`, with the place in the code -/
def rawErrors : List PErr :=
  ["InvalidConfigError: machine configuration must be a dictionary",      -- factory.create_machine: `config.get("id")`, config not a dict
   "InvalidConfigError: invalid 'maxIterations' (not a number)",  -- MachineNode.__init__: int(maxIterations), None / list / dict
   "InvalidConfigError: invalid 'maxIterations' (not an integer literal)",                        -- MachineNode.__init__: int(maxIterations), non-numeric string
   "InvalidConfigError: invalid 'states' value (not an object)"]                                               -- StateNode._parse_initial: `.items()` on a non-dict `states`

theorem rawErrors_LibErr : ∀ e ∈ rawErrors, LibErr e := by
  intro e he
  simp only [rawErrors, List.mem_cons, List.mem_nil_iff, or_false] at he
  rcases he with rfl | rfl | rfl | rfl
  · exact .lit "machine configuration must be a dictionary" (by simp)
  · exact .lit "invalid 'maxIterations' (not a number)" (by simp)
  · exact .lit "invalid 'maxIterations' (not an integer literal)" (by simp)
  · exact .lit "invalid 'states' value (not an object)" (by simp)

def ErrOK {α : Type} (x : Except PErr α) (G : PErr → Prop) : Prop := ∀ e, x = .error e → G e

def PM.ErrOK {α : Type} (x : PM α) (G : PErr → Prop) : Prop := ∀ s, XSM.ErrOK (x s) G

section
variable {α β : Type} {G : PErr → Prop}

theorem ErrOK.ok {a : α} : ErrOK (.ok a) G :=
  fun _ h => nomatch h

theorem ErrOK.error {e : PErr} (h : G e) : ErrOK (.error e : Except PErr α) G :=
  fun _ h' => Except.error.inj h' ▸ h

theorem ErrOK.bind {x : Except PErr α} {f : α → Except PErr β} (hx : ErrOK x G) (hf : ∀ a, ErrOK (f a) G) :
    ErrOK (x >>= f) G := by
  cases x with
  | error e => exact .error (hx e rfl)
  | ok a => exact hf a

theorem ErrOK.ite {c : Prop} [Decidable c] {x y : Except PErr α} (hx : ErrOK x G) (hy : ErrOK y G) :
    ErrOK (if c then x else y) G := by
  split
  · exact hx
  · exact hy

theorem ErrOK.mapM (l : List α) (f : α → Except PErr β) (hf : ∀ a ∈ l, ErrOK (f a) G) : ErrOK (l.mapM f) G := by
  induction l with
  | nil => exact .ok
  | cons a l ih =>
    rw [List.mapM_cons]
    exact .bind (hf a (by simp)) fun b => .bind (ih fun a' ha' => hf a' (by simp [ha'])) fun bs => .ok

theorem PM.ErrOK_pure {a : α} : (pure a : PM α).ErrOK G :=
  fun _ => .ok

theorem PM.ErrOK_throw {e : PErr} (h : G e) : (throw e : PM α).ErrOK G :=
  fun _ => .error h

theorem PM.ErrOK_bind {x : PM α} {f : α → PM β} (hx : x.ErrOK G) (hf : ∀ a, (f a).ErrOK G) :
    (x >>= f).ErrOK G :=
  fun s => ErrOK.bind (hx s) fun r => hf r.1 r.2

theorem PM.ErrOK_ite {c : Prop} [Decidable c] {x y : PM α} (hx : x.ErrOK G) (hy : y.ErrOK G) :
    (if c then x else y).ErrOK G := by
  split
  · exact hx
  · exact hy

theorem PM.ErrOK_lift {x : Except PErr α} (h : XSM.ErrOK x G) : (liftM x : PM α).ErrOK G :=
  fun _ => ErrOK.bind h fun _ => .ok

theorem PM.ErrOK_foldlM (l : List α) (step : β → α → PM β) (hstep : ∀ b, ∀ a ∈ l, (step b a).ErrOK G)
    (init : β) : (l.foldlM step init).ErrOK G := by
  induction l generalizing init with
  | nil => simpa using PM.ErrOK_pure
  | cons a l ih =>
    rw [List.foldlM_cons]
    exact PM.ErrOK_bind (hstep init a (by simp)) (fun b => ih (fun b' a' ha' => hstep b' a' (by simp [ha'])) b)

theorem PM.ErrOK_mapM (l : List α) (f : α → PM β) (hf : ∀ a ∈ l, (f a).ErrOK G) : (l.mapM f).ErrOK G := by
  induction l with
  | nil => simpa using PM.ErrOK_pure
  | cons a l ih =>
    rw [List.mapM_cons]
    exact PM.ErrOK_bind (hf a (by simp)) (fun b =>
      PM.ErrOK_bind (ih (fun a' ha' => hf a' (by simp [ha']))) (fun bs => PM.ErrOK_pure))

theorem PM.ErrOK_forIn' (l : List α) (f : (a : α) → a ∈ l → β → PM (ForInStep β))
    (hf : ∀ a h b, (f a h b).ErrOK G) (init : β) : (forIn' l init f).ErrOK G := by
  induction l generalizing init with
  | nil => simpa using PM.ErrOK_pure
  | cons a l ih =>
    rw [List.forIn'_cons]
    refine PM.ErrOK_bind (hf a _ init) (fun r => ?_)
    cases r with
    | done b => exact PM.ErrOK_pure
    | yield b => exact ih _ (fun a' h' b' => hf a' _ b') b

end

/-! ### transitions, actions, guards -/

theorem normItem_ErrOK (a : J) : ErrOK (normItem a) LibErr := by
  unfold normItem
  split
  · exact .ok
  · exact .ok
  · exact .error (.lit "invalid transition item in list" (by simp))

theorem normalizeTransitions_ErrOK (c : J) : ErrOK (normalizeTransitions c) LibErr := by
  cases c with
  | arr xs => rw [normalizeTransitions_arr]; exact .mapM _ _ fun a _ => normItem_ErrOK a
  | null | str | obj => exact .ok
  | _ => exact .error (.lit "invalid transition config" (by simp))

theorem parseAction_ErrOK (a : J) : ErrOK (parseAction a) LibErr := by
  unfold parseAction
  split
  · exact .ok
  · exact .ok
  · exact .error (.lit "action definition must be a string or a dictionary" (by simp))

theorem parseActions_ErrOK (j : Option J) : ErrOK (parseActions j) LibErr := by
  unfold parseActions
  split
  · exact .ok
  · exact .ite .ok (.mapM _ _ fun a _ => parseAction_ErrOK a)

theorem guardTypeOf_ErrOK (o : J) : ErrOK (guardTypeOf o) LibErr := by
  have he : LibErr "InvalidConfigError: guard object must have a non-empty string 'type'" :=
    .lit "guard object must have a non-empty string 'type'" (by simp)
  unfold guardTypeOf
  split
  · exact .ite (.error he) .ok
  · exact .error he

theorem finishGuard_ErrOK (ty : String) (ps : Option J) (cs : List GuardExpr) : ErrOK (finishGuard ty ps cs) LibErr := by
  refine .ite (.ite (.error (LibErr.lit "composite guard '" (by simp)).append.append) (.ite ?_ (.ite .ok .ok))) (.ite .ok .ok)
  split
  · exact .ok
  · exact .error (.lit "guard 'not' requires exactly one nested guard" (by simp))

theorem parseGuard_ErrOK : ∀ j : J, ErrOK (parseGuard j) LibErr := by
  intro j
  induction j using WellFounded.induction (measure (fun j : J => sizeOf j)).wf with
  | _ j ih =>
    cases j with
    | obj kvs =>
      rw [parseGuard_obj]
      exact .bind (guardTypeOf_ErrOK _) fun ty =>
        .bind (.mapM _ _ fun c hc => ih c (guardChildrenJ_sizeOf_lt _ _ c hc)) fun ch => finishGuard_ErrOK _ _ _
    | str s => rw [parseGuard.eq_1]; exact .ok
    | _ =>
      rw [parseGuard]
      · exact .error (.lit "guard must be a string or a dictionary" (by simp))
      · intro _ h'; cases h'
      · intro _ h'; cases h'

theorem parseGuardOpt_ErrOK (j : Option J) : ErrOK (parseGuardOpt j) LibErr := by
  unfold parseGuardOpt
  split
  · exact .ok
  · exact .ok
  · exact .bind (parseGuard_ErrOK _) fun ge => .ok

theorem parseTransition_ErrOK (ev : String) (cfg : J) : (parseTransition ev cfg).ErrOK LibErr := by
  unfold parseTransition
  refine PM.ErrOK_bind (PM.ErrOK_lift (parseActions_ErrOK _)) (fun actions => ?_)
  refine PM.ErrOK_bind (PM.ErrOK_lift (parseGuardOpt_ErrOK _)) (fun guard => ?_)
  exact PM.ErrOK_bind (fun _ => .ok) (fun tid => PM.ErrOK_pure)

theorem parseTransList_ErrOK (ev : String) (cfg : J) : (parseTransList ev cfg).ErrOK LibErr := by
  unfold parseTransList
  exact PM.ErrOK_bind (PM.ErrOK_lift (normalizeTransitions_ErrOK _))
    (fun cfgs => PM.ErrOK_mapM _ _ (fun c _ => parseTransition_ErrOK ev c))

/-! ### one state, block by block -/

theorem pCustomId_ErrOK (idJ : Option J) (sid : String) (path : Path) (isRoot : Bool) :
    (pCustomId idJ sid path isRoot).ErrOK LibErr := by
  unfold pCustomId
  refine PM.ErrOK_ite PM.ErrOK_pure ?_
  split
  · exact PM.ErrOK_pure
  · exact PM.ErrOK_pure
  · exact PM.ErrOK_ite (PM.ErrOK_throw LibErr.state.append.append) (PM.ErrOK_bind (fun _ => .ok) fun st =>
      PM.ErrOK_ite (PM.ErrOK_throw (LibErr.lit "duplicate state id '" (by simp)).append.append)
        (PM.ErrOK_bind (fun _ => .ok) fun _ => PM.ErrOK_pure))
  · exact PM.ErrOK_throw LibErr.state.append.append

theorem pInitialRaw_ErrOK (iJ : Option J) (sid : String) : (pInitialRaw iJ sid).ErrOK LibErr := by
  unfold pInitialRaw
  split
  · exact PM.ErrOK_pure
  · exact PM.ErrOK_pure
  · exact PM.ErrOK_pure
  · exact PM.ErrOK_throw LibErr.state.append.append

theorem pInferInitial_ErrOK (kind : Kind) (ir : Option String) (st : J) : (pInferInitial kind ir st).ErrOK LibErr := by
  unfold pInferInitial
  refine PM.ErrOK_ite PM.ErrOK_pure ?_
  split
  · exact PM.ErrOK_pure
  · exact PM.ErrOK_throw (rawErrors_LibErr _ (.tail _ (.tail _ (.tail _ (.head _)))))

theorem pTags_ErrOK (tJ : Option J) (sid : String) : (pTags tJ sid).ErrOK LibErr := by
  unfold pTags
  split
  · exact PM.ErrOK_pure
  · exact PM.ErrOK_pure
  · apply PM.ErrOK_mapM
    intro a _
    split
    · exact PM.ErrOK_pure
    · exact PM.ErrOK_throw LibErr.state.append.append
  · exact PM.ErrOK_throw LibErr.state.append.append

theorem pMeta_ErrOK (mJ : Option J) (sid : String) : (pMeta mJ sid).ErrOK LibErr := by
  unfold pMeta
  split
  · exact PM.ErrOK_pure
  · refine PM.ErrOK_ite ?_ PM.ErrOK_pure
    split
    · exact PM.ErrOK_pure
    · exact PM.ErrOK_throw LibErr.state.append.append

theorem pOnAlways_ErrOK (onJ : J) (aJ : Option J) (sid : String) : (pOnAlways onJ aJ sid).ErrOK LibErr := by
  unfold pOnAlways
  refine PM.ErrOK_bind ?_ (fun on0 => ?_)
  · unfold pOn
    split
    · apply PM.ErrOK_foldlM
      intro on x _
      exact PM.ErrOK_bind (parseTransList_ErrOK _ _) (fun ts => PM.ErrOK_pure)
    · exact PM.ErrOK_throw LibErr.state.append.append
  · unfold pAlways
    split
    · exact PM.ErrOK_pure
    · exact PM.ErrOK_pure
    · exact PM.ErrOK_bind (parseTransList_ErrOK _ _) (fun ts => PM.ErrOK_pure)

theorem pOnDone_ErrOK (dJ : Option J) (sid : String) : (pOnDone dJ sid).ErrOK LibErr := by
  unfold pOnDone
  split
  · exact PM.ErrOK_pure
  · refine PM.ErrOK_ite PM.ErrOK_pure (PM.ErrOK_bind (PM.ErrOK_lift (normalizeTransitions_ErrOK _)) fun cfgs => ?_)
    split
    · exact PM.ErrOK_pure
    · exact PM.ErrOK_bind (parseTransition_ErrOK _ _) (fun t => PM.ErrOK_pure)

theorem pAfter_ErrOK (aJ : J) (sid : String) : (pAfter aJ sid).ErrOK LibErr := by
  unfold pAfter
  split
  · apply PM.ErrOK_foldlM
    intro a x _
    exact PM.ErrOK_bind (PM.ErrOK_lift (normalizeTransitions_ErrOK _)) (fun cfgs =>
      PM.ErrOK_bind (PM.ErrOK_mapM _ _ (fun c _ => parseTransition_ErrOK _ c)) (fun ts => PM.ErrOK_pure))
  · exact PM.ErrOK_throw LibErr.state.append.append

theorem pInvoke_ErrOK (iJ : J) (sid : String) : (pInvoke iJ sid).ErrOK LibErr := by
  unfold pInvoke
  apply PM.ErrOK_foldlM
  intro inv ic _
  unfold invokeStep
  split
  · refine PM.ErrOK_bind ?_ (fun od => PM.ErrOK_bind ?_ (fun oe => PM.ErrOK_pure))
    · split
      · exact PM.ErrOK_pure
      · exact parseTransList_ErrOK _ _
    · split
      · exact PM.ErrOK_pure
      · exact parseTransList_ErrOK _ _
  · exact PM.ErrOK_throw LibErr.state.append.append

theorem pKids_ErrOK (stJ : J) (sid : String) : (pKids stJ sid).ErrOK LibErr := by
  unfold pKids
  split
  · apply PM.ErrOK_foldlM
    intro _ x _
    unfold kidStep
    refine PM.ErrOK_bind ?_ (fun _ => ?_)
    · split
      · exact PM.ErrOK_pure
      · exact PM.ErrOK_throw LibErr.state.append.append.append.append
    · exact PM.ErrOK_ite
        (PM.ErrOK_ite (PM.ErrOK_throw (LibErr.lit "state key '" (by simp)).append.append.append.append) PM.ErrOK_pure)
        PM.ErrOK_pure
  · exact PM.ErrOK_throw LibErr.state.append.append

theorem parseStateDef_ErrOK (cfg : J) (sid : String) (path : Path) (isRoot : Bool) :
    (parseStateDef cfg sid path isRoot).ErrOK LibErr := by
  rw [parseStateDef_eq]
  unfold parseStateDefD
  refine PM.ErrOK_bind (pCustomId_ErrOK _ _ _ _) (fun _ => ?_)
  refine PM.ErrOK_bind (pInitialRaw_ErrOK _ _) (fun _ => ?_)
  refine PM.ErrOK_bind (pInferInitial_ErrOK _ _ _) (fun _ => ?_)
  refine PM.ErrOK_bind (pTags_ErrOK _ _) (fun _ => ?_)
  refine PM.ErrOK_bind (pMeta_ErrOK _ _) (fun _ => ?_)
  refine PM.ErrOK_bind (PM.ErrOK_lift (parseActions_ErrOK _)) (fun _ => ?_)
  refine PM.ErrOK_bind (PM.ErrOK_lift (parseActions_ErrOK _)) (fun _ => ?_)
  refine PM.ErrOK_bind (pOnAlways_ErrOK _ _ _) (fun _ => ?_)
  refine PM.ErrOK_bind (pOnDone_ErrOK _ _) (fun _ => ?_)
  refine PM.ErrOK_bind (pAfter_ErrOK _ _) (fun _ => ?_)
  refine PM.ErrOK_bind (pInvoke_ErrOK _ _) (fun _ => ?_)
  refine PM.ErrOK_bind (pKids_ErrOK _ _) (fun _ => ?_)
  exact PM.ErrOK_pure

theorem parseState_ErrOK : ∀ (cfg : J) (key sid : String) (path : Path) (isRoot : Bool),
    (parseState cfg key sid path isRoot).ErrOK LibErr := by
  intro cfg
  induction cfg using WellFounded.induction (measure (fun j : J => sizeOf j)).wf with
  | _ cfg ih =>
    intro key sid path isRoot
    rw [parseState.eq_1]
    refine PM.ErrOK_bind (parseStateDef_ErrOK _ _ _ _) (fun d => ?_)
    refine PM.ErrOK_bind ?_ (fun kids => PM.ErrOK_pure)
    apply PM.ErrOK_forIn'
    intro kc hkc kids
    exact PM.ErrOK_bind (ih kc.2 (stateKidsJ_sizeOf_lt cfg kc hkc) _ _ _ _) (fun child => PM.ErrOK_pure)

/-! ### the machine, block by block -/

section MachineBlocks
variable {α : Type}

def mObjK (cfg : J) (K : Unit → Except PErr α) : Except PErr α :=
  match cfg with
  | J.obj _ => K ()
  | _ => (throw "InvalidConfigError: machine configuration must be a dictionary" : Except PErr Unit) >>= K

def mIdK (cfg : J) (K : String → Except PErr α) : Except PErr α :=
  match cfg.get? "id" with
  | some (J.str s) =>
    if s = "" then (throw "InvalidConfigError: machine configuration must have a non-empty 'id' string" : Except PErr String) >>= K
    else (pure s : Except PErr String) >>= K
  | _ => (throw "InvalidConfigError: machine configuration must have a non-empty 'id' string" : Except PErr String) >>= K

def mStatesK (cfg : J) (K : Unit → Except PErr α) : Except PErr α :=
  if (!cfg.hasKey "states") = true then
    (throw "InvalidConfigError: must be a dict with 'id' and 'states' keys" : Except PErr Unit) >>= K
  else K ()

def mCtxK (cfg : J) (mid : String) (K : Unit → Except PErr α) : Except PErr α :=
  match cfg.get? "context" with
  | none => K ()
  | some (J.obj _) => K ()
  | some (J.str _) => K ()
  | some _ => (throw s!"InvalidConfigError: machine '{mid}' has an invalid 'context'" : Except PErr Unit) >>= K

def mMaxItK (cfg : J) (K : Nat → Except PErr α) : Except PErr α :=
  match cfg.get? "maxIterations" with
  | none => (pure Tables.defaultMaxIterations : Except PErr Nat) >>= K
  | some (J.num n) => (pure n.toNat : Except PErr Nat) >>= K
  | some (J.bool b) => (pure (if b = true then 1 else 0) : Except PErr Nat) >>= K
  | some (J.str s) =>
    (match pyIntOfStr s with
      | some n => (pure n.toNat : Except PErr Nat)
      | none => throw "InvalidConfigError: invalid 'maxIterations' (not an integer literal)") >>= K
  | some _ => (throw "InvalidConfigError: invalid 'maxIterations' (not a number)" : Except PErr Nat) >>= K

end MachineBlocks

def ctx0Of (cfg : J) : List (String × Int) :=
  match cfg.get? "context" with
  | some (.obj kvs) => kvs.filterMap (fun kv => match kv.2 with | .num n => some (kv.1, n) | _ => none)
  | _ => []

section
/- `rfl` below compares the two `maxIterations` blocks by evaluating them, and would unfold the string
functions under `pyIntOfStr s` as far as they go. -/
attribute [local irreducible] pyIntOfStr

theorem parseMachine_eq_blocks (cfg : J) :
    parseMachine cfg =
      mObjK cfg fun _ => mIdK cfg fun mid => mStatesK cfg fun _ => mCtxK cfg mid fun _ => mMaxItK cfg fun maxIt =>
        (parseState cfg mid mid [] true).run {} >>= fun x =>
          match x with
          | (root, st) => pure { id := mid, root, maxIterations := maxIt, customIds := st.customIds, ctx0 := ctx0Of cfg } := rfl

end

theorem Except.throw_bind {α β : Type} (e : PErr) (f : α → Except PErr β) :
    ((throw e : Except PErr α) >>= f) = .error e := rfl

section
variable {α : Type} (cfg : J)

theorem mObjK_ErrOK (K : Unit → Except PErr α) (hK : ∀ u, ErrOK (K u) LibErr) : ErrOK (mObjK cfg K) LibErr := by
  unfold mObjK
  split
  · exact hK ()
  · exact .bind (.error (rawErrors_LibErr _ (.head _))) hK

theorem mIdK_ErrOK (K : String → Except PErr α) (hK : ∀ mid, ErrOK (K mid) LibErr) : ErrOK (mIdK cfg K) LibErr := by
  have he : LibErr "InvalidConfigError: machine configuration must have a non-empty 'id' string" :=
    .lit "machine configuration must have a non-empty 'id' string" (by simp)
  unfold mIdK
  split
  · exact .ite (.bind (.error he) hK) (.bind .ok hK)
  · exact .bind (.error he) hK

theorem mStatesK_ErrOK (K : Unit → Except PErr α) (hK : ∀ u, ErrOK (K u) LibErr) : ErrOK (mStatesK cfg K) LibErr := by
  exact .ite (.bind (.error (.lit "must be a dict with 'id' and 'states' keys" (by simp))) hK) (hK ())

theorem mCtxK_ErrOK (mid : String) (K : Unit → Except PErr α) (hK : ∀ u, ErrOK (K u) LibErr) :
    ErrOK (mCtxK cfg mid K) LibErr := by
  unfold mCtxK
  split
  · exact hK ()
  · exact hK ()
  · exact hK ()
  · exact .bind (.error (LibErr.lit "machine '" (by simp)).append.append) hK

theorem mMaxItK_ErrOK (K : Nat → Except PErr α) (hK : ∀ n, ErrOK (K n) LibErr) : ErrOK (mMaxItK cfg K) LibErr := by
  unfold mMaxItK
  split
  · exact .bind .ok hK
  · exact .bind .ok hK
  · exact .bind .ok hK
  · refine .bind ?_ hK
    split
    · exact .ok
    · exact .error (rawErrors_LibErr _ (.tail _ (.tail _ (.head _))))
  · exact .bind (.error (rawErrors_LibErr _ (.tail _ (.head _)))) hK

theorem parseMachine_ErrOK : ErrOK (parseMachine cfg) LibErr := by
  rw [parseMachine_eq_blocks]
  exact mObjK_ErrOK _ _ fun _ => mIdK_ErrOK _ _ fun mid => mStatesK_ErrOK _ _ fun _ => mCtxK_ErrOK _ _ _ fun _ =>
    mMaxItK_ErrOK _ _ fun maxIt => .bind (parseState_ErrOK _ _ _ _ _ _) fun _ => .ok

end

end XSM

import Xsm.Model.Actors
import Xsm.Proofs.Basics
/-!
What every proof about the actor system model (C15) uses: the elementary facts about the model's operations,
then the closure induction.  Every operation of the actor model is put together — by `if`, `match`, composition and `List.foldl` — from a
dozen atomic updates of the state.  A relation between systems that is a preorder and holds across each atomic
update therefore holds across every operation, up to whole runs.  The atoms come in three levels, so that a
relation that fails for the later ones still gets the operations built from the earlier ones:

* `CalmClosed`  what neither stops nor creates an actor: delivery, delayed sends, unlinking, watchers;
* `StopClosed`  … and `stop()`;
* `Closed`      … and spawning, the start of pending actors, leaving the fragment: everything up to `run`.
-/
namespace XSM.Actors

/-! ### dictionaries -/

theorem dlookup_dinsert_self (k : String) (v : α) (l : List (String × α)) :
    dlookup k (dinsert k v l) = some v := by
  induction l with
  | nil => simp [dinsert, dlookup]
  | cons kv r ih =>
    by_cases h : kv.1 = k
    · simp [dinsert, h, dlookup]
    · simp [dinsert, h, dlookup, ih]

theorem dlookup_dinsert_ne {k k' : String} (v : α) (l : List (String × α)) (h : k' ≠ k) :
    dlookup k' (dinsert k v l) = dlookup k' l := by
  induction l with
  | nil => simp [dinsert, dlookup, Ne.symm h]
  | cons kv r ih =>
    by_cases h1 : kv.1 = k
    · simp [dinsert, h1, dlookup, Ne.symm h]
    · by_cases h2 : kv.1 = k'
      · have h3 : ¬ k' = k := h
        simp [dinsert, dlookup, h2, h3]
      · simp only [dinsert, h1, if_false, dlookup, h2, ih]

theorem dlookup_derase_self (k : String) (l : List (String × α)) : dlookup k (derase k l) = none := by
  induction l with
  | nil => simp [derase, dlookup]
  | cons kv r ih =>
    by_cases h : kv.1 = k
    · simpa [derase, h] using ih
    · simp only [derase, ne_eq, h, not_false_eq_true, decide_true, List.filter_cons_of_pos, dlookup, if_false]
      simpa [derase] using ih

theorem dlookup_mem {k : String} {v : α} {l : List (String × α)} (h : dlookup k l = some v) : (k, v) ∈ l := by
  induction l with
  | nil => simp [dlookup] at h
  | cons kv r ih =>
    by_cases h1 : kv.1 = k
    · simp [dlookup, h1] at h
      have : kv = (k, v) := by cases kv; simp_all
      simp [this]
    · simp [dlookup, h1] at h
      exact List.mem_cons_of_mem _ (ih h)

theorem mem_dinsert {k : String} {v : α} {l : List (String × α)} {x : String × α}
    (h : x ∈ dinsert k v l) : x = (k, v) ∨ x ∈ l := by
  induction l with
  | nil => simp [dinsert] at h; exact Or.inl h
  | cons kv r ih =>
    by_cases h1 : kv.1 = k
    · simp [dinsert, h1] at h
      rcases h with h | h
      · exact Or.inl h
      · exact Or.inr (List.mem_cons_of_mem _ h)
    · simp [dinsert, h1] at h
      rcases h with h | h
      · exact Or.inr (by simp [h])
      · rcases ih h with h | h
        · exact Or.inl h
        · exact Or.inr (List.mem_cons_of_mem _ h)

/-! ### positional updates -/

theorem modifyAt_eq (f : α → α) (i : Nat) (l : List α) : modifyAt f i l = l.modify i f := by
  induction l generalizing i with
  | nil => cases i <;> rfl
  | cons a r ih =>
    cases i with
    | zero => rfl
    | succ i => simp [modifyAt, ih]

theorem length_modifyAt (f : α → α) (i : Nat) (l : List α) : (modifyAt f i l).length = l.length := by
  rw [modifyAt_eq, List.length_modify]

theorem getElem?_modifyAt (f : α → α) (i j : Nat) (l : List α) :
    (modifyAt f i l)[j]? = if j = i then (l[j]?).map f else l[j]? := by
  rw [modifyAt_eq, List.getElem?_modify]
  by_cases h : j = i
  · subst h; simp
  · have : ¬ i = j := fun e => h e.symm
    simp [h, this]

theorem length_mapIdxFrom (f : Nat → α → α) (i : Nat) (l : List α) : (mapIdxFrom f i l).length = l.length := by
  induction l generalizing i with
  | nil => simp [mapIdxFrom]
  | cons a r ih => simp [mapIdxFrom, ih]

theorem getElem?_mapIdxFrom (f : Nat → α → α) (i j : Nat) (l : List α) :
    (mapIdxFrom f i l)[j]? = (l[j]?).map (f (i + j)) := by
  induction l generalizing i j with
  | nil => simp [mapIdxFrom]
  | cons a r ih =>
    cases j with
    | zero => simp [mapIdxFrom]
    | succ j =>
      simp only [mapIdxFrom, List.getElem?_cons_succ, ih]
      congr 2
      omega

/-! ### `Sys.get` -/

theorem get_of_lt (s : Sys) {u : Nat} (h : u < s.actors.length) : s.actors[u]? = some (s.get u) := by
  simp [Sys.get, List.getElem?_eq_getElem h]

theorem get_oob (s : Sys) {u : Nat} (h : ¬ u < s.actors.length) : s.get u = default := by
  have : s.actors[u]? = none := by simp; omega
  simp [Sys.get, this]

theorem lt_of_status_ne {s : Sys} {u : Nat} (h : (s.get u).status ≠ .uninit) : u < s.actors.length :=
  Decidable.by_contra fun hlt => h (by rw [get_oob s hlt]; rfl)

theorem get_upd (s : Sys) (u v : Nat) (f : Actor → Actor) :
    (s.upd u f).get v = if v = u ∧ u < s.actors.length then f (s.get u) else s.get v := by
  unfold Sys.get Sys.upd
  simp only [getElem?_modifyAt]
  by_cases h : v = u
  · subst h
    by_cases h2 : v < s.actors.length
    · simp [h2]
    · have : s.actors[v]? = none := by simp; omega
      simp [h2]
  · simp [h]

theorem get_upd_ne (s : Sys) {u v : Nat} (f : Actor → Actor) (h : v ≠ u) : (s.upd u f).get v = s.get v := by
  simp [get_upd, h]

theorem get_upd_self (s : Sys) {u : Nat} (f : Actor → Actor) (h : u < s.actors.length) :
    (s.upd u f).get u = f (s.get u) := by
  simp [get_upd, h]

theorem upd_rel {P : Actor → Actor → Prop} (hr : ∀ a, P a a) (s : Sys) (x : Nat) (f : Actor → Actor)
    (h : P (s.get x) (f (s.get x))) (u : Nat) : P (s.get u) ((s.upd x f).get u) := by
  rw [get_upd]
  split
  · next hc => rw [hc.1]; exact h
  · exact hr _

theorem get_upd_proj {β : Type} (π : Actor → β) (s : Sys) (u v : Nat) (f : Actor → Actor)
    (h : ∀ a, π (f a) = π a) : π ((s.upd u f).get v) = π (s.get v) :=
  upd_rel (P := fun a a' => π a' = π a) (fun _ => rfl) s u f (h _) v

theorem n_upd (s : Sys) (u : Nat) (f : Actor → Actor) : (s.upd u f).actors.length = s.actors.length := by
  simp [Sys.upd, length_modifyAt]

@[simp] theorem upd_flavor (s : Sys) (u : Nat) (f : Actor → Actor) : (s.upd u f).flavor = s.flavor := rfl
@[simp] theorem upd_registry (s : Sys) (u : Nat) (f : Actor → Actor) : (s.upd u f).registry = s.registry := rfl
@[simp] theorem upd_timers (s : Sys) (u : Nat) (f : Actor → Actor) : (s.upd u f).timers = s.timers := rfl
@[simp] theorem upd_watches (s : Sys) (u : Nat) (f : Actor → Actor) : (s.upd u f).watches = s.watches := rfl
@[simp] theorem upd_now (s : Sys) (u : Nat) (f : Actor → Actor) : (s.upd u f).now = s.now := rfl
@[simp] theorem warn_actors (s : Sys) (w : String) : (s.warn w).actors = s.actors := rfl
@[simp] theorem warn_flavor (s : Sys) (w : String) : (s.warn w).flavor = s.flavor := rfl
@[simp] theorem warn_registry (s : Sys) (w : String) : (s.warn w).registry = s.registry := rfl
@[simp] theorem warn_timers (s : Sys) (w : String) : (s.warn w).timers = s.timers := rfl

theorem get_congr {s s' : Sys} (h : s'.actors = s.actors) (u : Nat) : s'.get u = s.get u := by
  simp [Sys.get, h]

theorem default_alive : (default : Actor).alive = false := rfl
theorem default_status : (default : Actor).status = .uninit := rfl

theorem drainActor_default (busy : Option Nat) (u : Nat) : drainActor busy u default = default := by
  simp [drainActor, default_alive]

theorem drainActor_frame (busy : Option Nat) (u : Nat) (a : Actor) :
    (drainActor busy u a).status = a.status ∧ (drainActor busy u a).kids = a.kids ∧ (drainActor busy u a).id = a.id ∧
    (drainActor busy u a).parent = a.parent ∧ (a.alive = false → (drainActor busy u a).alive = false) := by
  unfold drainActor
  split
  · exact ⟨rfl, rfl, rfl, rfl, id⟩
  · split
    · exact ⟨rfl, rfl, rfl, rfl, id⟩
    · split
      · exact ⟨rfl, rfl, rfl, rfl, id⟩
      · exact ⟨rfl, rfl, rfl, rfl, fun _ => rfl⟩

theorem get_drainAll (busy : Option Nat) (s : Sys) (u : Nat) :
    (drainAll busy s).get u = drainActor busy u (s.get u) := by
  unfold drainAll Sys.get
  simp only [getElem?_mapIdxFrom, Nat.zero_add]
  cases h : s.actors[u]? with
  | none => simp [drainActor_default]
  | some a => simp

theorem n_drainAll (busy : Option Nat) (s : Sys) : (drainAll busy s).actors.length = s.actors.length := by
  simp [drainAll, length_mapIdxFrom]

theorem get_map (s : Sys) (g : Actor → Actor) {u : Nat} (h : u < s.actors.length) :
    ({ s with actors := s.actors.map g } : Sys).get u = g (s.get u) := by
  simp [Sys.get, List.getElem?_eq_getElem h]

theorem get_snoc_lt {s t : Sys} {c : Actor} (ht : t.actors = s.actors ++ [c]) {u : Nat} (h : u < s.actors.length) :
    t.get u = s.get u := by
  unfold Sys.get; rw [ht, List.getElem?_append_left h]

theorem get_snoc_new {s t : Sys} {c : Actor} (ht : t.actors = s.actors ++ [c]) : t.get s.actors.length = c := by
  unfold Sys.get; rw [ht, List.getElem?_concat_length]; rfl

theorem get_grown {s t : Sys} {c : Actor} (ht : t.actors = s.actors ++ [c]) {p : Nat} (hp : p < s.actors.length)
    (f : Actor → Actor) (v : Nat) :
    (t.upd p f).get v = if v = p then f (s.get p) else if v = s.actors.length then c else s.get v := by
  have hn : t.actors.length = s.actors.length + 1 := by rw [ht, List.length_append]; rfl
  rw [get_upd]
  by_cases hv : v = p
  · subst hv
    rw [if_pos ⟨rfl, by omega⟩, if_pos rfl, get_snoc_lt ht hp]
  · rw [if_neg (fun h => hv h.1), if_neg hv]
    split
    · next e => rw [e]; exact get_snoc_new ht
    · next e =>
      by_cases hlt : v < s.actors.length
      · exact get_snoc_lt ht hlt
      · rw [get_oob s hlt, get_oob t (by omega)]

theorem newActor_not_stopped (s : Sys) (p : Nat) (cid key : String) (b : Bool) :
    (newActor s p cid key b).status ≠ .stopped := by
  unfold newActor; cases b <;> simp

theorem deliverNow_ind {P : Sys → Prop} (s : Sys) (t : Nat) (ev : String) (hw : P (s.warn "notrunning"))
    (hu : (s.get t).status ≠ .stopped → ∀ ib rc : Actor → List String,
      P (s.upd t fun a => { a with inbox := ib a, received := rc a })) :
    P (deliverNow s t ev) := by
  unfold deliverNow
  split
  · split
    · next hr =>
      have hs : (s.get t).status ≠ .stopped := by rw [hr]; decide
      split
      · exact hu hs _ _
      · exact hu hs _ _
    · exact hw
  · split
    · exact hw
    · next hs => exact hu hs _ _

/-! ### timers -/

theorem mem_insertDue (s : Sys) (i x : Nat) (l : List Nat) : x ∈ insertDue s i l ↔ x = i ∨ x ∈ l := by
  induction l with
  | nil => simp [insertDue]
  | cons j r ih =>
    unfold insertDue
    split
    · simp
    · simp only [List.mem_cons, ih]
      constructor
      · rintro (h | h | h)
        · exact Or.inr (Or.inl h)
        · exact Or.inl h
        · exact Or.inr (Or.inr h)
      · rintro (h | h | h)
        · exact Or.inr (Or.inl h)
        · exact Or.inl h
        · exact Or.inr (Or.inr h)

theorem mem_foldr_insertDue (s : Sys) (x : Nat) (l : List Nat) : x ∈ l.foldr (insertDue s) [] ↔ x ∈ l := by
  induction l with
  | nil => simp
  | cons j r ih => simp [List.foldr_cons, mem_insertDue, ih]

theorem mem_dueLive (s : Sys) (t i : Nat) :
    i ∈ dueLive s t ↔ i < s.timers.length ∧ (timerAt s i).live = true ∧ (timerAt s i).due ≤ t := by
  unfold dueLive
  rw [mem_foldr_insertDue]
  simp [List.mem_filter, List.mem_range]

theorem timerAt_killTimer (s : Sys) (j i : Nat) :
    timerAt (killTimer s j) i = if i = j then { timerAt s i with live := false } else timerAt s i := by
  unfold timerAt killTimer
  simp only [getElem?_modifyAt]
  by_cases h : i = j
  · subst h
    cases hh : s.timers[i]? with
    | none => simp; rfl
    | some tm => simp
  · simp [h]

theorem timerAt_upd (s : Sys) (u : Nat) (f : Actor → Actor) (i : Nat) : timerAt (s.upd u f) i = timerAt s i := rfl

theorem timers_len_killTimer (s : Sys) (j : Nat) : (killTimer s j).timers.length = s.timers.length := by
  simp [killTimer, length_modifyAt]

/-! ### frames of delivery -/

theorem deliverNow_frame (s : Sys) (t : Nat) (ev : String) (v : Nat) (h : v ≠ t) : (deliverNow s t ev).get v = s.get v :=
  deliverNow_ind (P := fun s' => s'.get v = s.get v) s t ev rfl fun _ _ _ => get_upd_ne s _ h

theorem deliverNow_flavor (s : Sys) (t : Nat) (ev : String) : (deliverNow s t ev).flavor = s.flavor :=
  deliverNow_ind (P := fun s' => s'.flavor = s.flavor) s t ev rfl fun _ _ _ => rfl

theorem resolve_congr {s s' : Sys} {p : Nat} (spec : String) (hr : s'.registry = s.registry)
    (hi : (s'.get p).id = (s.get p).id) (hk : (s'.get p).kids = (s.get p).kids)
    (hs : (s'.get p).sources = (s.get p).sources) (hp : (s'.get p).parent = (s.get p).parent) :
    resolve s' p spec = resolve s p spec := by
  unfold resolve sourceMatches parentMatch
  rw [hr, hi, hk, hs, hp]

theorem resolve_deliverNow (s : Sys) (t : Nat) (ev : String) (p : Nat) (spec : String) :
    resolve (deliverNow s t ev) p spec = resolve s p spec :=
  deliverNow_ind (P := fun s' => resolve s' p spec = resolve s p spec) s t ev rfl fun _ _ _ =>
    resolve_congr spec rfl (get_upd_proj (·.id) s t p _ fun _ => rfl) (get_upd_proj (·.kids) s t p _ fun _ => rfl)
      (get_upd_proj (·.sources) s t p _ fun _ => rfl) (get_upd_proj (·.parent) s t p _ fun _ => rfl)

/-! ### registry -/

theorem registry_upd (s : Sys) (u : Nat) (f : Actor → Actor) : (s.upd u f).registry = s.registry := rfl

theorem registry_drainAll (busy : Option Nat) (s : Sys) : (drainAll busy s).registry = s.registry := rfl

/-! ### addressing: the segments of a child id that count, the matches of the two fallbacks -/

theorem ownSegsL_prefix (pid rest : List Char) : ownSegsL pid (pid ++ ':' :: rest) = splitColonL rest := by
  unfold ownSegsL
  have h1 : (pid ++ [':']).isPrefixOf (pid ++ ':' :: rest) = true := by
    rw [List.isPrefixOf_iff_prefix]; exact ⟨rest, by simp⟩
  rw [if_pos h1]
  congr 1
  have : pid ++ ':' :: rest = (pid ++ [':']) ++ rest := by simp
  rw [this]; exact List.drop_left' (by simp)

/-- F54: for a child id of the shape `<parent id>:<rest>` — every id a spawn produces — the segments that
    take part in the bare-key match are those of `<rest>`; the parent's own id plays no role -/
theorem ownSegs_prefix (pid rest : String) : ownSegs pid (pid ++ ":" ++ rest) = segs rest := by
  unfold ownSegs segs
  have : (pid ++ ":" ++ rest).toList = pid.toList ++ ':' :: rest.toList := by
    rw [String.toList_append, String.toList_append]
    have : ":".toList = [':'] := rfl
    rw [this]; simp
  rw [this, ownSegsL_prefix]

theorem mem_segMatches (pid : String) (kids : List (String × Nat)) (spec : String) (u : Nat) :
    u ∈ segMatches pid kids spec ↔ ∃ kv ∈ kids, spec ∈ ownSegs pid kv.1 ∧ kv.2 = u := by
  unfold segMatches
  simp only [List.mem_map, List.mem_filter, List.contains_iff_mem]
  constructor
  · rintro ⟨kv, ⟨h1, h2⟩, h3⟩; exact ⟨kv, h1, h2, h3⟩
  · rintro ⟨kv, h1, h2, h3⟩; exact ⟨kv, ⟨h1, h2⟩, h3⟩

/-! ## the closure induction -/

structure CalmClosed (Rel : Sys → Sys → Prop) : Prop where
  refl : ∀ s, Rel s s
  trans : ∀ {a b c}, Rel a b → Rel b c → Rel a c
  side : ∀ s timers watches warns now,
    Rel s { s with timers := timers, watches := watches, warns := warns, now := now }
  book : ∀ s u (k : Actor → List (String × Nat)) (src : Actor → List (String × String))
    (sd : Actor → List (String × Nat)) (iv : Actor → Bool), (∀ a kv, kv ∈ k a → kv ∈ a.kids) →
    Rel s (s.upd u fun a => { a with kids := k a, sources := src a, sends := sd a, inInv := iv a })
  mail : ∀ s u (ib rc : Actor → List String) (bz : Actor → Bool), (s.get u).status ≠ .stopped →
    Rel s (s.upd u fun a => { a with inbox := ib a, received := rc a, busy := bz a })
  finish : ∀ s p, Rel s (syncFinish s p)
  drain : ∀ busy s, Rel s (drainAll busy s)
  unreg : ∀ s x, Rel s (unregister s x)

structure StopClosed (Rel : Sys → Sys → Prop) : Prop extends CalmClosed Rel where
  unloop : ∀ s x, Rel s (s.upd x fun a => { a with alive := false })
  /-- the status is set and the systemIds are dropped in the same breath -/
  mark : ∀ s x, (s.get x).status = .running → Rel s (unregister (markStopped s x) x)

structure Closed (Rel : Sys → Sys → Prop) : Prop extends StopClosed Rel where
  oos : ∀ s, Rel s { s with oos := true }
  link : ∀ s u (k : Actor → List (String × Nat)) (src : Actor → List (String × String)),
    Rel s (s.upd u fun a => { a with kids := k a, sources := src a })
  add : ∀ s c fr, c.status ≠ .stopped → Rel s (addActor s c fr)
  reg : ∀ s x u warns, (s.get u).status ≠ .stopped →
    Rel s { s with registry := dinsert x u s.registry, warns := warns }
  start : ∀ s, Rel s { s with actors := s.actors.map fun a =>
    if a.status = .uninit then { a with status := .running } else a }

variable {Rel : Sys → Sys → Prop}

/-! ### delivery, delayed sends, watchers -/

theorem CalmClosed.foldl (h : CalmClosed Rel) {β : Type} (F : Sys → β → Sys) (hF : ∀ s x, Rel s (F s x))
    (l : List β) (s : Sys) : Rel s (l.foldl F s) :=
  foldl_rel h.refl h.trans F hF l s

theorem CalmClosed.warn (h : CalmClosed Rel) (s : Sys) (w : String) : Rel s (s.warn w) := h.side s _ _ _ _

theorem CalmClosed.deliverNow (h : CalmClosed Rel) (s : Sys) (t : Nat) (ev : String) : Rel s (deliverNow s t ev) :=
  deliverNow_ind s t ev (h.warn s _) fun hs _ _ => h.mail s t _ _ _ hs

theorem CalmClosed.schedule (h : CalmClosed Rel) (s : Sys) (p : Nat) (k : String) (i : Nat) : Rel s (schedule s p k i) := by
  unfold Actors.schedule setSend
  split
  · exact h.trans (h.side s _ _ _ _ : Rel s (killTimer s _)) (h.book _ p _ _ _ _ fun _ _ m => m)
  · exact h.book s p _ _ _ _ fun _ _ m => m

theorem CalmClosed.deliver (h : CalmClosed Rel) (s : Sys) (p t : Nat) (ev : String) (delay : Nat) (sid : Option String) :
    Rel s (deliver s p t ev delay sid) := by
  unfold Actors.deliver
  split
  · exact h.deliverNow s t ev
  · split
    · exact h.side s _ _ _ _
    · exact h.trans (h.side s _ _ _ _ : Rel s (addTimer s _)) (h.schedule _ p _ _)

theorem CalmClosed.cancelSend (h : CalmClosed Rel) (s : Sys) (p : Nat) (k : String) : Rel s (cancelSend s p k) := by
  unfold Actors.cancelSend
  split
  · exact h.trans (h.book s p _ _ _ _ fun _ _ m => m) (h.side _ _ _ _ _)
  · exact h.refl s

theorem mem_derase {k : String} {l : List (String × α)} {x : String × α} (h : x ∈ derase k l) : x ∈ l :=
  (List.mem_filter.mp h).1

theorem CalmClosed.popKid (h : CalmClosed Rel) (s : Sys) (p : Nat) (cid : String) : Rel s (popKid s p cid) :=
  h.book s p _ _ _ _ fun _ _ m => mem_derase m

theorem CalmClosed.unlinkChild (h : CalmClosed Rel) (s : Sys) (p x : Nat) : Rel s (unlinkChild s p x) := by
  unfold Actors.unlinkChild
  split
  · exact h.book s p _ _ _ _ fun _ _ m => mem_derase m
  · exact h.refl s

theorem CalmClosed.notifyDone (h : CalmClosed Rel) (s : Sys) (w : Watch) : Rel s (notifyDone s w) := by
  unfold Actors.notifyDone
  split
  · exact h.deliverNow s _ _
  · exact h.refl s

theorem CalmClosed.popOwnKid (h : CalmClosed Rel) (s : Sys) (w : Watch) : Rel s (popOwnKid s w) := by
  unfold Actors.popOwnKid
  split
  · exact h.popKid s _ _
  · exact h.refl s

theorem CalmClosed.runWatch (h : CalmClosed Rel) (s : Sys) (iw : Nat × Watch) : Rel s (runWatch s iw) := by
  unfold Actors.runWatch
  split
  · exact h.trans (h.trans (h.side s _ _ _ _ : Rel s (killWatch s iw.1)) (h.notifyDone _ _)) (h.popOwnKid _ _)
  · exact h.refl s

/-- `fireTimer` up to its observation point -/
theorem CalmClosed.fire (h : CalmClosed Rel) (s : Sys) (i : Nat) :
    Rel s (Actors.deliverNow (dropSend (killTimer s i) (timerAt s i).owner i) (timerAt s i).target (timerAt s i).ev) :=
  h.trans (h.trans (h.side s _ _ _ _ : Rel s (killTimer s i)) (h.book _ _ _ _ _ _ fun _ _ m => m)) (h.deliverNow _ _ _)

/-! ### `stop()` -/

theorem StopClosed.stopTasks (h : StopClosed Rel) (busy : Option Nat) (s : Sys) (x : Nat) : Rel s (stopTasks busy s x) := by
  unfold Actors.stopTasks
  split
  · exact h.trans (h.side s _ _ _ _ : Rel s (killTasks s x)) (h.drain busy _)
  · exact h.refl s

theorem StopClosed.stopLoop (h : StopClosed Rel) (busy : Option Nat) (s : Sys) (x : Nat) : Rel s (stopLoop busy s x) := by
  unfold Actors.stopLoop
  split
  · exact h.trans (h.unloop s x) (h.drain busy _)
  · exact h.refl s

theorem StopClosed.stopTail (h : StopClosed Rel) (busy : Option Nat) (s : Sys) (x : Nat) : Rel s (stopTail busy s x) := by
  unfold Actors.stopTail
  split
  · exact h.trans (h.book s x _ _ _ _ fun _ _ m => m) (h.side _ _ _ _ _)
  · exact h.trans (h.stopTasks busy s x) (h.stopLoop busy _ x)

theorem StopClosed.stopA (h : StopClosed Rel) (busy : Option Nat) (fuel : Nat) (s : Sys) (x : Nat) :
    Rel s (stopA busy fuel s x) := by
  induction fuel generalizing s x with
  | zero => exact h.refl s
  | succ fuel ih =>
    unfold Actors.stopA
    split
    · next hr =>
      exact h.trans (h.trans (h.trans (h.mark s x hr) (h.foldl (fun acc (kv : String × Nat) => Actors.stopA busy fuel acc kv.2) (fun acc kv => ih acc kv.2) _ _))
        (h.book _ x _ _ _ _ fun _ _ m => absurd m List.not_mem_nil)) (h.stopTail busy _ x)
    · exact h.refl s

theorem StopClosed.stop (h : StopClosed Rel) (busy : Option Nat) (s : Sys) (x : Nat) : Rel s (stop busy s x) :=
  h.stopA busy _ s x

theorem StopClosed.evict (h : StopClosed Rel) (busy : Option Nat) (s : Sys) (p : Nat) (cid : String) :
    Rel s (evict busy s p cid) := by
  unfold Actors.evict
  split
  · exact h.trans (h.popKid s p cid) (h.stop busy _ _)
  · exact h.refl s

theorem StopClosed.leaveWatch (h : StopClosed Rel) (busy : Option Nat) (p : Nat) (s : Sys) (iw : Nat × Watch) :
    Rel s (leaveWatch busy p s iw) := by
  unfold Actors.leaveWatch
  split
  · exact h.trans (h.trans (h.trans (h.side s _ _ _ _ : Rel s (killWatch s iw.1)) (h.drain busy _)) (h.stop busy _ _))
      (h.popKid _ p _)
  · exact h.refl s

theorem StopClosed.leaveBody (h : StopClosed Rel) (busy : Option Nat) (p : Nat) (s : Sys) : Rel s (leaveBody busy p s) := by
  unfold Actors.leaveBody setInv
  split
  · split
    · exact h.book s p _ _ _ _ fun _ _ m => m
    · exact h.trans (h.book s p _ _ _ _ fun _ _ m => m) (h.foldl _ (h.leaveWatch busy p) _ _)
  · exact h.refl s

/-! ### spawn, actions, operations, runs -/

theorem Closed.stopChildTo (h : Closed Rel) (busy : Option Nat) (s : Sys) (p x : Nat) : Rel s (stopChildTo busy s p x) := by
  unfold Actors.stopChildTo
  refine h.trans (h.trans (h.trans (h.unlinkChild s p x) (h.unreg _ x)) ?_) (h.stop busy _ x)
  unfold markOos
  split
  · exact h.oos _
  · exact h.refl _

theorem Closed.register (h : Closed Rel) (s : Sys) (sid : Option String) (u : Nat) (hu : (s.get u).status ≠ .stopped) :
    Rel s (register s sid u) := by
  unfold Actors.register
  split
  · exact h.refl s
  · split
    · split <;> exact h.reg s _ u _ hu
    · exact h.reg s _ u _ hu

theorem Closed.spawnCore (h : Closed Rel) (s : Sys) (p : Nat) (key : String) (eid sid : Option String) (b : Bool) :
    Rel s (spawnCore s p key eid sid b) := by
  unfold Actors.spawnCore linkChild
  refine h.trans (h.trans (h.add s _ _ (newActor_not_stopped _ _ _ _ _)) (h.register _ sid _ ?_)) (h.link _ p _ _)
  rw [get_snoc_new rfl]; exact newActor_not_stopped _ _ _ _ _

theorem Closed.spawnFresh (h : Closed Rel) (s : Sys) (p : Nat) (key : String) (eid sid : Option String) (b : Bool) :
    Rel s (spawnFresh s p key eid sid b) := by
  unfold Actors.spawnFresh
  split
  · exact h.trans (h.spawnCore s p key eid sid _) (h.side _ _ _ _ _)
  · exact h.spawnCore s p key eid sid _

theorem Closed.spawn (h : Closed Rel) (busy : Option Nat) (s : Sys) (p : Nat) (key : String) (eid sid : Option String)
    (b : Bool) : Rel s (spawn busy s p key eid sid b) :=
  h.trans (h.evict busy s p _) (h.spawnFresh _ p key eid sid b)

theorem Closed.spawnInvokeAsync (h : Closed Rel) (s : Sys) (p : Nat) (key : String) : Rel s (spawnInvokeAsync s p key) :=
  h.trans (h.trans (h.add s _ _ (newActor_not_stopped _ _ _ _ _)) (h.link _ p _ _)) (h.side _ _ _ _ _)

/-- an action is a spawn, a `stopChild` whose target has resolved, or a step that every `CalmClosed` relation holds
    across: one that neither stops nor creates an actor -/
theorem runAction_ind {P : Sys → Prop} (busy : Option Nat) (cur : String) (p : Nat) (s : Sys) (a : Action)
    (hspawn : ∀ key eid sid b, P (spawn busy s p key eid sid b)) (hstop : ∀ x, P (stopChildTo busy s p x))
    (hcalm : ∀ s', (∀ Rel : Sys → Sys → Prop, CalmClosed Rel → Rel s s') → P s') : P (runAction busy cur p s a) := by
  have unresolved : P ((s.warn "ambiguous").warn "unresolved") :=
    hcalm _ fun _ h => h.trans (h.warn s _) (h.warn _ _)
  have warned : ∀ w, P (s.warn w) := fun w => hcalm _ fun _ h => h.warn s w
  cases a with
  | spawn key eid sid b => exact hspawn key eid sid b
  | sendTo target ev delay sid =>
    simp only [Actors.runAction]
    split
    · exact hcalm _ fun _ h => h.deliver s p _ ev delay sid
    · exact unresolved
    · exact warned _
  | sendParent ev delay sid =>
    simp only [Actors.runAction]
    split
    · exact hcalm _ fun _ h => h.deliver s p _ ev delay sid
    · exact warned _
  | forwardTo target =>
    simp only [Actors.runAction]
    split
    · exact hcalm _ fun _ h => h.deliverNow s _ cur
    · exact unresolved
    · exact warned _
  | escalate =>
    simp only [Actors.runAction]
    split
    · exact hcalm _ fun _ h => h.deliverNow s _ _
    · exact warned _
  | cancel sid => exact hcalm _ fun _ h => h.cancelSend s p sid
  | stopChild target =>
    simp only [Actors.runAction]
    split
    · exact hstop _
    · exact unresolved
    · exact warned _

theorem Closed.runAction (h : Closed Rel) (busy : Option Nat) (cur : String) (p : Nat) (s : Sys) (a : Action) :
    Rel s (runAction busy cur p s a) :=
  runAction_ind busy cur p s a (h.spawn busy s p) (h.stopChildTo busy s p) fun _ hc => hc Rel h.toCalmClosed

theorem Closed.runActions (h : Closed Rel) (busy : Option Nat) (cur : String) (p : Nat) (s : Sys) (acts : List Action) :
    Rel s (runActions busy cur p s acts) :=
  h.foldl _ (h.runAction busy cur p) acts s

theorem Closed.settle (h : Closed Rel) (s : Sys) : Rel s (settle s) := by
  unfold Actors.settle
  split
  · exact h.start s
  · exact h.drain none s

theorem Closed.handle (h : Closed Rel) (s : Sys) (p : Nat) (name : String) (body : Option Nat → Sys → Sys)
    (hb : ∀ busy s1, Rel s1 (body busy s1)) : Rel s (handle s p name body) := by
  unfold Actors.handle beginSync beginAsync
  split
  · split
    · next hr =>
      exact h.trans (h.trans (h.trans (h.mail s p _ _ _ (by rw [hr]; decide)) (hb _ _)) (h.finish _ p)) (h.settle _)
    · exact h.warn s _
  · split
    · exact h.warn s _
    · next hr => exact h.trans (h.trans (h.mail s p _ _ _ hr) (hb _ _)) (h.settle _)

theorem Closed.invokeBody (h : Closed Rel) (p : Nat) (s : Sys) : Rel s (invokeBody p s) := by
  have hi : Rel s (setInv s p true) := h.book s p _ _ _ _ fun _ _ m => m
  unfold Actors.invokeBody
  split
  · exact h.refl s
  · split
    · exact hi
    · split
      · exact h.trans hi (h.spawn none _ p _ _ _ _)
      · exact h.trans hi (h.spawnInvokeAsync _ p _)

theorem Closed.fireTimer (h : Closed Rel) (s : Sys) (i : Nat) : Rel s (fireTimer s i) :=
  h.trans (h.fire s i) (h.settle _)

theorem Closed.advance (h : Closed Rel) (s : Sys) (dt : Nat) : Rel s (advance s dt) := by
  have h1 : Rel s (runWatches s) := h.foldl _ h.runWatch _ s
  have h3 : ∀ t, Rel t (fireDue t dt) := fun t => h.foldl _ h.fireTimer _ t
  exact h.trans (h.trans (h.trans (h.trans h1 (h.settle _)) (h3 _)) (h.side _ _ _ _ _)) (h.settle _)

theorem Closed.stepOn (h : Closed Rel) (cmds : List (String × List Action)) (s : Sys) (op : Op) :
    Rel s (stepOn cmds s op) := by
  cases op with
  | cmd aid name =>
    simp only [Actors.stepOn, goInv, leaveInv, cmdOp]
    split
    · exact h.refl s
    · split
      · exact h.handle s _ _ _ fun _ => h.invokeBody _
      · split
        · exact h.handle s _ _ _ fun busy => h.leaveBody busy _
        · exact h.handle s _ _ _ fun busy s1 => h.runActions busy name _ s1 _
  | adv dt => exact h.advance s dt
  | stop aid =>
    simp only [Actors.stepOn]
    split
    · exact h.refl s
    · exact h.trans (h.stop none s _) (h.settle _)

theorem Closed.step (h : Closed Rel) (cmds : List (String × List Action)) (s : Sys) (op : Op) : Rel s (step cmds s op) :=
  h.trans (h.side s _ _ _ _ : Rel s (clearWarns s)) (h.stepOn cmds _ op)

theorem Closed.run (h : Closed Rel) (cmds : List (String × List Action)) (s : Sys) (ops : List Op) : Rel s (run cmds s ops) :=
  h.foldl _ (h.step cmds) ops s

end XSM.Actors

import Xsm.Model.Spec
import Xsm.Proofs.Basics
import Xsm.Proofs.Tree
/-
C01 / C11 core, set level. Everything lives in `XSM.Spec`: these are the specification-level
functions (what is exited, what is entered) and their legality theorems; `Proofs/Bridge.lean`
relates the executable plan functions to them.

A configuration is a set of paths into the rose tree, and `LegalAt c p n` says by recursion on `n`
that `c` selects the subtree `n` at `p` legally. The recursion is unfolded once, to characterise the
kid predicates by membership (`allKids_iff`, `oneKid_elim` / `oneKid_intro`); after that every proof
is an induction over the tree (`SNode.ind`) or along a path (`legalAt_focus`). A microstep keeps the
configuration legal (`legal_step_gen`) because the re-entered branch is legal (`forest_entry`), the
domain node therefore is, and nothing outside the domain changes. What is entered explicitly is a
`Forest`; the chains to one plain target and to the targets of a history restore both are
(`targets_forest`).
-/
namespace XSM
namespace Spec
def Clear (c : List Path) (p : Path) (k : String) : Prop := ∀ q ∈ c, ¬ (p ++ [k]) <+: q
instance (c : List Path) (p : Path) (k : String) : Decidable (Clear c p k) := by unfold Clear; infer_instance

mutual
def LegalAt (c : List Path) (p : Path) : SNode → Prop
  | .mk d kids =>
    p ∈ c ∧ (match d.kind with
      | .compound => kids = [] ∨ OneKid c p kids
      | .parallel => AllKids c p kids
      | .history => False
      | _ => True)
def OneKid (c : List Path) (p : Path) : List (String × SNode) → Prop
  | [] => False
  | (k, n) :: rest => (LegalAt c (p ++ [k]) n ∧ ClearKids c p rest) ∨ (Clear c p k ∧ OneKid c p rest)
def ClearKids (c : List Path) (p : Path) : List (String × SNode) → Prop
  | [] => True
  | (k, _) :: rest => Clear c p k ∧ ClearKids c p rest
def AllKids (c : List Path) (p : Path) : List (String × SNode) → Prop
  | [] => True
  | (k, n) :: rest => (if n.kind = .history then Clear c p k else LegalAt c (p ++ [k]) n) ∧ AllKids c p rest
end

mutual
def WF : SNode → Prop
  | .mk d kids =>
    WFKids kids ∧ (kids.map (·.1)).Nodup ∧
    (match d.kind with
     | .compound => kids = [] ∨ ∃ k, d.initial = some k ∧ HasRealKid k kids
     | .parallel => True
     | _ => kids = [])
def WFKids : List (String × SNode) → Prop
  | [] => True
  | (_, n) :: rest => WF n ∧ WFKids rest
def HasRealKid (k : String) : List (String × SNode) → Prop
  | [] => False
  | (k', n) :: rest => (k' = k ∧ n.kind ≠ .history) ∨ (k' ≠ k ∧ HasRealKid k rest)
end

theorem snoc_prefix_of_prefix (p : Path) (k : String) : p <+: p ++ [k] := List.prefix_append _ _

/-! ## Induction over the tree; well-formed trees -/

/- Induction over `SNode` with the kids as a list: the recursor of the nested type, its three motives (node, list
   of kids, keyed kid) given once. Every induction over the tree below goes through here. -/
theorem SNode.ind {P : SNode → Prop}
    (h : ∀ d kids, (∀ k c, (k, c) ∈ kids → P c) → P (.mk d kids)) : ∀ n, P n := fun n =>
  SNode.rec (motive_1 := P) (motive_2 := fun ks => ∀ k c, (k, c) ∈ ks → P c) (motive_3 := fun kc => P kc.2)
    h (fun _ _ hm => nomatch hm)
    (fun _ _ ihd itl k c hm => by
      rcases List.mem_cons.1 hm with rfl | hm
      · exact ihd
      · exact itl k c hm)
    (fun _ _ ih => ih) n
theorem SNode.indKids {P : SNode → Prop}
    (h : ∀ d kids, (∀ k c, (k, c) ∈ kids → P c) → P (.mk d kids)) :
    ∀ (ks : List (String × SNode)) k c, (k, c) ∈ ks → P c :=
  fun _ _ c _ => SNode.ind h c

theorem kind_mk (d : StateDef) (kids : List (String × SNode)) : (SNode.mk d kids).kind = d.kind := rfl

theorem kindAt_eq {root : SNode} {p : Path} {d : StateDef} {kids : List (String × SNode)}
    (h : root.at p = some (.mk d kids)) : kindAt root p = some d.kind := by
  rw [kindAt, h]; rfl

theorem wf_kids {d : StateDef} {kids : List (String × SNode)} (h : WF (.mk d kids)) : WFKids kids := by
  simp only [WF] at h; exact h.1

theorem wf_nodup {d : StateDef} {kids : List (String × SNode)} (h : WF (.mk d kids)) :
    (keys kids).Nodup := by
  simp only [WF] at h; exact h.2.1

theorem wfKids_mem {ks : List (String × SNode)} (hwf : WFKids ks) {k : String} {c : SNode}
    (h : (k, c) ∈ ks) : WF c := by
  induction ks with
  | nil => cases h
  | cons hd rest ih =>
    obtain ⟨k', n⟩ := hd
    simp only [WFKids] at hwf
    rcases List.mem_cons.1 h with h | h
    · cases h; exact hwf.1
    · exact ih hwf.2 h

theorem wf_kid {d : StateDef} {kids : List (String × SNode)} (hwf : WF (.mk d kids)) {k : String}
    {c : SNode} (h : (k, c) ∈ kids) : WF c :=
  wfKids_mem (wf_kids hwf) h

theorem wf_at {root : SNode} (hwf : WF root) : ∀ (p : Path) (n : SNode), root.at p = some n → WF n := by
  intro p
  induction p generalizing root with
  | nil => intro n h; simp only [SNode.at, Option.some.injEq] at h; subst h; exact hwf
  | cons k p ih =>
    intro n h
    match root with
    | .mk d kids =>
      obtain ⟨c, hf, hc⟩ := at_cons_some.1 h
      exact ih (wf_kid hwf (findKid_some_mem hf)) n hc

theorem kind_of_findKid {d : StateDef} {kids : List (String × SNode)} {k : String} {c : SNode}
    (hwf : WF (.mk d kids)) (hf : findKid k kids = some c) : d.kind = .compound ∨ d.kind = .parallel := by
  have hne : kids ≠ [] := fun h0 => by rw [h0] at hf; cases hf
  simp only [WF] at hwf
  cases hkd : d.kind <;> simp only [hkd] at hwf
  case compound => exact Or.inl rfl
  case parallel => exact Or.inr rfl
  all_goals exact absurd hwf.2.2 hne

theorem hasRealKid_findKid {k : String} {ks : List (String × SNode)} (h : HasRealKid k ks) :
    ∃ c, findKid k ks = some c ∧ c.kind ≠ .history := by
  induction ks with
  | nil => cases h
  | cons hd rest ih =>
    obtain ⟨k', n⟩ := hd
    simp only [HasRealKid] at h
    simp only [findKid]
    rcases h with ⟨hk, hn⟩ | ⟨hne, hr⟩
    · exact ⟨n, if_pos hk, hn⟩
    · rw [if_neg hne]; exact ih hr

/-! ## `LegalAt` unfolded once: the kid predicates by membership -/

theorem legalAt_mem {c : List Path} {p : Path} {n : SNode} (h : LegalAt c p n) : p ∈ c := by
  match n, h with
  | .mk _ _, h => simp only [LegalAt] at h; exact h.1

theorem legalAt_not_history {c : List Path} {p : Path} {n : SNode} (h : LegalAt c p n) :
    n.kind ≠ .history := by
  match n, h with
  | .mk d _, h =>
    intro hk
    simp only [LegalAt, show d.kind = .history from hk] at h
    exact h.2

theorem legalAt_compound {c : List Path} {p : Path} {d : StateDef} {kids : List (String × SNode)}
    (h : d.kind = .compound) : LegalAt c p (.mk d kids) ↔ p ∈ c ∧ (kids = [] ∨ OneKid c p kids) := by
  simp only [LegalAt, h]

theorem legalAt_parallel {c : List Path} {p : Path} {d : StateDef} {kids : List (String × SNode)}
    (h : d.kind = .parallel) : LegalAt c p (.mk d kids) ↔ p ∈ c ∧ AllKids c p kids := by
  simp only [LegalAt, h]

theorem clearKids_iff (c : List Path) (p : Path) (ks : List (String × SNode)) :
    ClearKids c p ks ↔ ∀ k ∈ keys ks, Clear c p k := by
  induction ks with
  | nil => simp [ClearKids, keys]
  | cons hd rest ih =>
    obtain ⟨k', n⟩ := hd
    simp only [ClearKids, ih, keys, List.map_cons, List.forall_mem_cons]

theorem allKids_iff {c : List Path} {p : Path} {ks : List (String × SNode)} :
    AllKids c p ks ↔
      ∀ k n, (k, n) ∈ ks → if n.kind = .history then Clear c p k else LegalAt c (p ++ [k]) n := by
  induction ks with
  | nil => simp [AllKids]
  | cons hd rest ih =>
    obtain ⟨k', n'⟩ := hd
    simp only [AllKids, ih, List.mem_cons, Prod.mk.injEq, or_imp, forall_and, and_imp,
      forall_eq_apply_imp_iff, forall_eq]

theorem oneKid_elim (c : List Path) (p : Path) :
    ∀ (ks : List (String × SNode)), (keys ks).Nodup → OneKid c p ks →
      ∃ k ch, findKid k ks = some ch ∧ LegalAt c (p ++ [k]) ch ∧ ∀ k' ∈ keys ks, k' ≠ k → Clear c p k' := by
  intro ks
  induction ks with
  | nil => intro _ h; cases h
  | cons hd rest ih =>
    obtain ⟨k0, n0⟩ := hd
    intro hnd hone
    have hnd' := List.nodup_cons.1 hnd
    simp only [OneKid] at hone
    simp only [findKid, keys, List.map_cons, List.forall_mem_cons]
    rcases hone with ⟨hleg, hclr⟩ | ⟨hclr, hrest⟩
    · exact ⟨k0, n0, if_pos rfl, hleg, fun h => absurd rfl h,
        fun k' hk' _ => (clearKids_iff c p rest).1 hclr k' hk'⟩
    · obtain ⟨k, ch, hf, hl, hc⟩ := ih hnd'.2 hrest
      have hne0 : k0 ≠ k := fun h => hnd'.1 (h ▸ findKid_mem hf)
      exact ⟨k, ch, by rw [if_neg hne0]; exact hf, hl, fun _ => hclr, hc⟩

theorem oneKid_intro (c : List Path) (p : Path) (k : String) (child : SNode) :
    ∀ (ks : List (String × SNode)), (keys ks).Nodup → findKid k ks = some child →
      LegalAt c (p ++ [k]) child → (∀ k' ∈ keys ks, k' ≠ k → Clear c p k') → OneKid c p ks := by
  intro ks
  induction ks with
  | nil => intro _ h; cases h
  | cons hd rest ih =>
    obtain ⟨k', n⟩ := hd
    intro hnd hfind hleg hclr
    have hnd' := List.nodup_cons.1 hnd
    simp only [keys, List.map_cons, List.forall_mem_cons] at hclr
    simp only [OneKid]
    simp only [findKid] at hfind
    split at hfind
    · rename_i hk
      cases hfind; subst hk
      exact Or.inl ⟨hleg, (clearKids_iff c p rest).2 fun k'' hk'' =>
        hclr.2 k'' hk'' fun h => hnd'.1 (h ▸ hk'')⟩
    · rename_i hk
      exact Or.inr ⟨hclr.1 hk, ih hnd'.2 hfind hleg hclr.2⟩

theorem oneKid_selected {c : List Path} {p : Path} {k : String} {child : SNode}
    {ks : List (String × SNode)} (hnd : (keys ks).Nodup) (hone : OneKid c p ks)
    (hf : findKid k ks = some child) (hact : ∃ q ∈ c, (p ++ [k]) <+: q) :
    LegalAt c (p ++ [k]) child ∧ ∀ k' ∈ keys ks, k' ≠ k → Clear c p k' := by
  obtain ⟨k0, ch, hf0, hl, hclr⟩ := oneKid_elim c p ks hnd hone
  by_cases h : k = k0
  · subst h; rw [hf] at hf0; cases hf0; exact ⟨hl, hclr⟩
  · obtain ⟨q, hq, hpre⟩ := hact
    exact absurd hpre (hclr k (findKid_mem hf) h q hq)

theorem oneKid_active {c : List Path} {p : Path} {ks : List (String × SNode)} (hnd : (keys ks).Nodup)
    (hone : OneKid c p ks) :
    ∃ k, (p ++ [k]) ∈ c ∧ ∀ k' ∈ keys ks, (p ++ [k']) ∈ c → k' = k := by
  obtain ⟨k, ch, _, hl, hclr⟩ := oneKid_elim c p ks hnd hone
  refine ⟨k, legalAt_mem hl, fun k' hk' hc => ?_⟩
  by_cases h : k' = k
  · exact h
  · exact absurd (List.prefix_refl _) (hclr k' hk' h _ hc)

/-! ## Monotonicity and congruence in the configuration -/

theorem Clear_congr {c c' : List Path} {p : Path} {k : String}
    (h : ∀ q, (p ++ [k]) <+: q → q ∈ c' → q ∈ c) (hc : Clear c p k) : Clear c' p k :=
  fun q hq hpre => hc q (h q hpre hq) hpre

theorem kid_imp {c c' : List Path} {p : Path} {k : String} {n : SNode}
    (hc : Clear c p k → Clear c' p k) (hl : LegalAt c (p ++ [k]) n → LegalAt c' (p ++ [k]) n) :
    (if n.kind = .history then Clear c p k else LegalAt c (p ++ [k]) n) →
      (if n.kind = .history then Clear c' p k else LegalAt c' (p ++ [k]) n) := by
  split <;> assumption

theorem allKids_imp {c c' : List Path} {p : Path} {ks : List (String × SNode)}
    (hl : ∀ k n, (k, n) ∈ ks → LegalAt c (p ++ [k]) n → LegalAt c' (p ++ [k]) n)
    (hc : ∀ k ∈ keys ks, Clear c p k → Clear c' p k) : AllKids c p ks → AllKids c' p ks :=
  fun hall => allKids_iff.2 fun k n hm =>
    kid_imp (hc k (List.mem_map_of_mem (f := (·.1)) hm)) (hl k n hm) (allKids_iff.1 hall k n hm)

theorem oneKid_imp {c c' : List Path} {p : Path} : ∀ (ks : List (String × SNode)),
    (∀ k n, (k, n) ∈ ks → LegalAt c (p ++ [k]) n → LegalAt c' (p ++ [k]) n) →
    (∀ k ∈ keys ks, Clear c p k → Clear c' p k) → OneKid c p ks → OneKid c' p ks := by
  intro ks
  induction ks with
  | nil => intro _ _ h; exact h
  | cons hd rest ih =>
    obtain ⟨k, n⟩ := hd
    intro hl hc
    simp only [keys, List.map_cons, List.forall_mem_cons] at hc
    simp only [OneKid]
    rintro (⟨h1, h2⟩ | ⟨h1, h2⟩)
    · exact Or.inl ⟨hl k n (List.mem_cons_self ..) h1,
        (clearKids_iff c' p rest).2 fun k' hk' => hc.2 k' hk' ((clearKids_iff c p rest).1 h2 k' hk')⟩
    · exact Or.inr ⟨hc.1 h1, ih (fun k' n' hm => hl k' n' (List.mem_cons_of_mem _ hm)) hc.2 h2⟩

theorem congr_kid {c c' : List Path} {p : Path} (h : ∀ q, p <+: q → (q ∈ c ↔ q ∈ c')) (k : String) (q : Path)
    (hq : (p ++ [k]) <+: q) : q ∈ c ↔ q ∈ c' :=
  h q (prefix_of_snoc_prefix hq)

theorem LegalAt_congr (c c' : List Path) (p : Path) (n : SNode)
    (h : ∀ q, p <+: q → (q ∈ c ↔ q ∈ c')) : LegalAt c p n → LegalAt c' p n := by
  induction n using SNode.ind generalizing p with
  | h d kids ih =>
    have hkid := congr_kid h
    have hclr : ∀ k, Clear c p k → Clear c' p k := fun k => Clear_congr fun q hq => (hkid k q hq).2
    intro hl
    simp only [LegalAt] at hl ⊢
    refine ⟨(h p (List.prefix_refl _)).1 hl.1, ?_⟩
    cases hkd : d.kind <;> simp only [hkd] at hl ⊢
    case compound =>
      exact hl.2.imp_right (oneKid_imp kids (fun k n hm => ih k n hm _ (hkid k)) fun k _ => hclr k)
    case parallel => exact allKids_imp (fun k n hm => ih k n hm _ (hkid k)) (fun k _ => hclr k) hl.2
    case history => exact hl.2

theorem OneKid_congr (c c' : List Path) (p : Path) (ks : List (String × SNode))
    (h : ∀ q, p <+: q → (q ∈ c ↔ q ∈ c')) : OneKid c p ks → OneKid c' p ks :=
  have hkid := congr_kid h
  oneKid_imp ks (fun k n _ => LegalAt_congr c c' _ n (hkid k))
    fun k _ => Clear_congr fun q hq => (hkid k q hq).2

theorem AllKids_congr (c c' : List Path) (p : Path) (ks : List (String × SNode))
    (h : ∀ q, p <+: q → (q ∈ c ↔ q ∈ c')) : AllKids c p ks → AllKids c' p ks :=
  have hkid := congr_kid h
  allKids_imp (fun k n _ => LegalAt_congr c c' _ n (hkid k))
    fun k _ => Clear_congr fun q hq => (hkid k q hq).2

theorem allKids_replace (c c' : List Path) (p : Path) (k : String) (child : SNode) :
    ∀ (ks : List (String × SNode)), (keys ks).Nodup → AllKids c p ks → findKid k ks = some child →
      (if child.kind = .history then Clear c' p k else LegalAt c' (p ++ [k]) child) →
      (∀ k' ∈ keys ks, k' ≠ k → ∀ q, (p ++ [k']) <+: q → (q ∈ c ↔ q ∈ c')) →
      AllKids c' p ks := by
  intro ks hnd hall hf hnew hagree
  refine allKids_iff.2 fun k' n hm => ?_
  by_cases hk : k' = k
  · subst hk
    obtain rfl := kid_unique hnd hm (findKid_some_mem hf)
    exact hnew
  · have hag := hagree k' (List.mem_map_of_mem (f := (·.1)) hm) hk
    exact kid_imp (Clear_congr fun q hq => (hag q hq).2) (LegalAt_congr c c' _ n hag)
      (allKids_iff.1 hall k' n hm)

/-! ## Focus: `LegalAt` at a kid and along a path -/

theorem legalAt_kid {c : List Path} {p : Path} {d : StateDef} {kids : List (String × SNode)}
    {k : String} {child : SNode} (hwf : WF (.mk d kids)) (hl : LegalAt c p (.mk d kids))
    (hf : findKid k kids = some child) (hact : ∃ q ∈ c, (p ++ [k]) <+: q) :
    LegalAt c (p ++ [k]) child ∧
      ∀ c' : List Path, (∀ q, ¬ (p ++ [k]) <+: q → (q ∈ c' ↔ q ∈ c)) → LegalAt c' (p ++ [k]) child →
        LegalAt c' p (.mk d kids) := by
  have hnd := wf_nodup hwf
  have hp' : ∀ c' : List Path, (∀ q, ¬ (p ++ [k]) <+: q → (q ∈ c' ↔ q ∈ c)) → p ∈ c' :=
    fun c' hag => (hag p (not_snoc_prefix_self p k)).2 (legalAt_mem hl)
  have hsib : ∀ c' : List Path, (∀ q, ¬ (p ++ [k]) <+: q → (q ∈ c' ↔ q ∈ c)) →
      ∀ k', k' ≠ k → ∀ q, (p ++ [k']) <+: q → (q ∈ c ↔ q ∈ c') :=
    fun c' hag k' hne q hq => (hag q fun h => hne (snoc_prefix_inj hq h)).symm
  rcases kind_of_findKid hwf hf with hkd | hkd
  · rw [legalAt_compound hkd] at hl
    rcases hl.2 with h0 | hone
    · rw [h0] at hf; cases hf
    · obtain ⟨hlk, hclr⟩ := oneKid_selected hnd hone hf hact
      refine ⟨hlk, fun c' hag hnew => (legalAt_compound hkd).2 ⟨hp' c' hag, Or.inr ?_⟩⟩
      exact oneKid_intro c' p k child kids hnd hf hnew fun k' hk' hne =>
        Clear_congr (fun q hq => (hsib c' hag k' hne q hq).2) (hclr k' hk' hne)
  · rw [legalAt_parallel hkd] at hl
    have hget := allKids_iff.1 hl.2 k child (findKid_some_mem hf)
    split at hget
    · obtain ⟨q, hq, hpre⟩ := hact
      exact absurd hpre (hget q hq)
    · rename_i hh
      refine ⟨hget, fun c' hag hnew => (legalAt_parallel hkd).2 ⟨hp' c' hag, ?_⟩⟩
      exact allKids_replace c c' p k child kids hnd hl.2 hf (by rw [if_neg hh]; exact hnew)
        fun k' _ hne => hsib c' hag k' hne

/-- Below a legal node, the node at an active path is legally selected; and if the selection
    strictly below it is replaced by a legal one while everything outside that subtree is unchanged,
    the whole stays legal. -/
theorem legalAt_focus {c : List Path} {nd : SNode} : ∀ (rest : Path) {n : SNode} {p : Path},
    WF n → LegalAt c p n → n.at rest = some nd → (∃ q ∈ c, (p ++ rest) <+: q) →
    LegalAt c (p ++ rest) nd ∧
      ∀ c' : List Path, (∀ q, ¬ (p ++ rest) <+: q → (q ∈ c' ↔ q ∈ c)) → LegalAt c' (p ++ rest) nd →
        LegalAt c' p n := by
  intro rest
  induction rest with
  | nil =>
    intro n p _ hl hat _
    simp only [SNode.at, Option.some.injEq] at hat
    subst hat
    rw [List.append_nil]
    exact ⟨hl, fun _ _ h => h⟩
  | cons k rest' ih =>
    intro n p hwf hl hat hact
    match n with
    | .mk d kids =>
      obtain ⟨child, hf, hat'⟩ := at_cons_some.1 hat
      rw [List.append_cons] at hact ⊢
      have hactk : ∃ q ∈ c, (p ++ [k]) <+: q :=
        hact.imp fun q h => ⟨h.1, (List.prefix_append _ _).trans h.2⟩
      obtain ⟨hlk, hup⟩ := legalAt_kid hwf hl hf hactk
      obtain ⟨hlr, hupr⟩ := ih (wf_kid hwf (findKid_some_mem hf)) hlk hat' hact
      exact ⟨hlr, fun c' hag hnew =>
        hup c' (fun q hq => hag q fun h => hq ((List.prefix_append _ _).trans h)) (hupr c' hag hnew)⟩

theorem legalAt_focus_root {c : List Path} {root n : SNode} {p : Path} (hwf : WF root)
    (hl : LegalAt c [] root) (hat : root.at p = some n) (hact : ∃ q ∈ c, p <+: q) :
    LegalAt c p n ∧
      ∀ c' : List Path, (∀ q, ¬ p <+: q → (q ∈ c' ↔ q ∈ c)) → LegalAt c' p n → LegalAt c' [] root :=
  legalAt_focus p hwf hl hat hact

/-! ## `Legal`: the flat wording, equivalent to `LegalAt` at the root -/

/-- C01 as the property states it: root active; every active id is a non-history state of the
    machine; the parent of an active state is active; an active compound state (with children) has
    exactly one active child; an active parallel state has every non-history child active. -/
structure Legal (root : SNode) (c : List Path) : Prop where
  root_active : [] ∈ c
  states : ∀ q ∈ c, ∃ n, root.at q = some n ∧ n.kind ≠ .history
  parent_active : ∀ q ∈ c, q.dropLast ∈ c
  compound_one : ∀ p ∈ c, ∀ d kids, root.at p = some (.mk d kids) → d.kind = .compound → kids ≠ [] →
      ∃ k, (p ++ [k]) ∈ c ∧ ∀ k', (p ++ [k']) ∈ c → k' = k
  parallel_all : ∀ p ∈ c, ∀ d kids, root.at p = some (.mk d kids) → d.kind = .parallel →
      ∀ k ch, (k, ch) ∈ kids → ch.kind ≠ .history → (p ++ [k]) ∈ c

theorem legalAt_of_legal (root : SNode) (hwf : WF root) (c : List Path) (hL : Legal root c) :
    ∀ n p, root.at p = some n → p ∈ c → LegalAt c p n := by
  intro n
  induction n using SNode.ind with
  | h d kids ih =>
    intro p hat hpc
    have hnd := wf_nodup (wf_at hwf p _ hat)
    simp only [LegalAt]
    refine ⟨hpc, ?_⟩
    cases hkd : d.kind <;> dsimp only
    case compound =>
      by_cases hk0 : kids = []
      · exact Or.inl hk0
      · obtain ⟨k, hkc, huniq⟩ := hL.compound_one p hpc d kids hat hkd hk0
        obtain ⟨ch, hch, _⟩ := hL.states _ hkc
        have hfind : findKid k kids = some ch := by rw [← at_snoc root p d kids k hat]; exact hch
        refine Or.inr (oneKid_intro c p k ch kids hnd hfind
          (ih k ch (findKid_some_mem hfind) _ hch hkc) ?_)
        intro k' _ hne q hq hpre
        exact hne (huniq k' (prefix_closed hL.parent_active hpre hq))
    case parallel =>
      refine allKids_iff.2 fun k ch hm => ?_
      have hkat : root.at (p ++ [k]) = some ch := by
        rw [at_snoc root p d kids k hat]; exact findKid_of_mem_nodup hnd hm
      split
      · rename_i hh
        intro q hq hpre
        obtain ⟨n', hn', hk'⟩ := hL.states _ (prefix_closed hL.parent_active hpre hq)
        rw [hkat] at hn'; cases hn'; exact hk' hh
      · rename_i hh
        exact ih k ch hm _ hkat (hL.parallel_all p hpc d kids hat hkd k ch hm hh)
    case history =>
      obtain ⟨n', hn', hk'⟩ := hL.states p hpc
      rw [hat] at hn'; cases hn'
      exact hk' hkd

theorem legal_of_legalAt (root : SNode) (hwf : WF root) (c : List Path)
    (hl : LegalAt c [] root) (hv : ∀ q ∈ c, ∃ n, root.at q = some n) : Legal root c := by
  have hsub : ∀ {p q n}, p <+: q → q ∈ c → root.at p = some n → LegalAt c p n :=
    fun hpq hq hat => (legalAt_focus_root hwf hl hat ⟨_, hq, hpq⟩).1
  refine ⟨legalAt_mem hl, fun q hq => ?_, fun q hq => ?_, fun p hp d kids hat hkd hk0 => ?_,
    fun p hp d kids hat hkd k ch hm hh => ?_⟩
  · obtain ⟨n, hn⟩ := hv q hq
    exact ⟨n, hn, legalAt_not_history (hsub (List.prefix_refl _) hq hn)⟩
  · obtain ⟨n, hn⟩ := hv q hq
    obtain ⟨n', hn'⟩ := at_of_prefix (List.dropLast_prefix q) hn
    exact legalAt_mem (hsub (List.dropLast_prefix q) hq hn')
  · rcases ((legalAt_compound hkd).1 (hsub (List.prefix_refl _) hp hat)).2 with h0 | hone
    · exact absurd h0 hk0
    · obtain ⟨k, hk, huniq⟩ := oneKid_active (wf_nodup (wf_at hwf p _ hat)) hone
      refine ⟨k, hk, fun k' hk'c => huniq k' ?_ hk'c⟩
      obtain ⟨n', hn'⟩ := hv _ hk'c
      rw [at_snoc root p d kids k' hat] at hn'
      exact findKid_mem hn'
  · have := allKids_iff.1 ((legalAt_parallel hkd).1 (hsub (List.prefix_refl _) hp hat)).2 k ch hm
    rw [if_neg hh] at this
    exact legalAt_mem this
#print axioms legal_of_legalAt

theorem legalAt_root {root : SNode} (hwf : WF root) {c : List Path} (hL : Legal root c) :
    LegalAt c [] root :=
  legalAt_of_legal root hwf c hL root [] rfl hL.root_active

/-! ## Default entry -/

theorem enterInit_eq (p : Path) (k : String) (ks : List (String × SNode)) :
    enterInit p k ks = match findKid k ks with
      | some c => enterDefault (p ++ [k]) c
      | none => [] := by
  induction ks with
  | nil => rfl
  | cons hd rest ih =>
    obtain ⟨k', c⟩ := hd
    by_cases h : k' = k
    · subst h; simp only [enterInit, findKid, if_true]
    · simp only [enterInit, findKid, h, if_false]; exact ih

theorem mem_enterInit {p q : Path} {k : String} {ks : List (String × SNode)} :
    q ∈ enterInit p k ks ↔ ∃ c, findKid k ks = some c ∧ q ∈ enterDefault (p ++ [k]) c := by
  rw [enterInit_eq]
  cases findKid k ks <;> simp

theorem mem_regionsNotIn {L : List Path} {p q : Path} {ks : List (String × SNode)} :
    q ∈ regionsNotIn L p ks ↔
      ∃ k c, (k, c) ∈ ks ∧ c.kind ≠ .history ∧ (p ++ [k]) ∉ L ∧ q ∈ enterDefault (p ++ [k]) c := by
  induction ks with
  | nil => simp [regionsNotIn]
  | cons hd rest ih =>
    obtain ⟨k', c'⟩ := hd
    simp only [regionsNotIn, List.mem_append, ih, List.mem_cons, Prod.mk.injEq, or_and_right, exists_or,
      and_assoc, exists_and_left, exists_eq_left]
    refine or_congr_left ?_
    rw [← and_assoc, ← not_or]
    by_cases h : c'.kind = .history ∨ (p ++ [k']) ∈ L
    · simp [h]
    · simp [h]

theorem enterRegions_eq (p : Path) (ks : List (String × SNode)) :
    enterRegions p ks = regionsNotIn [] p ks := by
  induction ks with
  | nil => rfl
  | cons hd rest ih => simp [enterRegions, regionsNotIn, ih]

theorem mem_enterRegions {p q : Path} {ks : List (String × SNode)} :
    q ∈ enterRegions p ks ↔ ∃ k c, (k, c) ∈ ks ∧ c.kind ≠ .history ∧ q ∈ enterDefault (p ++ [k]) c := by
  simp only [enterRegions_eq, mem_regionsNotIn, List.not_mem_nil, not_false_eq_true, true_and]

theorem enterDefault_sub {p q : Path} {d : StateDef} {kids : List (String × SNode)}
    (h : q ∈ enterDefault p (.mk d kids)) :
    q = p ∨ ∃ k c, (k, c) ∈ kids ∧ q ∈ enterDefault (p ++ [k]) c := by
  simp only [enterDefault, List.mem_cons] at h
  refine h.imp_right fun h => ?_
  cases hkd : d.kind <;> simp only [hkd] at h
  case compound =>
    cases hi : d.initial <;> simp only [hi] at h
    · cases h
    · obtain ⟨c, hf, hq⟩ := mem_enterInit.1 h
      exact ⟨_, c, findKid_some_mem hf, hq⟩
  case parallel =>
    obtain ⟨k, c, hm, _, hq⟩ := mem_enterRegions.1 h
    exact ⟨k, c, hm, hq⟩
  all_goals cases h

theorem enterDefault_prefix (path : Path) (n : SNode) : ∀ q ∈ enterDefault path n, path <+: q := by
  induction n using SNode.ind generalizing path with
  | h d kids ih =>
    intro q hq
    rcases enterDefault_sub hq with rfl | ⟨k, c, hm, hq⟩
    · exact List.prefix_refl _
    · exact prefix_of_snoc_prefix (ih k c hm _ q hq)

theorem enterDefault_valid (p : Path) (n : SNode) (hwf : WF n) :
    ∀ q ∈ enterDefault p n, ∃ t n', q = p ++ t ∧ n.at t = some n' := by
  induction n using SNode.ind generalizing p with
  | h d kids ih =>
    intro q hq
    rcases enterDefault_sub hq with rfl | ⟨k, c, hm, hq⟩
    · exact ⟨[], _, (List.append_nil _).symm, rfl⟩
    · obtain ⟨t, n', rfl, hn'⟩ := ih k c hm _ (wf_kid hwf hm) q hq
      exact ⟨k :: t, n', (List.append_cons p k t).symm,
        at_cons_some.2 ⟨c, findKid_of_mem_nodup (wf_nodup hwf) hm, hn'⟩⟩

theorem enterRegions_valid (p : Path) (ks : List (String × SNode)) (hwf : WFKids ks) :
    ∀ q ∈ enterRegions p ks, ∃ k ch t n', (k, ch) ∈ ks ∧ q = p ++ [k] ++ t ∧ ch.at t = some n' := by
  intro q hq
  obtain ⟨k, c, hm, _, hq⟩ := mem_enterRegions.1 hq
  obtain ⟨t, n', rfl, hn'⟩ := enterDefault_valid _ c (wfKids_mem hwf hm) q hq
  exact ⟨k, c, t, n', hm, rfl, hn'⟩

theorem enterDefault_at (root : SNode) (p : Path) (n : SNode) (hat : root.at p = some n) (hwf : WF n) :
    ∀ q ∈ enterDefault p n, ∃ n', root.at q = some n' := by
  intro q hq
  obtain ⟨t, n', rfl, hn'⟩ := enterDefault_valid p n hwf q hq
  exact ⟨n', by rw [at_append root p t n hat]; exact hn'⟩

/-- The regions of a parallel node `p`, some entered explicitly (their paths are in `L`, and they
    are legal in `S`), the others by default: if below each of the others `S` is what
    `regionsNotIn` enters, all kids are legal in `S`. -/
theorem allKids_regions {L S : List Path} {p : Path} {ks : List (String × SNode)}
    (hnd : (keys ks).Nodup)
    (hdef : ∀ k c, (k, c) ∈ ks → c.kind ≠ .history → LegalAt (enterDefault (p ++ [k]) c) (p ++ [k]) c)
    (hin : ∀ k c, (k, c) ∈ ks → (p ++ [k]) ∈ L → c.kind ≠ .history ∧ LegalAt S (p ++ [k]) c)
    (hS : ∀ k c, (k, c) ∈ ks → (p ++ [k]) ∉ L →
      ∀ q, (p ++ [k]) <+: q → (q ∈ S ↔ q ∈ regionsNotIn L p ks)) :
    AllKids S p ks := by
  refine allKids_iff.2 fun k c hm => ?_
  by_cases hkL : (p ++ [k]) ∈ L
  · rw [if_neg (hin k c hm hkL).1]; exact (hin k c hm hkL).2
  · -- below `p ++ [k]`, `regionsNotIn` enters what the default descent into `c` enters
    have hreg : ∀ q, (p ++ [k]) <+: q →
        (q ∈ S ↔ c.kind ≠ .history ∧ q ∈ enterDefault (p ++ [k]) c) := by
      intro q hpre
      rw [hS k c hm hkL q hpre, mem_regionsNotIn]
      constructor
      · rintro ⟨k2, c2, hm2, hc2, _, hq2⟩
        obtain rfl := snoc_prefix_inj (enterDefault_prefix _ _ q hq2) hpre
        obtain rfl := kid_unique hnd hm hm2
        exact ⟨hc2, hq2⟩
      · rintro ⟨hc, hq⟩; exact ⟨k, c, hm, hc, hkL, hq⟩
    split
    · rename_i hh
      intro q hq hpre
      exact ((hreg q hpre).1 hq).1 hh
    · rename_i hh
      exact LegalAt_congr _ S _ c (fun q hpre => ((hreg q hpre).trans (and_iff_right hh)).symm)
        (hdef k c hm hh)

theorem enterDefault_legal (p : Path) (n : SNode) (hwf : WF n) (hk : n.kind ≠ .history) :
    LegalAt (enterDefault p n) p n := by
  induction n using SNode.ind generalizing p with
  | h d kids ih =>
    have hnd := wf_nodup hwf
    have hdef : ∀ k c, (k, c) ∈ kids → c.kind ≠ .history →
        LegalAt (enterDefault (p ++ [k]) c) (p ++ [k]) c :=
      fun k c hm hc => ih k c hm _ (wf_kid hwf hm) hc
    simp only [WF] at hwf
    simp only [LegalAt, enterDefault]
    refine ⟨List.mem_cons_self .., ?_⟩
    cases hkd : d.kind <;> simp only [hkd] at hwf ⊢
    case compound =>
      refine hwf.2.2.imp_right ?_
      rintro ⟨k, hi, hreal⟩
      obtain ⟨c, hf, hc⟩ := hasRealKid_findKid hreal
      simp only [hi, enterInit_eq, hf]
      refine oneKid_intro _ p k c kids hnd hf
        (LegalAt_congr _ _ _ c (fun q hq => (mem_cons_below hq).symm)
          (hdef k c (findKid_some_mem hf) hc)) ?_
      intro k' _ hne q hq hpre
      exact hne (snoc_prefix_inj hpre (enterDefault_prefix _ c q ((mem_cons_below hpre).1 hq)))
    case parallel =>
      rw [enterRegions_eq]
      exact allKids_regions (L := []) hnd hdef (fun _ _ _ h => nomatch h)
        fun _ _ _ _ _ hq => mem_cons_below hq
    case history => exact hk hkd

theorem enterRegions_allKids (p : Path) (ks : List (String × SNode)) (pre : List Path)
    (hwf : WFKids ks) (hnd : (ks.map (·.1)).Nodup)
    (hpre : ∀ q ∈ pre, ∀ k ∈ ks.map (·.1), ¬ (p ++ [k]) <+: q) :
    AllKids (pre ++ enterRegions p ks) p ks := by
  rw [enterRegions_eq]
  refine allKids_regions (L := []) hnd
    (fun k c hm hc => enterDefault_legal _ c (wfKids_mem hwf hm) hc) (fun _ _ _ h => nomatch h) ?_
  intro k c hm _ q hq
  exact List.mem_append.trans
    (or_iff_right fun h => hpre q h k (List.mem_map_of_mem (f := (·.1)) hm) hq)

/-! ## `enterStates` and `extra` -/

theorem mem_enterStates {root : SNode} {L : List Path} {q : Path} :
    q ∈ enterStates root L ↔ ∃ p ∈ L, q = p ∨ q ∈ extra root L p := by
  simp only [enterStates, List.mem_flatMap, List.mem_cons]

theorem hasExplicitChild_iff (L : List Path) (p : Path) :
    hasExplicitChild L p = true ↔ ∃ k, (p ++ [k]) ∈ L := by
  simp only [hasExplicitChild, List.any_eq_true, Bool.and_eq_true, ne_eq,
    decide_eq_true_eq, beq_iff_eq]
  constructor
  · rintro ⟨q, hq, hne, rfl⟩
    exact ⟨q.getLast hne, by rw [List.dropLast_concat_getLast hne]; exact hq⟩
  · rintro ⟨k, hk⟩
    exact ⟨p ++ [k], hk, by simp, by simp⟩

theorem extra_compound_explicit {root : SNode} {L : List Path} {p : Path} {d : StateDef}
    {kids : List (String × SNode)} (hat : root.at p = some (.mk d kids)) (hk : d.kind = .compound)
    (he : ∃ k, (p ++ [k]) ∈ L) : extra root L p = [] := by
  unfold extra
  simp only [hat, hk, (hasExplicitChild_iff L p).2 he, if_true]

theorem extra_compound_default {root : SNode} {L : List Path} {p : Path} {d : StateDef}
    {kids : List (String × SNode)} (hat : root.at p = some (.mk d kids)) (hk : d.kind = .compound)
    (he : ¬ ∃ k, (p ++ [k]) ∈ L) :
    extra root L p = (match d.initial with | some k => enterInit p k kids | none => []) := by
  unfold extra
  have : ¬ hasExplicitChild L p = true := fun h => he ((hasExplicitChild_iff L p).1 h)
  simp only [hat, hk, this]
  rfl

theorem extra_parallel {root : SNode} {L : List Path} {p : Path} {d : StateDef}
    {kids : List (String × SNode)} (hat : root.at p = some (.mk d kids)) (hk : d.kind = .parallel) :
    extra root L p = regionsNotIn L p kids := by
  unfold extra
  simp only [hat, hk]

theorem extra_sub {root : SNode} {L : List Path} {p q : Path} (h : q ∈ extra root L p) :
    ∃ d kids k c, root.at p = some (.mk d kids) ∧ (k, c) ∈ kids ∧ (p ++ [k]) ∉ L ∧
      q ∈ enterDefault (p ++ [k]) c := by
  cases hat : root.at p with
  | none => simp [extra, hat] at h
  | some n =>
    match n with
    | .mk d kids =>
      refine ⟨d, kids, ?_⟩
      cases hkd : d.kind
      case compound =>
        by_cases he : ∃ k, (p ++ [k]) ∈ L
        · rw [extra_compound_explicit hat hkd he] at h; cases h
        · rw [extra_compound_default hat hkd he] at h
          cases hi : d.initial <;> simp only [hi] at h
          · cases h
          · obtain ⟨c, hf, hq⟩ := mem_enterInit.1 h
            exact ⟨_, c, rfl, findKid_some_mem hf, fun hin => he ⟨_, hin⟩, hq⟩
      case parallel =>
        rw [extra_parallel hat hkd] at h
        obtain ⟨k, c, hm, _, hL, hq⟩ := mem_regionsNotIn.1 h
        exact ⟨k, c, rfl, hm, hL, hq⟩
      all_goals simp [extra, hat, hkd] at h

theorem extra_below_nonmember {root : SNode} {L : List Path} {p q : Path}
    (h : q ∈ extra root L p) : ∃ k, (p ++ [k]) <+: q ∧ (p ++ [k]) ∉ L := by
  obtain ⟨_, _, k, c, _, _, hL, hq⟩ := extra_sub h
  exact ⟨k, enterDefault_prefix _ c q hq, hL⟩

theorem enterStates_at (root : SNode) (hwf : WF root) (L : List Path)
    (hL : ∀ p ∈ L, ∃ n, root.at p = some n) :
    ∀ q ∈ enterStates root L, ∃ n, root.at q = some n := by
  intro q hq
  obtain ⟨p, hp, hor⟩ := mem_enterStates.1 hq
  rcases hor with rfl | hex
  · exact hL _ hp
  · obtain ⟨d, kids, k, c, hat, hm, _, hq⟩ := extra_sub hex
    have hkat : root.at (p ++ [k]) = some c := by
      rw [at_snoc root p d kids k hat]; exact findKid_of_mem_nodup (wf_nodup (wf_at hwf _ _ hat)) hm
    exact enterDefault_at root _ c hkat (wf_at hwf _ _ hkat) q hq

/-! ## `Forest`: what a step enters explicitly -/

structure Forest (root : SNode) (L : List Path) : Prop where
  convex : ∀ a ∈ L, ∀ q ∈ L, a <+: q → ∀ p', a <+: p' → p' <+: q → p' ∈ L
  valid  : ∀ q ∈ L, ∃ n, root.at q = some n ∧ n.kind ≠ .history
  shape  : ∀ p ∈ L, kindAt root p = some .compound →
             ∀ k1 k2, (p ++ [k1]) ∈ L → (p ++ [k2]) ∈ L → k1 = k2

theorem origin_below {root : SNode} {L : List Path} (hF : Forest root L) {p q : Path} {k : String}
    (hp : p ∈ L) (hpre : (p ++ [k]) <+: q) (hk : (p ++ [k]) ∉ L) :
    q ∈ enterStates root L ↔ q ∈ extra root L p := by
  refine ⟨fun hq => ?_, fun hq => mem_enterStates.2 ⟨p, hp, Or.inr hq⟩⟩
  obtain ⟨p'', hp'', hor⟩ := mem_enterStates.1 hq
  have hpk := List.prefix_append p [k]
  rcases hor with rfl | hex
  · exact absurd (hF.convex p hp q hp'' (hpk.trans hpre) _ hpk hpre) hk
  · obtain ⟨j, hj, hjL⟩ := extra_below_nonmember hex
    rcases List.prefix_or_prefix_of_prefix hpre (prefix_of_snoc_prefix hj) with h | h
    · exact absurd (hF.convex p hp p'' hp'' (hpk.trans h) _ hpk h) hk
    · rcases List.prefix_concat_iff.1 h with rfl | h
      · exact absurd hp'' hk
      · by_cases heq : p'' = p
        · subst heq; exact hex
        · -- `p''` is a proper ancestor of `p`: its kid towards `p` is in `L`, so `q` is not an extra of `p''`
          obtain ⟨j', hj'⟩ := strict_prefix_snoc h heq
          obtain rfl := snoc_prefix_inj hj ((hj'.trans hpk).trans hpre)
          exact absurd (hF.convex p'' hp'' p hp h _ (List.prefix_append _ _) hj') hjL

theorem forest_entry (root : SNode) (L : List Path) (hF : Forest root L) (S : List Path) :
    ∀ n p, WF n → root.at p = some n → p ∈ L →
      (∀ q, p <+: q → (q ∈ S ↔ q ∈ enterStates root L)) → LegalAt S p n := by
  intro n
  induction n using SNode.ind with
  | h d kids ih =>
    intro p hwf hat hpL hS
    have hnd := wf_nodup hwf
    have hpE : p ∈ enterStates root L := mem_enterStates.2 ⟨p, hpL, Or.inl rfl⟩
    have hSkid : ∀ k q, (p ++ [k]) <+: q → (q ∈ S ↔ q ∈ enterStates root L) :=
      fun _ q hq => hS q (prefix_of_snoc_prefix hq)
    have hkidL : ∀ k, (p ++ [k]) ∈ L →
        ∃ kid, findKid k kids = some kid ∧ kid.kind ≠ .history ∧ LegalAt S (p ++ [k]) kid := by
      intro k hkL
      obtain ⟨kid, hkat, hkk⟩ := hF.valid _ hkL
      have hf : findKid k kids = some kid := by rw [← at_snoc root p d kids k hat]; exact hkat
      have hm := findKid_some_mem hf
      exact ⟨kid, hf, hkk, ih k kid hm _ (wf_kid hwf hm) hkat hkL (hSkid k)⟩
    simp only [LegalAt]
    refine ⟨(hS p (List.prefix_refl _)).2 hpE, ?_⟩
    cases hkd : d.kind <;> dsimp only
    case compound =>
      by_cases hE : ∃ k, (p ++ [k]) ∈ L
      · obtain ⟨k, hkL⟩ := hE
        obtain ⟨kid, hf, _, hleg⟩ := hkidL k hkL
        refine Or.inr (oneKid_intro S p k kid kids hnd hf hleg ?_)
        intro k' _ hne q hqS hpre
        have hk'L : (p ++ [k']) ∉ L := fun h =>
          hne (hF.shape p hpL (by rw [kindAt_eq hat, hkd]) k' k h hkL)
        have := (origin_below hF hpL hpre hk'L).1 ((hSkid k' q hpre).1 hqS)
        rw [extra_compound_explicit hat hkd ⟨k, hkL⟩] at this
        cases this
      · -- no kid is entered explicitly: below `p`, `S` is the default descent
        have hleg := enterDefault_legal p (.mk d kids) hwf (by rw [kind_mk, hkd]; decide)
        have hx : enterDefault p (.mk d kids) = p :: extra root L p := by
          rw [extra_compound_default hat hkd hE]; simp only [enterDefault, hkd]; rfl
        have hiff : ∀ q, p <+: q → (q ∈ enterDefault p (.mk d kids) ↔ q ∈ S) := by
          intro q hpq
          rw [hS q hpq, hx, List.mem_cons]
          by_cases heq : q = p
          · exact iff_of_true (Or.inl heq) (heq ▸ hpE)
          · obtain ⟨k, hk⟩ := strict_prefix_snoc hpq (Ne.symm heq)
            rw [or_iff_right heq, origin_below hF hpL hk fun h => hE ⟨k, h⟩]
        exact ((legalAt_compound hkd).1 (LegalAt_congr _ S p _ hiff hleg)).2
    case parallel =>
      refine allKids_regions (L := L) hnd
        (fun k c hm hc => enterDefault_legal _ c (wf_kid hwf hm) hc) ?_ ?_
      · intro k c hm hkL
        obtain ⟨kid, hf, hkk, hleg⟩ := hkidL k hkL
        obtain rfl := kid_unique hnd hm (findKid_some_mem hf)
        exact ⟨hkk, hleg⟩
      · intro k c _ hkL q hpre
        rw [hSkid k q hpre, origin_below hF hpL hpre hkL, extra_parallel hat hkd]
    case history =>
      obtain ⟨n', hn', hk'⟩ := hF.valid p hpL
      rw [hat] at hn'; cases hn'
      exact hk' hkd

/-! ## Domain, chains to the targets, exit set -/

theorem lcp_prefix (a b : Path) : lcp a b <+: a ∧ lcp a b <+: b := by
  fun_induction lcp a b with
  | case1 _ _ _ ih => exact ⟨(List.prefix_cons_inj _).2 ih.1, (List.prefix_cons_inj _).2 ih.2⟩
  | case2 => exact ⟨List.nil_prefix, List.nil_prefix⟩
  | case3 => exact ⟨List.nil_prefix, List.nil_prefix⟩

theorem domain_spec (src tgt : Path) :
    domain src tgt <+: src ∧ domain src tgt <+: tgt ∧ (tgt ≠ [] → domain src tgt ≠ tgt) := by
  unfold domain
  split
  · rename_i h
    subst h
    exact ⟨List.dropLast_prefix _, List.dropLast_prefix _, dropLast_ne_self⟩
  · split
    · rename_i h
      exact ⟨(List.dropLast_prefix _).trans h, List.dropLast_prefix _, dropLast_ne_self⟩
    · rename_i h
      exact ⟨(lcp_prefix _ _).1, (lcp_prefix _ _).2, fun _ e => h (e ▸ (lcp_prefix src tgt).1)⟩

theorem domain_prefix_tgt (src tgt : Path) : domain src tgt <+: tgt := (domain_spec src tgt).2.1
theorem domain_prefix_src (src tgt : Path) : domain src tgt <+: src := (domain_spec src tgt).1
theorem domain_ne_tgt (src tgt : Path) (hne : tgt ≠ []) : domain src tgt ≠ tgt := (domain_spec src tgt).2.2 hne

theorem mem_pathToEnter {dom tgt q : Path} (hd : dom <+: tgt) :
    q ∈ pathToEnter dom tgt ↔ dom <+: q ∧ q ≠ dom ∧ q <+: tgt := by
  simp only [pathToEnter, List.mem_map, List.mem_range]
  constructor
  · rintro ⟨i, hi, rfl⟩
    have hle : dom.length + 1 + i ≤ tgt.length := by omega
    refine ⟨List.prefix_take_iff.2 ⟨hd, Nat.le_add_right_of_le (Nat.le_succ _)⟩, fun h => ?_,
      List.take_prefix _ _⟩
    have := congrArg List.length h
    rw [List.length_take, Nat.min_eq_left hle, Nat.add_assoc] at this
    exact absurd this (by simp)
  · rintro ⟨h1, h2, h3⟩
    have hlt : dom.length < q.length := strict_prefix_length h1 (Ne.symm h2)
    have hql := h3.length_le
    refine ⟨q.length - (dom.length + 1), by omega, ?_⟩
    rw [Nat.add_sub_cancel' hlt]
    exact (List.prefix_iff_eq_take.1 h3).symm

/-- every prefix of a path to a non-history node names a non-history node (a history node has no kids) -/
theorem at_prefix_not_history {root : SNode} (hwf : WF root) {q r : Path} {nr : SNode}
    (hr : root.at r = some nr) (hnh : nr.kind ≠ .history) (hqr : q <+: r) :
    ∃ nq, root.at q = some nq ∧ nq.kind ≠ .history := by
  obtain ⟨nq, hnq⟩ := at_of_prefix hqr hr
  obtain ⟨t, rfl⟩ := hqr
  refine ⟨nq, hnq, fun hk => ?_⟩
  rw [at_append root q t nq hnq] at hr
  cases t with
  | nil => simp only [SNode.at, Option.some.injEq] at hr; subst hr; exact hnh hk
  | cons k t =>
    match nq, hnq, hk, hr with
    | .mk d kids, hnq, hk, hr =>
      obtain ⟨c, hf, _⟩ := at_cons_some.1 hr
      rcases kind_of_findKid (wf_at hwf q _ hnq) hf with h | h <;>
        rw [show d.kind = .history from hk] at h <;> cases h

/-- every prefix of a target that is strictly longer than `dom`: what a step enters below its domain.
    For one target this is `pathToEnter` (`histForest_singleton`); a restore has several. -/
def histForest (dom : Path) (targets : List Path) : List Path :=
  targets.flatMap (fun r => (List.range (r.length - dom.length)).map (fun i => r.take (dom.length + 1 + i)))

theorem mem_histForest {dom q : Path} {targets : List Path} (hd : ∀ r ∈ targets, dom <+: r) :
    q ∈ histForest dom targets ↔ ∃ r ∈ targets, dom <+: q ∧ q ≠ dom ∧ q <+: r :=
  List.mem_flatMap.trans
    (exists_congr fun r => and_congr_right fun hr => mem_pathToEnter (hd r hr))

theorem histForest_singleton (dom r : Path) : histForest dom [r] = pathToEnter dom r :=
  List.flatMap_singleton ..

/-- The chains from `dom` to targets that name states form an entry forest as soon as they agree on
    the kid taken at every compound state. -/
theorem targets_forest (root : SNode) (hwf : WF root) (dom : Path) (T : List Path)
    (hT : ∀ r ∈ T, dom <+: r ∧ ∃ n, root.at r = some n ∧ n.kind ≠ .history)
    (hshape : ∀ p, kindAt root p = some .compound → ∀ r1 ∈ T, ∀ r2 ∈ T, ∀ a b,
      (p ++ [a]) <+: r1 → (p ++ [b]) <+: r2 → a = b) :
    Forest root (histForest dom T) := by
  have hdr : ∀ r ∈ T, dom <+: r := fun r hr => (hT r hr).1
  refine ⟨?_, ?_, ?_⟩
  · intro a ha q hq _ p' hap' hp'q
    obtain ⟨_, _, ha1, ha2, _⟩ := (mem_histForest hdr).1 ha
    obtain ⟨r, hr, _, _, hq3⟩ := (mem_histForest hdr).1 hq
    obtain ⟨h1, h2⟩ := strict_prefix_trans ha1 ha2 hap'
    exact (mem_histForest hdr).2 ⟨r, hr, h1, h2, hp'q.trans hq3⟩
  · intro q hq
    obtain ⟨r, hr, _, _, h3⟩ := (mem_histForest hdr).1 hq
    obtain ⟨_, nr, hnr, hnh⟩ := hT r hr
    exact at_prefix_not_history hwf hnr hnh h3
  · intro p _ hkc a b ha hb
    obtain ⟨r1, hr1, _, _, h13⟩ := (mem_histForest hdr).1 ha
    obtain ⟨r2, hr2, _, _, h23⟩ := (mem_histForest hdr).1 hb
    exact hshape p hkc r1 hr1 r2 hr2 a b h13 h23

theorem targets_branch {dom : Path} {k1 : String} {T : List Path} (hT : ∀ r ∈ T, (dom ++ [k1]) <+: r) :
    (T ≠ [] → (dom ++ [k1]) ∈ histForest dom T) ∧ ∀ q ∈ histForest dom T, (dom ++ [k1]) <+: q := by
  have hdr : ∀ r ∈ T, dom <+: r := fun r hr => prefix_of_snoc_prefix (hT r hr)
  refine ⟨fun hne => ?_, fun q hq => ?_⟩
  · obtain ⟨r0, hr0⟩ := List.exists_mem_of_ne_nil T hne
    exact (mem_histForest hdr).2 ⟨r0, hr0, List.prefix_append _ _, snoc_ne_self _ _, hT r0 hr0⟩
  · obtain ⟨r, hr, h1, h2, h3⟩ := (mem_histForest hdr).1 hq
    exact snoc_prefix_of_between h1 h2 h3 (hT r hr)

theorem mem_exitSet {root : SNode} {c : List Path} {dom tgt s : Path} :
    s ∈ exitSet root c dom tgt ↔ s ∈ c ∧ dom <+: s ∧ s ≠ dom ∧
      ((kindAt root dom = some .parallel ∧ dom.length < tgt.length) →
        (tgt.take (dom.length + 1)) <+: s) := by
  unfold exitSet
  by_cases hcond : kindAt root dom = some .parallel ∧ dom.length < tgt.length
  · simp only [hcond, and_self, if_true, List.mem_filter, Bool.and_eq_true, List.isPrefixOf_iff_prefix,
      bne_iff_ne, ne_eq, and_assoc, true_imp_iff]
  · simp only [hcond, if_false, List.mem_filter, Bool.and_eq_true, List.isPrefixOf_iff_prefix,
      bne_iff_ne, ne_eq, false_imp_iff, and_true]

/-! ## The step -/

/-- the configuration after exiting below `dom` (scoped by `tgt` when `dom` is parallel) and entering `L` -/
def stepConfigL (root : SNode) (c : List Path) (dom tgt : Path) (L : List Path) : List Path :=
  let ex := exitSet root c dom tgt
  c.filter (fun s => !ex.contains s) ++ enterStates root L

theorem mem_stepConfigL {root : SNode} {c : List Path} {dom tgt q : Path} {L : List Path} :
    q ∈ stepConfigL root c dom tgt L ↔
      (q ∈ c ∧ q ∉ exitSet root c dom tgt) ∨ q ∈ enterStates root L := by
  simp only [stepConfigL, List.mem_append, List.mem_filter, Bool.not_eq_true', List.contains_eq_mem,
    decide_eq_false_iff_not]

theorem mem_stepConfig {root : SNode} {c : List Path} {src tgt q : Path} :
    q ∈ stepConfig root c src tgt ↔
      (q ∈ c ∧ q ∉ exitSet root c (domain src tgt) tgt) ∨
        q ∈ enterStates root (pathToEnter (domain src tgt) tgt) :=
  mem_stepConfigL

/-- One microstep whose entry list is an arbitrary forest `L` lying below the single branch
    `dom ++ [k1]` of an active domain: legality is preserved. `legal_step` (plain targets) and the
    history restores are instances. -/
theorem legal_step_gen (root : SNode) (hwf : WF root) (c : List Path) (hleg : LegalAt c [] root)
    (dom tgt : Path) (k1 : String) (L : List Path)
    (ndom : SNode) (hdomat : root.at dom = some ndom) (hdomc : ∃ q ∈ c, dom <+: q)
    (hk1 : (dom ++ [k1]) <+: tgt)
    (hF : Forest root L) (hp1L : (dom ++ [k1]) ∈ L) (hbranch : ∀ q ∈ L, (dom ++ [k1]) <+: q) :
    LegalAt (stepConfigL root c dom tgt L) [] root := by
  obtain ⟨hlegdom, hup⟩ := legalAt_focus_root hwf hleg hdomat hdomc
  obtain ⟨kid1, hkid1at, hkid1nh⟩ := hF.valid _ hp1L
  have hEbelow : ∀ q ∈ enterStates root L, (dom ++ [k1]) <+: q := by
    intro q hq
    obtain ⟨p'', hp'', hor⟩ := mem_enterStates.1 hq
    rcases hor with rfl | hex
    · exact hbranch _ hp''
    · obtain ⟨j, hj, _⟩ := extra_below_nonmember hex
      exact (hbranch p'' hp'').trans (prefix_of_snoc_prefix hj)
  -- exited: the active proper descendants of `dom`, only those below `dom ++ [k1]` if `dom` is parallel
  have hexit : ∀ q, q ∈ exitSet root c dom tgt ↔
      q ∈ c ∧ dom <+: q ∧ q ≠ dom ∧ (kindAt root dom = some .parallel → (dom ++ [k1]) <+: q) := by
    intro q
    have hlen : dom.length < tgt.length :=
      strict_prefix_length (prefix_of_snoc_prefix hk1) (ne_of_snoc_prefix hk1).symm
    have htake : tgt.take (dom.length + 1) = dom ++ [k1] := by
      rw [List.prefix_iff_eq_take.1 hk1, List.length_append]; rfl
    rw [mem_exitSet, htake, and_iff_left hlen]
  have hmem : ∀ q, q ∈ stepConfigL root c dom tgt L ↔
      (q ∈ c ∧ q ∉ exitSet root c dom tgt) ∨ q ∈ enterStates root L := fun q => mem_stepConfigL
  generalize stepConfigL root c dom tgt L = c' at hmem ⊢
  -- the re-entered branch is legal
  have hA : LegalAt c' (dom ++ [k1]) kid1 := by
    refine forest_entry root L hF c' kid1 _ (wf_at hwf _ _ hkid1at) hkid1at hp1L fun q hq => ?_
    rw [hmem q]
    exact or_iff_right fun h => h.2 ((hexit q).2
      ⟨h.1, prefix_of_snoc_prefix hq, ne_of_snoc_prefix hq, fun _ => hq⟩)
  match ndom, hdomat, hlegdom with
  | .mk d kids, hdomat, hlegdom =>
    have hwfd := wf_at hwf _ _ hdomat
    have hfind : findKid k1 kids = some kid1 := by
      rw [← at_snoc root dom d kids k1 hdomat]; exact hkid1at
    have hkat := kindAt_eq hdomat
    rcases kind_of_findKid hwfd hfind with hkd | hkd
    · -- compound domain: every old descendant was exited, so `k1` is the one active kid;
      -- nothing outside the domain changed
      refine hup c' (fun q hq => ?_) ((legalAt_compound hkd).2 ⟨?_, Or.inr
        (oneKid_intro c' dom k1 kid1 kids (wf_nodup hwfd) hfind hA ?_)⟩)
      · rw [hmem q]
        constructor
        · rintro (⟨hqc, _⟩ | hqE)
          · exact hqc
          · exact absurd (prefix_of_snoc_prefix (hEbelow q hqE)) hq
        · exact fun hqc => Or.inl ⟨hqc, fun hX => hq ((hexit q).1 hX).2.1⟩
      · exact (hmem dom).2 (Or.inl ⟨legalAt_mem hlegdom, fun h => ((hexit dom).1 h).2.2.1 rfl⟩)
      · intro k' _ hne' q hq hpre
        rcases (hmem q).1 hq with ⟨hqc, hqX⟩ | hqE
        · exact hqX ((hexit q).2 ⟨hqc, prefix_of_snoc_prefix hpre, ne_of_snoc_prefix hpre,
            fun hpar => by rw [hkat, hkd] at hpar; cases hpar⟩)
        · exact hne' (snoc_prefix_inj hpre (hEbelow q hqE))
    · -- parallel domain: the target's region was active, and nothing outside it changed
      have hact : LegalAt c (dom ++ [k1]) kid1 := by
        have := allKids_iff.1 ((legalAt_parallel hkd).1 hlegdom).2 k1 kid1 (findKid_some_mem hfind)
        rwa [if_neg hkid1nh] at this
      refine (legalAt_focus_root hwf hleg hkid1at ⟨_, legalAt_mem hact, List.prefix_refl _⟩).2 c'
        (fun q hq => ?_) hA
      rw [hmem q]
      constructor
      · rintro (⟨hqc, _⟩ | hqE)
        · exact hqc
        · exact absurd (hEbelow q hqE) hq
      · exact fun hqc => Or.inl ⟨hqc, fun hX => hq (((hexit q).1 hX).2.2.2 (by rw [hkat, hkd]))⟩

#print axioms legal_step_gen

/-- C01 core (no history target, target is not the root): one external transition
    preserves legality. -/
theorem legal_step (root : SNode) (hwf : WF root) (c : List Path) (hleg : LegalAt c [] root)
    (src tgt : Path) (hsrc : src ∈ c) (ns : SNode) (hsrcat : root.at src = some ns)
    (nt : SNode) (htgt : root.at tgt = some nt) (hnh : nt.kind ≠ .history) (hne : tgt ≠ []) :
    LegalAt (stepConfig root c src tgt) [] root := by
  have hd := domain_prefix_tgt src tgt
  have hds := domain_prefix_src src tgt
  obtain ⟨k1, hk1⟩ := strict_prefix_snoc hd (domain_ne_tgt src tgt hne)
  obtain ⟨ndom, hdomat⟩ := at_of_prefix hds hsrcat
  have hT : ∀ r ∈ [tgt], r = tgt := fun r => List.mem_singleton.1
  obtain ⟨hfirst, hbranch⟩ := targets_branch (T := [tgt]) fun r hr => by rwa [hT r hr]
  have hF : Forest root (histForest (domain src tgt) [tgt]) := by
    refine targets_forest root hwf _ [tgt] (fun r hr => ?_)
      fun p _ r1 h1 r2 h2 a b ha hb => snoc_prefix_inj (hT r1 h1 ▸ ha) (hT r2 h2 ▸ hb)
    rw [hT r hr]
    exact ⟨hd, nt, htgt, hnh⟩
  rw [histForest_singleton] at hfirst hbranch hF
  exact legal_step_gen root hwf c hleg _ tgt k1 _ ndom hdomat ⟨src, hsrc, hds⟩ hk1 hF
    (hfirst (List.cons_ne_nil _ _)) hbranch

/-! ## The step in the flat wording -/

theorem legal_of_stepL {root : SNode} (hwf : WF root) {c : List Path} (hL : Legal root c)
    {dom tgt : Path} {L : List Path} (hv : ∀ p ∈ L, ∃ n, root.at p = some n)
    (hl : LegalAt (stepConfigL root c dom tgt L) [] root) : Legal root (stepConfigL root c dom tgt L) :=
  legal_of_legalAt root hwf _ hl fun q hq => by
    rcases mem_stepConfigL.1 hq with ⟨hqc, _⟩ | hqE
    · exact (hL.states q hqc).imp fun _ h => h.1
    · exact enterStates_at root hwf L hv q hqE

/-- `legal_step_gen` in the property's wording. -/
theorem legal_stepL (root : SNode) (hwf : WF root) (c : List Path) (hL : Legal root c)
    (dom tgt : Path) (k1 : String) (L : List Path) (hdomc : dom ∈ c) (hk1 : (dom ++ [k1]) <+: tgt)
    (hF : Forest root L) (hp1L : (dom ++ [k1]) ∈ L) (hbranch : ∀ q ∈ L, (dom ++ [k1]) <+: q) :
    Legal root (stepConfigL root c dom tgt L) := by
  obtain ⟨ndom, hdomat, _⟩ := hL.states dom hdomc
  exact legal_of_stepL hwf hL (fun p hp => (hF.valid p hp).imp fun _ h => h.1)
    (legal_step_gen root hwf c (legalAt_root hwf hL) dom tgt k1 L ndom hdomat
      ⟨dom, hdomc, List.prefix_refl _⟩ hk1 hF hp1L hbranch)

/-- **C01, one external transition, in the property's own wording.** -/
theorem legal_step_flat (root : SNode) (hwf : WF root) (c : List Path) (hL : Legal root c)
    (src tgt : Path) (hsrc : src ∈ c) (nt : SNode) (htgt : root.at tgt = some nt)
    (hnh : nt.kind ≠ .history) (hne : tgt ≠ []) :
    Legal root (stepConfig root c src tgt) := by
  obtain ⟨ns, hns, _⟩ := hL.states src hsrc
  exact legal_of_stepL hwf hL
    (fun p hp => at_of_prefix ((mem_pathToEnter (domain_prefix_tgt src tgt)).1 hp).2.2 htgt)
    (legal_step root hwf c (legalAt_root hwf hL) src tgt hsrc ns hns nt htgt hnh hne)
#print axioms legal_step_flat

/-! ## Recorded history -/

/-- What `_record_history` stores for owner `Q` when the configuration is `c`. -/
def recorded (c : List Path) (Q : Path) : List Path := c.filter (fun q => q != Q && Q.isPrefixOf q)

theorem mem_recorded {c : List Path} {Q q : Path} : q ∈ recorded c Q ↔ q ∈ c ∧ Q <+: q ∧ q ≠ Q := by
  simp only [recorded, List.mem_filter, Bool.and_eq_true, bne_iff_ne, ne_eq, List.isPrefixOf_iff_prefix]
  exact and_congr_right fun _ => and_comm

/-- Invariant of a history entry `(Q, R)`: `R` lies strictly below `Q`, names states, and together
    with `Q` is a legal selection of the subtree at `Q`. -/
structure HistInv (root : SNode) (Q : Path) (R : List Path) : Prop where
  nodeQ : ∃ nQ, root.at Q = some nQ ∧ LegalAt (Q :: R) Q nQ
  below : ∀ r ∈ R, Q <+: r ∧ r ≠ Q
  valid : ∀ r ∈ R, ∃ n, root.at r = some n

theorem recorded_inv (root : SNode) (hwf : WF root) (c : List Path) (hL : Legal root c)
    (Q : Path) (hQ : Q ∈ c) : HistInv root Q (recorded c Q) := by
  obtain ⟨nQ, hnQ, _⟩ := hL.states Q hQ
  have hlq := (legalAt_focus_root hwf (legalAt_root hwf hL) hnQ ⟨Q, hQ, List.prefix_refl _⟩).1
  refine ⟨⟨nQ, hnQ, LegalAt_congr c _ Q nQ (fun q hq => ?_) hlq⟩, fun r hr => ?_, fun r hr => ?_⟩
  · rw [List.mem_cons, mem_recorded]
    constructor
    · intro hqc
      by_cases h : q = Q
      · exact Or.inl h
      · exact Or.inr ⟨hqc, hq, h⟩
    · rintro (h | ⟨h, _, _⟩)
      · rw [h]; exact hQ
      · exact h
  · exact (mem_recorded.1 hr).2
  · obtain ⟨n, hn, _⟩ := hL.states r (mem_recorded.1 hr).1
    exact ⟨n, hn⟩

theorem hist_between (root : SNode) (hwf : WF root) {Q : Path} {R : List Path} (hI : HistInv root Q R)
    {r p : Path} (hr : r ∈ R) (hQp : Q <+: p) (hpr : p <+: r) :
    ∃ np, root.at p = some np ∧ LegalAt (Q :: R) p np := by
  obtain ⟨nQ, hnQ, hlQ⟩ := hI.nodeQ
  obtain ⟨nr, hnr⟩ := hI.valid r hr
  obtain ⟨np, hnp⟩ := at_of_prefix hpr hnr
  obtain ⟨t, rfl⟩ := hQp
  have hnq : nQ.at t = some np := by rw [← at_append root Q t nQ hnQ]; exact hnp
  exact ⟨np, hnp, (legalAt_focus t (wf_at hwf Q nQ hnQ) hlQ hnq ⟨r, List.mem_cons_of_mem _ hr, hpr⟩).1⟩

theorem histForest_forest (root : SNode) (hwf : WF root) (dom Q : Path) (k1 : String) (R T : List Path)
    (hI : HistInv root Q R) (hTR : ∀ r ∈ T, r ∈ R) (hdQ : (dom ++ [k1]) <+: Q) :
    Forest root (histForest dom T) ∧ (∀ q ∈ histForest dom T, (dom ++ [k1]) <+: q) := by
  have hQr : ∀ r ∈ T, Q <+: r := fun r hr => (hI.below r (hTR r hr)).1
  -- a prefix of a target, at or below `Q`, is legally selected in the recorded entry
  have hsel : ∀ {p r}, r ∈ T → Q <+: p → p <+: r →
      ∃ np, root.at p = some np ∧ LegalAt (Q :: R) p np :=
    fun hr => hist_between root hwf hI (hTR _ hr)
  refine ⟨targets_forest root hwf dom T (fun r hr => ?_) fun p hkc r1 hr1 r2 hr2 k1' k2' h13 h23 => ?_,
    (targets_branch fun r hr => hdQ.trans (hQr r hr)).2⟩
  · obtain ⟨nr, hnr, hlr⟩ := hsel hr (hQr r hr) (List.prefix_refl _)
    exact ⟨(prefix_of_snoc_prefix hdQ).trans (hQr r hr), nr, hnr, legalAt_not_history hlr⟩
  · by_cases hQp : Q <+: p
    · -- at or below `Q`: `p` is legally selected in the entry, and so are both kids
      obtain ⟨np, hnp, hlp⟩ := hsel hr1 hQp (prefix_of_snoc_prefix h13)
      have hQk : ∀ k, Q <+: p ++ [k] := fun k => hQp.trans (List.prefix_append _ _)
      obtain ⟨n1, hn1, hl1⟩ := hsel hr1 (hQk k1') h13
      obtain ⟨n2, hn2, hl2⟩ := hsel hr2 (hQk k2') h23
      match np, hnp, hlp with
      | .mk d kids, hnp, hlp =>
        have hkd : d.kind = .compound := Option.some.inj ((kindAt_eq hnp).symm.trans hkc)
        rw [at_snoc root p d kids _ hnp] at hn1 hn2
        rcases ((legalAt_compound hkd).1 hlp).2 with h0 | hone
        · rw [h0] at hn1; cases hn1
        · obtain ⟨k, _, huniq⟩ := oneKid_active (wf_nodup (wf_at hwf _ _ hnp)) hone
          rw [huniq k1' (findKid_mem hn1) (legalAt_mem hl1),
            huniq k2' (findKid_mem hn2) (legalAt_mem hl2)]
    · -- strictly above `Q`: both kids lead to `Q`
      have hpQ : p <+: Q := (List.prefix_or_prefix_of_prefix
        (prefix_of_snoc_prefix h13) (hQr r1 hr1)).resolve_right hQp
      obtain ⟨kq, hkq⟩ := strict_prefix_snoc hpQ fun e => hQp (e ▸ List.prefix_refl _)
      rw [snoc_prefix_inj h13 (hkq.trans (hQr r1 hr1)), snoc_prefix_inj h23 (hkq.trans (hQr r2 hr2))]

/-- **C11/C01: restoring recorded history keeps the configuration legal.** `Q` is the history
    node's parent, `(Q, R)` its recorded entry, `T ⊆ R` the restore targets (deep: the leaves;
    shallow: the children of `Q`), `dom` the transition domain, a proper ancestor of `Q`. -/
theorem legal_step_history (root : SNode) (hwf : WF root) (c : List Path) (hleg : LegalAt c [] root)
    (dom Q : Path) (hk : String) (k1 : String) (R T : List Path)
    (ndom : SNode) (hdomat : root.at dom = some ndom) (hdomc : ∃ q ∈ c, dom <+: q)
    (hI : HistInv root Q R) (hTR : ∀ r ∈ T, r ∈ R) (hT : T ≠ [])
    (hdQ : (dom ++ [k1]) <+: Q) :
    LegalAt (stepConfigL root c dom (Q ++ [hk]) (histForest dom T)) [] root := by
  obtain ⟨hF, hbranch⟩ := histForest_forest root hwf dom Q k1 R T hI hTR hdQ
  exact legal_step_gen root hwf c hleg dom (Q ++ [hk]) k1 (histForest dom T) ndom hdomat hdomc
    (hdQ.trans (List.prefix_append _ _)) hF
    ((targets_branch fun r hr => hdQ.trans (hI.below r (hTR r hr)).1).1 hT) hbranch

#print axioms legal_step_history
#print axioms recorded_inv

end Spec
end XSM

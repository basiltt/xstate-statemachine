import Xsm.Proofs.Fifo
/-
The witness machines of C04 (`Xsm/Properties/C04.lean`) and their runs, evaluated once per machine; the examples
of C04 §5 project from `burst_run_facts` and `roomy_run_facts`.
-/
namespace XSM.C04
open XSM XSM.Done

namespace Ex
open XSM.Done.Ex

/-- user code for the examples: guards true, built-in names not overridden, every other action a marker -/
def exB : UEnv := { g := fun _ _ _ => .t, a := fun n c _ => if (canonicalBuiltin n).isSome then .missing else .ok c }

def raiseR : ActionRef := { type := "xstate.raise", params := some (.obj [("event", .str "R")]) }
def tr (tid : Nat) (ev : String) (acts : List ActionRef) : Trans :=
  { tid, event := ev, target := none, guard := none, actions := acts, reenter := false, forbidden := false }

/-- `{"id":"m","initial":"a","maxIterations":2,"states":{"a":{"on":{
      "A":{"actions":["tA", raise R]}, "B":{"actions":["tB"]}, "R":{"actions":["tR"]}}}}}` -/
def burstM : Machine :=
  { id := "m", maxIterations := 2, customIds := [],
    root := .mk (mkD .compound (some "a")) [
      ("a", .mk (mkD .atomic none none []
        [("A", [tr 0 "A" [{ type := "tA" }, raiseR]]), ("B", [tr 1 "B" [{ type := "tB" }]]),
         ("R", [tr 2 "R" [{ type := "tR" }]])]) [])] }
/-- the same machine with room: `maxIterations` 10 -/
def roomyM : Machine := { burstM with maxIterations := 10 }

def started (fl : Flavor) (m : Machine) : LSt := opStart fl m exB (LSt.new m)
/-- the trace of `l`, oldest record first -/
def tr0 (l : LSt) : List String := l.st.trace.reverse

/-- as `exB`, but the action `boom` has no implementation -/
def exF : UEnv := { g := fun _ _ _ => .t, a := fun n c _ => if n = "boom" then .missing else exB.a n c "" }
/-- `A` raises `R`; the transition of `X` runs the missing action `boom` -/
def failM : Machine :=
  { id := "m", maxIterations := 10, customIds := [],
    root := .mk (mkD .compound (some "a")) [
      ("a", .mk (mkD .atomic none none []
        [("A", [tr 0 "A" [{ type := "tA" }, raiseR]]), ("X", [tr 1 "X" [{ type := "boom" }]]),
         ("R", [tr 2 "R" [{ type := "tR" }]])]) [])] }
end Ex
open Ex

/-- the runs of `burstM` (bound 2): three `B`s on the sync engine (no cut), three `A`s on the sync engine (each
    raises an `R`; the third `R` is cut), `A A A B` on the async engine (the breaker fires at `B`) -/
theorem burst_run_facts :
    -- sync, `B B B` (the F10 run): trace and end state; the model's fuel; events received and no cut; clean
    (((tr0 (opSendMany .sync burstM exB [.user "B", .user "B", .user "B"] (started .sync burstM)),
       (opSendMany .sync burstM exB [.user "B", .user "B", .user "B"] (started .sync burstM)).st.queue.length,
       (opSendMany .sync burstM exB [.user "B", .user "B", .user "B"] (started .sync burstM)).st.status,
       (opSendMany .sync burstM exB [.user "B", .user "B", .user "B"] (started .sync burstM)).st.err.isSome) =
        (["#recv:B", "tB@B", "#t:m,m.a", "#recv:B", "tB@B", "#t:m,m.a", "#recv:B", "tB@B", "#t:m,m.a"],
         0, "running", false)) ∧
     drainFuel burstM (pushAll [.user "B", .user "B", .user "B"] (started .sync burstM).st) = 16 ∧
     (drainLog burstM exB (drainFuel burstM (pushAll [.user "B", .user "B", .user "B"] (started .sync burstM).st)) 0
        (pushAll [.user "B", .user "B", .user "B"] (started .sync burstM).st),
      Term.drainCut burstM exB (drainFuel burstM (pushAll [.user "B", .user "B", .user "B"] (started .sync burstM).st)) 0
        (pushAll [.user "B", .user "B", .user "B"] (started .sync burstM).st)) =
      ([.user "B", .user "B", .user "B"], false) ∧
     DrainClean burstM exB (drainFuel burstM (pushAll [.user "B", .user "B", .user "B"] (started .sync burstM).st)) 0
       (pushAll [.user "B", .user "B", .user "B"] (started .sync burstM).st)) ∧
    -- sync, `A A A`: events received, cut, number of raised events; not clean
    ((drainLog burstM exB (drainFuel burstM (pushAll [.user "A", .user "A", .user "A"] (started .sync burstM).st)) 0
        (pushAll [.user "A", .user "A", .user "A"] (started .sync burstM).st),
      Term.drainCut burstM exB (drainFuel burstM (pushAll [.user "A", .user "A", .user "A"] (started .sync burstM).st)) 0
        (pushAll [.user "A", .user "A", .user "A"] (started .sync burstM).st),
      (drainRaised burstM exB (drainFuel burstM (pushAll [.user "A", .user "A", .user "A"] (started .sync burstM).st)) 0
        (pushAll [.user "A", .user "A", .user "A"] (started .sync burstM).st)).length) =
      ([.user "A", .user "A", .user "A", .user "R", .user "R"], true, 3) ∧
     ¬ DrainClean burstM exB (drainFuel burstM (pushAll [.user "A", .user "A", .user "A"] (started .sync burstM).st)) 0
       (pushAll [.user "A", .user "A", .user "A"] (started .sync burstM).st)) ∧
    -- async, `A A A B` (the F30 run): trace and end state; external events received; loop attached; not clean
    ((tr0 (opSendMany .async burstM exB [.user "A", .user "A", .user "A", .user "B"] (started .async burstM)),
      (opSendMany .async burstM exB [.user "A", .user "A", .user "A", .user "B"] (started .async burstM)).st.queue.length,
      (opSendMany .async burstM exB [.user "A", .user "A", .user "A", .user "B"] (started .async burstM)).st.status) =
       (["#recv:A", "tA@A", "#t:m,m.a", "#recv:A", "tA@A", "#t:m,m.a", "#recv:A", "tA@A", "#t:m,m.a",
         "#recv:B", "tB@B", "#t:m,m.a"], 0, "running") ∧
     (Term.extOf (asyncLogQ burstM exB (asyncFuel burstM)
        (pushAll [.user "A", .user "A", .user "A", .user "B"] (started .async burstM).st))).map (·.ev) =
       [.user "A", .user "A", .user "A", .user "B"] ∧
     (started .async burstM).loop = true ∧
     ¬ AsyncClean burstM exB (asyncFuel burstM)
       (pushAll [.user "A", .user "A", .user "A", .user "B"] (started .async burstM).st)) := by decide +kernel

/-- the runs of `roomyM` (bound 10, never reached): `A A B` in one burst on either engine; `A B` on the sync
    engine, in one burst and sent one by one -/
theorem roomy_run_facts :
    -- sync, `A A B` in one burst: trace; clean; events received
    (tr0 (opSendMany .sync roomyM exB [.user "A", .user "A", .user "B"] (started .sync roomyM)) =
       ["#recv:A", "tA@A", "#t:m,m.a", "#recv:A", "tA@A", "#t:m,m.a", "#recv:B", "tB@B", "#t:m,m.a",
        "#recv:R", "tR@R", "#t:m,m.a", "#recv:R", "tR@R", "#t:m,m.a"] ∧
     DrainClean roomyM exB (drainFuel roomyM (pushAll [.user "A", .user "A", .user "B"] (started .sync roomyM).st)) 0
       (pushAll [.user "A", .user "A", .user "B"] (started .sync roomyM).st) ∧
     drainLog roomyM exB (drainFuel roomyM (pushAll [.user "A", .user "A", .user "B"] (started .sync roomyM).st)) 0
         (pushAll [.user "A", .user "A", .user "B"] (started .sync roomyM).st) =
       [.user "A", .user "A", .user "B", .user "R", .user "R"]) ∧
    -- async, `A A B` in one burst: trace; clean
    (tr0 (opSendMany .async roomyM exB [.user "A", .user "A", .user "B"] (started .async roomyM)) =
       ["#recv:A", "tA@A", "#t:m,m.a", "#recv:A", "tA@A", "#t:m,m.a", "#recv:B", "tB@B", "#t:m,m.a",
        "#recv:R", "tR@R", "#t:m,m.a", "#recv:R", "tR@R", "#t:m,m.a"] ∧
     AsyncClean roomyM exB (asyncFuel roomyM) (pushAll [.user "A", .user "A", .user "B"] (started .async roomyM).st)) ∧
    -- sync, `A B`: in one burst; sent one by one
    (tr0 (opSendMany .sync roomyM exB [.user "A", .user "B"] (started .sync roomyM)) =
       ["#recv:A", "tA@A", "#t:m,m.a", "#recv:B", "tB@B", "#t:m,m.a", "#recv:R", "tR@R", "#t:m,m.a"] ∧
     tr0 (opSend .sync roomyM exB (.user "B") (opSend .sync roomyM exB (.user "A") (started .sync roomyM))) =
       ["#recv:A", "tA@A", "#t:m,m.a", "#recv:R", "tR@R", "#t:m,m.a", "#recv:B", "tB@B", "#t:m,m.a"]) := by
  decide +kernel

end XSM.C04

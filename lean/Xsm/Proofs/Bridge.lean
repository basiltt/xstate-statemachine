import Xsm.Proofs.EngRel
import Xsm.Proofs.Sort
import Xsm.Proofs.Legal
/-
Bridge: the executable plan / execute functions refine the set-level specification.

Defined here and used in the statements of the properties: `HooksOK` (send hooks that touch only the queue and
the counters), `InitOK` (a compound state with children names a non-empty `initial`, one without names none), `peStep`
(the step `processEvent` folds over the selected transitions; C10). Used by the proof modules only: `extPlan` (the plan
that exits a given set, runs given actions and enters a given list) and `stepSel` (`peStep` with the staleness test as
a flag instead of the number of selected transitions).
-/
namespace XSM
open Spec

/-- a send hook that only touches the queue / counters -/
structure HooksOK (h : Hooks) : Prop where
  snd_cfg : ∀ e s, (h.snd e s).cfg = s.cfg
  snd_err : ∀ e s, (h.snd e s).err = s.err
  raise_cfg : ∀ e s, (h.sndRaise e s).cfg = s.cfg
  raise_err : ∀ e s, (h.sndRaise e s).err = s.err

theorem enqueueQ_cfg (b : Bool) (e : Ev) (s : St) : (enqueueQ b e s).cfg = s.cfg := by
  unfold enqueueQ; split <;> rfl
theorem enqueueQ_err (b : Bool) (e : Ev) (s : St) : (enqueueQ b e s).err = s.err := by
  unfold enqueueQ; split <;> rfl

theorem hooksFlagged_ok (u : UEnv) (m : Machine) : HooksOK (hooksFlagged u m) :=
  ⟨enqueueQ_cfg true, enqueueQ_err true, enqueueQ_cfg true, enqueueQ_err true⟩
theorem hooksAsyncStart_ok (u : UEnv) (m : Machine) : HooksOK (hooksAsyncStart u m) :=
  ⟨enqueueQ_cfg false, enqueueQ_err false, enqueueQ_cfg false, enqueueQ_err false⟩
theorem hooksAsync_ok (u : UEnv) (m : Machine) : HooksOK (hooksAsync u m) :=
  ⟨fun e s => enqueueQ_cfg true e { s with raiseDepth := s.raiseDepth + 1 },
   fun e s => enqueueQ_err true e { s with raiseDepth := s.raiseDepth + 1 },
   fun e s => enqueueQ_cfg true e { s with raiseDepth := s.raiseDepth + 1 },
   fun e s => enqueueQ_err true e { s with raiseDepth := s.raiseDepth + 1 }⟩

-- actions and done checks do not touch the configuration ---------------------------------------------
theorem cfgRel_act : ActRel (fun s s' => s'.cfg = s.cfg) :=
  ⟨fun _ => rfl, fun h1 h2 => h2.trans h1, fun _ _ => rfl, fun _ _ => rfl, fun _ _ => rfl, fun _ _ => rfl⟩
theorem histEq_act : ActRel (fun s s' => s'.hist = s.hist) :=
  ⟨fun _ => rfl, fun h1 h2 => h2.trans h1, fun _ _ => rfl, fun _ _ => rfl, fun _ _ => rfl, fun _ _ => rfl⟩
theorem statusEq_act : ActRel (fun s s' => s'.status = s.status) :=
  ⟨fun _ => rfl, fun h1 h2 => h2.trans h1, fun _ _ => rfl, fun _ _ => rfl, fun _ _ => rfl, fun _ _ => rfl⟩

theorem fail_cfg (s : St) (e : EErr) : (s.fail e).cfg = s.cfg := cfgRel_act.fail s e
theorem fail_hist (s : St) (e : EErr) : (s.fail e).hist = s.hist := histEq_act.fail s e
theorem fail_status (s : St) (e : EErr) : (s.fail e).status = s.status := statusEq_act.fail s e

/-- **actions never touch the configuration** (user actions reach the interpreter only through the
    documented effects: context, raised events) -/
theorem execActions_cfg (h : Hooks) (hok : HooksOK h) (evType : String) (as : List ActionRef) (s : St) :
    (execActions h as evType s).cfg = s.cfg :=
  execActions_rel cfgRel_act h ⟨hok.snd_cfg, hok.raise_cfg⟩ as evType s

/-- once the list is stopped or the error flag is set nothing more runs -/
theorem actStep_stopped (h : Hooks) (nested : List ActionRef → String → St → St) (cut : Bool) (evType : String)
    (acc : St × Bool) (a : ActionRef) (hs : acc.2 = true ∨ acc.1.err.isSome = true) :
    actStep h nested cut evType acc a = acc := by
  unfold actStep
  rcases hs with hs | hs <;> simp [hs]

theorem execActions_sticky (h : Hooks) (evType : String) (as : List ActionRef) (s : St)
    (he : s.err.isSome = true) : execActions h as evType s = s := by
  unfold execActions execActionsF
  rw [foldl_fixed _ (s, false) (fun a => actStep_stopped h _ false evType (s, false) a (Or.inr he))]

theorem complete_cfg_err (s : St) : (complete s).cfg = s.cfg ∧ (complete s).err = s.err := by
  unfold complete; split <;> exact ⟨rfl, rfl⟩

theorem checkDone_cfg_err (h : Hooks) (hok : HooksOK h) (m : Machine) (fin : Path) (s : St) :
    (checkAndFireOnDone h m fin s).cfg = s.cfg ∧ (checkAndFireOnDone h m fin s).err = s.err := by
  unfold checkAndFireOnDone
  simp only
  split
  · exact ⟨hok.snd_cfg _ _, hok.snd_err _ _⟩
  · split
    · exact complete_cfg_err s
    · exact ⟨rfl, rfl⟩

theorem mem_addActive {p q : Path} {s : St} : q ∈ (addActive p s).cfg ↔ q ∈ s.cfg ∨ q = p := by
  unfold addActive
  split
  · rename_i hc
    have hp : p ∈ s.cfg := by simpa using hc
    exact ⟨Or.inl, fun h => h.elim id (· ▸ hp)⟩
  · simp
theorem addActive_err (p : Path) (s : St) : (addActive p s).err = s.err := by
  unfold addActive; split <;> rfl
theorem mem_delActive {p q : Path} {s : St} : q ∈ (delActive p s).cfg ↔ q ∈ s.cfg ∧ q ≠ p := by
  simp [delActive, List.mem_filter]
theorem delActive_err (p : Path) (s : St) : (delActive p s).err = s.err := rfl

-- one entry / one exit -----------------------------------------------------------------------------------
theorem enterOne_sticky (h : Hooks) (fl : Flavor) (m : Machine) (ev : Option String) (s : St) (e : Entry)
    (he : s.err.isSome = true) : enterOne h fl m ev s e = s := by
  unfold enterOne; simp [he]
theorem exitOne_sticky (h : Hooks) (fl : Flavor) (m : Machine) (ev : Option String) (s : St) (p : Path)
    (he : s.err.isSome = true) : exitOne h fl m ev s p = s := by
  unfold exitOne; simp [he]

theorem exitOne_mem (h : Hooks) (hok : HooksOK h) (fl : Flavor) (m : Machine) (ev : Option String) (s : St) (p q : Path) :
    (q ∈ (exitOne h fl m ev s p).cfg → q ∈ s.cfg) ∧ (q ∈ s.cfg → q ≠ p → q ∈ (exitOne h fl m ev s p).cfg) := by
  unfold exitOne
  split
  · exact ⟨id, fun hq _ => hq⟩
  · split
    · exact ⟨id, fun hq _ => hq⟩
    · rw [mem_delActive, execActions_cfg h hok]; exact ⟨And.left, And.intro⟩

theorem err_none_of_sticky {f : St → St} (hf : ∀ s, s.err.isSome = true → f s = s) (s : St)
    (h : (f s).err = none) : s.err = none := by
  cases he : s.err with
  | none => rfl
  | some e => rw [hf s (by simp [he]), he] at h; cases h

theorem enterOne_cfg_of_def (h : Hooks) (hok : HooksOK h) (fl : Flavor) (m : Machine) (ev : Option String) (s : St)
    (e : Entry) (d : StateDef) (hd : m.defAt e.path = some d) (he : s.err.isSome = false) :
    (enterOne h fl m ev s e).cfg = (addActive e.path s).cfg := by
  unfold enterOne
  simp only [he, hd, Bool.false_eq_true, if_false]
  split
  · exact execActions_cfg h hok _ _ _
  · split
    · rw [(checkDone_cfg_err h hok m e.path _).1]; exact execActions_cfg h hok _ _ _
    · exact execActions_cfg h hok _ _ _

theorem enterOne_spec (h : Hooks) (hok : HooksOK h) (fl : Flavor) (m : Machine) (ev : Option String)
    (s : St) (e : Entry) (hv : (m.defAt e.path).isSome)
    (hr : (enterOne h fl m ev s e).err = none) :
    s.err = none ∧ ∀ q, q ∈ (enterOne h fl m ev s e).cfg ↔ q ∈ s.cfg ∨ q = e.path := by
  have hs : s.err = none := err_none_of_sticky (fun s => enterOne_sticky h fl m ev s e) s hr
  obtain ⟨d, hd⟩ := Option.isSome_iff_exists.1 hv
  exact ⟨hs, fun q => by rw [enterOne_cfg_of_def h hok fl m ev s e d hd (by rw [hs]; rfl)]; exact mem_addActive⟩

theorem enterFold_spec (h : Hooks) (hok : HooksOK h) (fl : Flavor) (m : Machine) (ev : Option String) :
    ∀ (es : List Entry) (s : St), (∀ e ∈ es, (m.defAt e.path).isSome) →
      (es.foldl (enterOne h fl m ev) s).err = none →
      s.err = none ∧
        ∀ q, q ∈ (es.foldl (enterOne h fl m ev) s).cfg ↔ q ∈ s.cfg ∨ q ∈ es.map (·.path) := by
  intro es
  induction es with
  | nil => intro s _ hr; exact ⟨hr, fun q => by simp⟩
  | cons e es ih =>
    intro s hv hr
    obtain ⟨h3, h4⟩ := ih (enterOne h fl m ev s e) (fun e' he' => hv e' (List.mem_cons_of_mem _ he')) hr
    obtain ⟨h1, h2⟩ := enterOne_spec h hok fl m ev s e (hv e List.mem_cons_self) h3
    exact ⟨h1, fun q => by rw [List.foldl_cons, h4 q, h2 q, List.map_cons, List.mem_cons, or_assoc]⟩

theorem exitOne_spec (h : Hooks) (hok : HooksOK h) (fl : Flavor) (m : Machine) (ev : Option String)
    (s : St) (p : Path) (hv : (m.defAt p).isSome) (hr : (exitOne h fl m ev s p).err = none) :
    s.err = none ∧ ∀ q, q ∈ (exitOne h fl m ev s p).cfg ↔ q ∈ s.cfg ∧ q ≠ p := by
  have hs : s.err = none := err_none_of_sticky (fun s => exitOne_sticky h fl m ev s p) s hr
  obtain ⟨d, hd⟩ := Option.isSome_iff_exists.1 hv
  refine ⟨hs, fun q => ?_⟩
  unfold exitOne
  simp only [hs, hd, Option.isSome_none, Bool.false_eq_true, if_false]
  rw [mem_delActive, execActions_cfg h hok]

theorem exitFold_spec (h : Hooks) (hok : HooksOK h) (fl : Flavor) (m : Machine) (ev : Option String) :
    ∀ (ps : List Path) (s : St), (∀ p ∈ ps, (m.defAt p).isSome) →
      (ps.foldl (exitOne h fl m ev) s).err = none →
      s.err = none ∧
        ∀ q, q ∈ (ps.foldl (exitOne h fl m ev) s).cfg ↔ q ∈ s.cfg ∧ q ∉ ps := by
  intro ps
  induction ps with
  | nil => intro s _ hr; exact ⟨hr, fun q => by simp⟩
  | cons p ps ih =>
    intro s hv hr
    obtain ⟨h3, h4⟩ := ih (exitOne h fl m ev s p) (fun p' hp' => hv p' (List.mem_cons_of_mem _ hp')) hr
    obtain ⟨h1, h2⟩ := exitOne_spec h hok fl m ev s p (hv p List.mem_cons_self) h3
    exact ⟨h1, fun q => by rw [List.foldl_cons, h4 q, h2 q, List.mem_cons, not_or, and_assoc]⟩

theorem mem_chainUp_iff {p q : Path} : q ∈ chainUp p ↔ q <+: p := by
  simp only [chainUp, List.mem_map, List.mem_range]
  constructor
  · rintro ⟨i, _, rfl⟩; exact List.take_prefix _ _
  · intro h
    refine ⟨p.length - q.length, Nat.lt_succ_of_le (Nat.sub_le _ _), ?_⟩
    rw [Nat.sub_sub_self h.length_le]
    exact (List.prefix_iff_eq_take.1 h).symm

theorem emit_cfg (r : String) (s : St) : (emit r s).cfg = s.cfg := rfl
theorem asyncChainEnd_cfg (b : Nat) (s : St) : (asyncChainEnd b s).cfg = s.cfg := by
  unfold asyncChainEnd; split <;> rfl
theorem emit_err (r : String) (s : St) : (emit r s).err = s.err := rfl

-- one transition -------------------------------------------------------------------------------------------
/-- the observer record changes neither the configuration nor the error flag -/
theorem execute_cfg_eq (h : Hooks) (fl : Flavor) (m : Machine) (ev : Ev) (pl : Plan) (s : St) :
    (execute h fl m ev pl s).cfg = (executeCore h fl m ev pl s).cfg := by
  unfold execute; simp only; split <;> rfl
theorem execute_err_eq (h : Hooks) (fl : Flavor) (m : Machine) (ev : Ev) (pl : Plan) (s : St) :
    (execute h fl m ev pl s).err = (executeCore h fl m ev pl s).err := by
  unfold execute; simp only; split <;> rfl

theorem executeCore_external (h : Hooks) (fl : Flavor) (m : Machine) (ev : Ev) (pl : Plan) (s : St)
    (hint : pl.internal = false) :
    executeCore h fl m ev pl s =
      if (runPlan h fl m ev pl s).err.isSome then { runPlan h fl m ev pl s with cfg := s.cfg }
      else runPlan h fl m ev pl s := by
  unfold executeCore; rw [hint]; rfl

/-- **transition atomicity**: a transition that ends with the error flag set (missing action,
    unresolvable target, a failed entry) leaves the configuration exactly as it was -/
theorem execute_rollback (h : Hooks) (fl : Flavor) (m : Machine) (ev : Ev) (pl : Plan) (s : St)
    (hint : pl.internal = false) (he : (execute h fl m ev pl s).err ≠ none) :
    (execute h fl m ev pl s).cfg = s.cfg := by
  rw [execute_err_eq, executeCore_external h fl m ev pl s hint] at he
  rw [execute_cfg_eq, executeCore_external h fl m ev pl s hint]
  split
  · rfl
  · rename_i hn
    rw [if_neg hn] at he
    exact absurd (Option.not_isSome_iff_eq_none.1 hn) he

theorem execute_internal_cfg (h : Hooks) (hok : HooksOK h) (fl : Flavor) (m : Machine) (ev : Ev)
    (pl : Plan) (s : St) (hint : pl.internal = true) : (execute h fl m ev pl s).cfg = s.cfg := by
  rw [execute_cfg_eq]
  unfold executeCore
  simp only [hint, if_true]
  split
  · exact fail_cfg _ _
  · exact execActions_cfg h hok _ _ _

theorem fail_err_ne (s : St) (e : EErr) : (s.fail e).err ≠ none := by
  unfold St.fail
  split
  · rename_i hh; intro hn; rw [hn] at hh; simp at hh
  · simp

/-- the three phases of an external plan that ends without an error: `(cfg \ exits) ∪ entries` -/
theorem runPlan_cfg (h : Hooks) (hok : HooksOK h) (fl : Flavor) (m : Machine) (ev : Ev) (pl : Plan) (s : St)
    (hvx : ∀ p ∈ pl.exits, (m.defAt p).isSome) (hve : ∀ e ∈ pl.entries, (m.defAt e.path).isSome)
    (hr : (runPlan h fl m ev pl s).err = none) :
    pl.err = none ∧ ∀ q, q ∈ (runPlan h fl m ev pl s).cfg ↔
        (q ∈ s.cfg ∧ q ∉ pl.exits) ∨ q ∈ pl.entries.map (·.path) := by
  have hperr : pl.err = none := by
    cases hp : pl.err with
    | none => rfl
    | some e => unfold runPlan at hr; rw [hp] at hr; exact absurd hr (fail_err_ne _ _)
  -- the guard on the actions phase repeats what `execActions` does anyway
  have hact : ∀ s2 : St, (if s2.err.isSome = true then s2 else execActions h pl.actions ev.type s2) =
      execActions h pl.actions ev.type s2 := fun s2 => by
    split
    · exact (execActions_sticky h _ _ s2 ‹_›).symm
    · rfl
  refine ⟨hperr, fun q => ?_⟩
  unfold runPlan at hr ⊢
  simp only [hperr, hact] at hr ⊢
  obtain ⟨h3, e3⟩ := enterFold_spec h hok fl m _ pl.entries _ hve hr
  have h2 := err_none_of_sticky (execActions_sticky h ev.type pl.actions) _ h3
  obtain ⟨_, e2⟩ := exitFold_spec h hok fl m _ pl.exits _ hvx h2
  rw [e3 q, execActions_cfg h hok, e2 q]
  rfl

/-- what a successful external plan does to the configuration: it becomes `(cfg \ exits) ∪ entries` -/
theorem execute_cfg (h : Hooks) (hok : HooksOK h) (fl : Flavor) (m : Machine) (ev : Ev) (pl : Plan) (s : St)
    (hint : pl.internal = false)
    (hvx : ∀ p ∈ pl.exits, (m.defAt p).isSome) (hve : ∀ e ∈ pl.entries, (m.defAt e.path).isSome)
    (hr : (execute h fl m ev pl s).err = none) :
    pl.err = none ∧ ∀ q, q ∈ (execute h fl m ev pl s).cfg ↔
        (q ∈ s.cfg ∧ q ∉ pl.exits) ∨ q ∈ pl.entries.map (·.path) := by
  rw [execute_err_eq, executeCore_external h fl m ev pl s hint] at hr
  have hrun : (runPlan h fl m ev pl s).err = none := by split at hr <;> exact hr
  rw [execute_cfg_eq, executeCore_external h fl m ev pl s hint, hrun]
  exact runPlan_cfg h hok fl m ev pl s hvx hve hrun

-- plan entries = specification entries ---------------------------------------------------------------------
/-- Python's `if state.initial:` as `planEnter` spells it: `None` and `""` are falsy -/
def truthyInit (d : StateDef) : Bool := (d.initial.map (· != "")).getD false

-- a compound state with children names a non-empty initial key; one without children names none
mutual
def InitOK : SNode → Prop
  | .mk d kids =>
    InitOKKids kids ∧
    (d.kind = .compound → (kids = [] → truthyInit d = false) ∧ (kids ≠ [] → ∃ k, d.initial = some k ∧ k ≠ ""))
def InitOKKids : List (String × SNode) → Prop
  | [] => True
  | (_, n) :: rest => InitOK n ∧ InitOKKids rest
end

theorem initOK_kids {d : StateDef} {kids : List (String × SNode)} (h : InitOK (.mk d kids)) :
    InitOKKids kids := by
  simp only [InitOK] at h; exact h.1

theorem initOK_compound {d : StateDef} {kids : List (String × SNode)} (hwf : WF (.mk d kids))
    (hi : InitOK (.mk d kids)) (hk : d.kind = .compound) :
    (kids = [] ∧ truthyInit d = false) ∨ ∃ k, d.initial = some k ∧ k ≠ "" ∧ HasRealKid k kids := by
  simp only [WF, hk] at hwf
  simp only [InitOK] at hi
  by_cases hk0 : kids = []
  · exact Or.inl ⟨hk0, (hi.2 hk).1 hk0⟩
  · obtain ⟨k, hik, hne⟩ := (hi.2 hk).2 hk0
    rcases hwf.2.2 with h0 | ⟨k', hk', hr⟩
    · exact absurd h0 hk0
    · rw [hik] at hk'; cases hk'
      exact Or.inr ⟨k, hik, hne, hr⟩

/-- marks paths as reached by default descent (`Entry.nested = true`) -/
def tag (ps : List Path) : List Entry := ps.map (fun p => ⟨p, true⟩)

theorem tag_paths (ps : List Path) : (tag ps).map (·.path) = ps := by
  simp [tag, List.map_map, Function.comp_def]

theorem regionsNotIn_congr {L L' : List Path} {p : Path} (h : ∀ k, (p ++ [k]) ∈ L ↔ (p ++ [k]) ∈ L') :
    ∀ ks : List (String × SNode), regionsNotIn L p ks = regionsNotIn L' p ks
  | [] => rfl
  | (k, c) :: rest => by simp only [regionsNotIn, h k, regionsNotIn_congr h rest]

/-- `extra` at a path that names the node `n` -/
def extraAt (L : List Path) (p : Path) : SNode → List Path
  | .mk d kids =>
    match d.kind with
    | .compound =>
      if hasExplicitChild L p then [] else
        match d.initial with
        | some k => enterInit p k kids
        | none => []
    | .parallel => regionsNotIn L p kids
    | _ => []

theorem extra_eq_extraAt {root : SNode} {L : List Path} {p : Path} {n : SNode} (h : root.at p = some n) :
    extra root L p = extraAt L p n := by
  cases n; unfold extra; rw [h]; rfl

/-- `extra` reads the entry list only through which children of `p` it names -/
theorem extraAt_congr {L L' : List Path} {p : Path} (h : ∀ k, (p ++ [k]) ∈ L ↔ (p ++ [k]) ∈ L') (n : SNode) :
    extraAt L p n = extraAt L' p n := by
  have he : hasExplicitChild L p = hasExplicitChild L' p := by
    rw [Bool.eq_iff_iff, hasExplicitChild_iff, hasExplicitChild_iff]
    exact exists_congr h
  cases n
  rw [extraAt, extraAt, he, regionsNotIn_congr h]

/-- the default descent is what an entry list without explicit children adds -/
theorem enterDefault_eq_extraAt (p : Path) (n : SNode) : enterDefault p n = p :: extraAt [] p n := by
  cases n with
  | mk d kids =>
    rw [enterDefault, extraAt]
    congr 1
    cases d.kind
    case parallel => exact enterRegions_eq p kids
    all_goals rfl

theorem enterDefault_cons (p : Path) (n : SNode) : enterDefault p n = p :: (enterDefault p n).tail := by
  rw [enterDefault_eq_extraAt]; rfl

theorem dfltDescend_mk (m : Machine) (p : Path) (d : StateDef) (kids : List (String × SNode)) :
    dfltDescend m p (.mk d kids) = entryExtras m [] p d kids := rfl

/-- the extras of one element of the entry list, given what the descent into its children yields -/
theorem entryExtras_eq_extraAt (m : Machine) (L : List Path) (p : Path) (d : StateDef)
    (kids : List (String × SNode)) (hwf : WF (.mk d kids)) (hi : InitOK (.mk d kids))
    (hInit : ∀ k, HasRealKid k kids → dfltInit m p k kids = (tag (enterInit p k kids), none))
    (hReg : dfltRegions m p L kids = (tag (regionsNotIn L p kids), none)) :
    entryExtras m L p d kids = (tag (extraAt L p (.mk d kids)), none) := by
  rw [entryExtras, extraAt]
  cases hkd : d.kind <;> simp only
  case compound =>
    rcases initOK_compound hwf hi hkd with ⟨rfl, ht⟩ | ⟨k, hk, hne, hreal⟩
    · rw [truthyInit] at ht
      rw [if_neg (by rw [ht]; decide), if_neg (by decide)]
      split
      · rfl
      · split <;> rfl
    · rw [if_pos (by simp [hk, hne]), hk]
      split
      · rfl
      · exact hInit k hreal
  case parallel => exact hReg
  all_goals rfl

mutual
theorem dfltDescend_eq (m : Machine) (p : Path) (n : SNode) (hwf : WF n) (hi : InitOK n) :
    dfltDescend m p n = (tag (enterDefault p n).tail, none) := by
  match n with
  | .mk d kids =>
    rw [dfltDescend_mk, enterDefault_eq_extraAt, List.tail_cons]
    exact entryExtras_eq_extraAt m [] p d kids hwf hi
      (fun k hr => dfltInit_eq m p k kids (wf_kids hwf) (initOK_kids hi) hr)
      (dfltRegions_eq m p [] kids (wf_kids hwf) (initOK_kids hi))
theorem dfltInit_eq (m : Machine) (p : Path) (k : String) (ks : List (String × SNode))
    (hwf : WFKids ks) (hi : InitOKKids ks) (hreal : HasRealKid k ks) :
    dfltInit m p k ks = (tag (enterInit p k ks), none) := by
  match ks with
  | [] => simp [HasRealKid] at hreal
  | (k', c) :: rest =>
    simp only [WFKids] at hwf
    simp only [InitOKKids] at hi
    simp only [HasRealKid] at hreal
    simp only [dfltInit, enterInit]
    split
    · rw [dfltDescend_eq m (p ++ [k']) c hwf.1 hi.1, enterDefault_cons (p ++ [k']) c]
      rfl
    · rename_i hk
      exact dfltInit_eq m p k rest hwf.2 hi.2 (hreal.resolve_left (fun h => hk h.1)).2
theorem dfltRegions_eq (m : Machine) (p : Path) (skip : List Path) (ks : List (String × SNode))
    (hwf : WFKids ks) (hi : InitOKKids ks) :
    dfltRegions m p skip ks = (tag (regionsNotIn skip p ks), none) := by
  match ks with
  | [] => rfl
  | (k, c) :: rest =>
    simp only [WFKids] at hwf
    simp only [InitOKKids] at hi
    simp only [dfltRegions, regionsNotIn, beq_iff_eq, List.contains_eq_mem, Bool.or_eq_true, decide_eq_true_eq]
    rw [dfltRegions_eq m p skip rest hwf.2 hi.2]
    split
    · rfl
    · rw [dfltDescend_eq m (p ++ [k]) c hwf.1 hi.1, enterDefault_cons (p ++ [k]) c]
      simp [tag]
end

theorem initOK_find {k : String} {ks : List (String × SNode)} {c : SNode}
    (h : InitOKKids ks) (hf : findKid k ks = some c) : InitOK c := by
  induction ks with
  | nil => simp [findKid] at hf
  | cons hd rest ih =>
    obtain ⟨k', n⟩ := hd
    simp only [InitOKKids] at h
    simp only [findKid] at hf
    split at hf
    · simp only [Option.some.injEq] at hf; subst hf; exact h.1
    · exact ih h.2 hf

theorem initOK_at {root : SNode} (h : InitOK root) : ∀ (p : Path) (n : SNode), root.at p = some n → InitOK n := by
  intro p
  induction p generalizing root with
  | nil => intro n hn; simp only [SNode.at, Option.some.injEq] at hn; subst hn; exact h
  | cons k p ih =>
    intro n hn
    match root with
    | .mk d kids =>
      obtain ⟨c, hf, hc⟩ := at_cons_some.1 hn
      exact ih (initOK_find (initOK_kids h) hf) n hc

theorem entryExtras_eq (m : Machine) (L : List Path) (p : Path) (d : StateDef) (kids : List (String × SNode))
    (hat : m.root.at p = some (.mk d kids)) (hwf : WF (.mk d kids)) (hi : InitOK (.mk d kids)) :
    entryExtras m L p d kids = (tag (extra m.root L p), none) := by
  rw [extra_eq_extraAt hat]
  exact entryExtras_eq_extraAt m L p d kids hwf hi
    (fun k hr => dfltInit_eq m p k kids (wf_kids hwf) (initOK_kids hi) hr)
    (dfltRegions_eq m p L kids (wf_kids hwf) (initOK_kids hi))

theorem planEnter_fold (m : Machine) (L : List Path) (hwf : WF m.root) (hi : InitOK m.root) :
    ∀ (L' : List Path) (acc : List Entry), (∀ p ∈ L', ∃ n, m.root.at p = some n) →
      L'.foldl (planEnterStep m L) (acc, none) =
        (acc ++ L'.flatMap (fun p => ⟨p, false⟩ :: tag (extra m.root L p)), none) := by
  intro L'
  induction L' with
  | nil => intro acc _; simp
  | cons p rest ih =>
    intro acc hv
    obtain ⟨n, hn⟩ := hv p (by simp)
    match n, hn with
    | .mk d kids, hn =>
      have hx := entryExtras_eq m L p d kids hn (wf_at hwf p _ hn) (initOK_at hi p _ hn)
      simp only [List.foldl_cons, planEnterStep, hn, hx]
      rw [ih _ (fun q hq => hv q (List.mem_cons_of_mem _ hq))]
      simp [List.flatMap_cons, List.append_assoc]

/-- **plan entries = specification entries**, as lists (hence also in order) -/
theorem planEnter_eq (m : Machine) (L : List Path) (hwf : WF m.root) (hi : InitOK m.root)
    (hv : ∀ p ∈ L, ∃ n, m.root.at p = some n) :
    (planEnter m L).2 = none ∧ (planEnter m L).1.map (·.path) = enterStates m.root L := by
  unfold planEnter
  rw [planEnter_fold m L hwf hi L [] hv]
  refine ⟨rfl, ?_⟩
  simp only [List.nil_append, enterStates, List.map_flatMap, List.map_cons, tag_paths]

-- an external transition: exit a set, run the actions, enter a list ------------------------------------------
theorem mem_sortExit (m : Machine) (q : Path) (xs : List Path) : q ∈ sortExit m xs ↔ q ∈ xs := by
  simp [sortExit, mem_sortBy]

theorem Legal_congr {root : SNode} {c c' : List Path} (h : ∀ q, q ∈ c ↔ q ∈ c') (hL : Legal root c) :
    Legal root c' := by
  constructor
  · exact (h _).1 hL.root_active
  · intro q hq; exact hL.states q ((h q).2 hq)
  · intro q hq; exact (h _).1 (hL.parent_active q ((h q).2 hq))
  · intro p hp d kids hat hk hk0
    obtain ⟨k, hk1, hk2⟩ := hL.compound_one p ((h p).2 hp) d kids hat hk hk0
    exact ⟨k, (h _).1 hk1, fun k' hk' => hk2 k' ((h _).2 hk')⟩
  · intro p hp d kids hat hk k ch hm hh
    exact (h _).1 (hL.parallel_all p ((h p).2 hp) d kids hat hk k ch hm hh)

theorem defAt_isSome_of_at {m : Machine} {p : Path} {n : SNode} (h : m.root.at p = some n) :
    (m.defAt p).isSome := by
  simp [Machine.defAt, h]

/-- the plan that exits `X` (deepest first), runs `a` and enters `L` -/
def extPlan (m : Machine) (X : List Path) (a : List ActionRef) (L : List Path) : Plan :=
  { exits := sortExit m X, actions := a, entries := (planEnter m L).1, err := (planEnter m L).2 }

/-- `planTransition` for a transition that leaves its source or re-enters it -/
theorem planTransition_external (m : Machine) (cfg : List Path) (hist : List (Path × List Path)) (c : Cand)
    {tstr : String} {tgt : Path} (ht : c.t.target = some tstr) (hne : tstr ≠ "")
    (hres : resolveRobust m c.src tstr = some tgt) (hext : ¬ (tgt = c.src ∧ c.t.reenter = false)) :
    planTransition m cfg hist c =
      extPlan m (match domainO m c.src tgt with | none => cfg | some dom => exitSet m cfg dom tgt) c.t.actions
        (if m.kindAt tgt = some .history then
          ((resolveHistoryTarget m hist tgt).flatMap (pathFromO (domainO m c.src tgt))).eraseDups
        else pathFromO (domainO m c.src tgt) tgt) := by
  have hnotint : (tgt = c.src && !c.t.reenter) = false := by simpa using hext
  unfold planTransition extPlan
  simp only [ht, hne, if_false, hres, hnotint, Bool.false_eq_true]
  split <;> rfl

/-- a successful `extPlan` produces `(cfg \ X) ∪ enterStates L` -/
theorem execute_extPlan_cfg (h : Hooks) (hok : HooksOK h) (fl : Flavor) (m : Machine) (ev : Ev) (s : St)
    (hwf : WF m.root) (hi : InitOK m.root) {X L : List Path} {a : List ActionRef}
    (hvX : ∀ p ∈ X, ∃ n, m.root.at p = some n) (hvL : ∀ p ∈ L, ∃ n, m.root.at p = some n)
    (herr : (execute h fl m ev (extPlan m X a L) s).err = none) (q : Path) :
    q ∈ (execute h fl m ev (extPlan m X a L) s).cfg ↔ (q ∈ s.cfg ∧ q ∉ X) ∨ q ∈ enterStates m.root L := by
  have hpent := (planEnter_eq m L hwf hi hvL).2
  have hvx : ∀ p ∈ sortExit m X, (m.defAt p).isSome := fun p hp => by
    obtain ⟨n, hn⟩ := hvX p ((mem_sortExit m p X).1 hp)
    exact defAt_isSome_of_at hn
  have hve : ∀ e ∈ (planEnter m L).1, (m.defAt e.path).isSome := fun e he => by
    obtain ⟨n, hn⟩ := enterStates_at m.root hwf L hvL e.path (hpent ▸ List.mem_map_of_mem he)
    exact defAt_isSome_of_at hn
  rw [(execute_cfg h hok fl m ev _ s rfl hvx hve herr).2 q, ← hpent, ← mem_sortExit m q X]
  rfl

/-- **one external transition keeps the configuration legal** whenever the configuration it aims at,
    `(cfg \ X) ∪ enterStates L`, is legal: it reaches it, or fails and is rolled back -/
theorem legal_execute_extPlan (h : Hooks) (hok : HooksOK h) (fl : Flavor) (m : Machine) (ev : Ev) (s : St)
    (hwf : WF m.root) (hi : InitOK m.root) (hL : Legal m.root s.cfg) {X L C : List Path} {a : List ActionRef}
    (hX : ∀ p ∈ X, p ∈ s.cfg) (hvL : ∀ p ∈ L, ∃ n, m.root.at p = some n) (hC : Legal m.root C)
    (hmem : ∀ q, q ∈ C ↔ (q ∈ s.cfg ∧ q ∉ X) ∨ q ∈ enterStates m.root L) :
    Legal m.root (execute h fl m ev (extPlan m X a L) s).cfg := by
  cases herr : (execute h fl m ev (extPlan m X a L) s).err with
  | some e => rw [execute_rollback h fl m ev _ s rfl (by rw [herr]; simp)]; exact hL
  | none =>
    exact Legal_congr (fun q => (hmem q).trans (execute_extPlan_cfg h hok fl m ev s hwf hi
      (fun p hp => (hL.states p (hX p hp)).imp fun _ h => h.1) hvL herr q).symm) hC

theorem domainO_plain (m : Machine) (src tgt : Path) (htne : tgt ≠ [])
    (hkh : ¬ (m.kindAt tgt = some Kind.history)) :
    domainO m src tgt = some (Spec.domain src tgt) := by
  unfold domainO Spec.domain
  by_cases h1 : tgt = src
  · subst h1; simp [htne]
  · simp only [h1, if_false]
    by_cases h2 : tgt <+: src
    · simp [h2, htne]
    · simp [h2, hkh]

/-- candidate `c` declares a target that resolves to `tgt`, an existing state that is neither a history
    pseudo-state nor the machine root, and the transition is external (the hypotheses of
    `legal_microstep_plain`) -/
structure PlainTarget (m : Machine) (c : Cand) (tgt : Path) : Prop where
  declared : ∃ tstr, c.t.target = some tstr ∧ tstr ≠ "" ∧ resolveRobust m c.src tstr = some tgt
  ext : ¬ (tgt = c.src ∧ c.t.reenter = false)
  exists_ : ∃ nt, m.root.at tgt = some nt ∧ nt.kind ≠ .history
  nonroot : tgt ≠ []

theorem planTransition_plain (m : Machine) (cfg : List Path) (hist : List (Path × List Path)) (c : Cand)
    (tgt : Path) (hp : PlainTarget m c tgt) :
    planTransition m cfg hist c =
      extPlan m (Spec.exitSet m.root cfg (Spec.domain c.src tgt) tgt) c.t.actions
        (pathToEnter (Spec.domain c.src tgt) tgt) := by
  obtain ⟨tstr, ht, hne, hres⟩ := hp.declared
  obtain ⟨nt, htgt, hnh⟩ := hp.exists_
  have hkh : ¬ (m.kindAt tgt = some Kind.history) := by
    simp only [Machine.kindAt, htgt, Option.map_some, Option.some.injEq]
    exact hnh
  have hpf : pathFromO (some (Spec.domain c.src tgt)) tgt = pathToEnter (Spec.domain c.src tgt) tgt := by
    simp only [pathFromO, pathFrom, List.isPrefixOf_iff_prefix.2 (domain_prefix_tgt c.src tgt), if_true, pathToEnter]
  rw [planTransition_external m cfg hist c ht hne hres hp.ext, domainO_plain m c.src tgt hp.nonroot hkh,
    if_neg hkh, hpf]
  rfl

theorem plain_chain_valid (m : Machine) (c : Cand) (tgt : Path) (hp : PlainTarget m c tgt) :
    ∀ p ∈ pathToEnter (Spec.domain c.src tgt) tgt, ∃ n, m.root.at p = some n := by
  obtain ⟨nt, htgt, _⟩ := hp.exists_
  intro p hpm
  obtain ⟨_, _, h3⟩ := (mem_pathToEnter (domain_prefix_tgt c.src tgt)).1 hpm
  exact at_of_prefix h3 htgt

/-- **C01 on the executable model, one external transition** (plain target: resolvable, not a
    history node, not the machine root; hooks that only enqueue — i.e. every phase of both engines).
    Whatever the actions do — succeed, raise, be missing — the configuration afterwards is legal:
    either the transition completed and the configuration is the specification's, or it failed and
    the configuration is the one before. -/
theorem legal_microstep_plain (h : Hooks) (hok : HooksOK h) (fl : Flavor) (m : Machine) (ev : Ev)
    (c : Cand) (s : St) (hwf : WF m.root) (hi : InitOK m.root)
    (hL : Legal m.root s.cfg) (hsrc : c.src ∈ s.cfg)
    (tstr : String) (ht : c.t.target = some tstr) (hne : tstr ≠ "")
    (tgt : Path) (hres : resolveRobust m c.src tstr = some tgt)
    (hext : ¬ (tgt = c.src ∧ c.t.reenter = false))
    (nt : SNode) (htgt : m.root.at tgt = some nt) (hnh : nt.kind ≠ .history) (htne : tgt ≠ []) :
    Legal m.root (execute h fl m ev (planTransition m s.cfg s.hist c) s).cfg := by
  have hp : PlainTarget m c tgt := ⟨⟨tstr, ht, hne, hres⟩, hext, ⟨nt, htgt, hnh⟩, htne⟩
  rw [planTransition_plain m s.cfg s.hist c tgt hp]
  exact legal_execute_extPlan h hok fl m ev s hwf hi hL (fun p hp => (mem_exitSet.1 hp).1) (plain_chain_valid m c tgt hp)
    (legal_step_flat m.root hwf s.cfg hL c.src tgt hsrc nt htgt hnh htne) (fun q => mem_stepConfig)

-- the fold step of `processEvent` --------------------------------------------------------------------
/-- one iteration of the loop in `_process_event`; `multi` is `len(transitions) > 1` -/
def stepSel (h : Hooks) (fl : Flavor) (m : Machine) (ev : Ev) (multi : Bool) (s : St) (c : Cand) : St :=
  if s.err.isSome then s
  else if finished s.status then s
  else if multi && !(s.cfg.contains c.src) then s
  else execute h fl m ev (planTransition m s.cfg s.hist c) s

/-- the step function `processEvent` folds over the selected transitions (`n` is `len(transitions)`) -/
def peStep (h : Hooks) (fl : Flavor) (m : Machine) (ev : Ev) (n : Nat) (s : St) (c : Cand) : St :=
  if s.err.isSome then s
  else if finished s.status then s
  else if n > 1 && !(s.cfg.contains c.src) then s
  else execute h fl m ev (planTransition m s.cfg s.hist c) s

theorem peStep_eq_stepSel (h : Hooks) (fl : Flavor) (m : Machine) (ev : Ev) (n : Nat) (s : St) (c : Cand) :
    peStep h fl m ev n s c = stepSel h fl m ev (decide (n > 1)) s c := rfl

theorem processEvent_peFold (h : Hooks) (fl : Flavor) (m : Machine) (u : UEnv) (ev : Ev) (s : St)
    {sel : List Cand} (hs : selectTransitions m s.cfg (u.genv s.ctx ev.type) ev = .ok sel) :
    processEvent h fl m u ev s = sel.foldl (peStep h fl m ev sel.length) s := by
  unfold processEvent
  rw [hs]
  rfl

/-- case analysis of the fold step: the state is returned unchanged, or the candidate is executed
    from an error-free, unfinished state in which (several transitions selected) its source is active -/
theorem peStep_cases (h : Hooks) (fl : Flavor) (m : Machine) (ev : Ev) (n : Nat) (s : St) (c : Cand) :
    peStep h fl m ev n s c = s ∨
    (s.err = none ∧ finished s.status = false ∧ (n > 1 → c.src ∈ s.cfg) ∧
      peStep h fl m ev n s c = execute h fl m ev (planTransition m s.cfg s.hist c) s) := by
  unfold peStep
  by_cases herr : s.err.isSome = true
  · left; simp only [herr, if_true]
  · by_cases hfin : finished s.status = true
    · left; simp only [herr, hfin, if_true]; simp
    · by_cases hst : (decide (n > 1) && !(s.cfg.contains c.src)) = true
      · left; simp only [herr, hfin, hst, if_true]; simp
      · right
        refine ⟨?_, by simpa using hfin, ?_, ?_⟩
        · cases he : s.err with
          | none => rfl
          | some e => simp [he] at herr
        · intro hn
          simp only [hn, decide_true, Bool.true_and, Bool.not_eq_true', Bool.not_eq_false] at hst
          simpa using hst
        · simp only [herr, hfin, hst]; simp

theorem stepSel_err (h : Hooks) (fl : Flavor) (m : Machine) (ev : Ev) (multi : Bool) (s : St) (c : Cand)
    (he : s.err.isSome = true) : stepSel h fl m ev multi s c = s := by
  unfold stepSel; rw [if_pos he]

theorem stepSel_finished (h : Hooks) (fl : Flavor) (m : Machine) (ev : Ev) (multi : Bool) (s : St) (c : Cand)
    (hf : finished s.status = true) : stepSel h fl m ev multi s c = s := by
  unfold stepSel; rw [if_pos hf, ite_self]

/-- `break`: from a finished state the remaining candidates contribute nothing -/
theorem peFold_finished (h : Hooks) (fl : Flavor) (m : Machine) (ev : Ev) (n : Nat) (cs : List Cand) (s : St)
    (hf : finished s.status = true) : cs.foldl (peStep h fl m ev n) s = s :=
  foldl_fixed _ s (fun c => (peStep_eq_stepSel h fl m ev n s c).trans (stepSel_finished h fl m ev _ s c hf)) cs

theorem peFold_err (h : Hooks) (fl : Flavor) (m : Machine) (ev : Ev) (n : Nat) (cs : List Cand) (s : St)
    (he : s.err.isSome = true) : cs.foldl (peStep h fl m ev n) s = s :=
  foldl_fixed _ s (fun c => (peStep_eq_stepSel h fl m ev n s c).trans (stepSel_err h fl m ev _ s c he)) cs

theorem finished_of_running {st : String} (h : st = "running") : finished st = false := by
  subst h; decide
theorem finished_running : finished "running" = false := finished_of_running rfl

end XSM

import Xsm.Proofs.Termination
import Xsm.Proofs.SyncDrain
/-!
# Whole-run agreement of the sync and the async engine (C05)

`Sim T a b` relates an async-engine state `a` and a sync-engine state `b`: everything equal except the
chain-breaker bookkeeping (`raiseDepth`, the `self` flags of queued entries) and — through the list
relation `T` — the trace. Every layer of the EXECUTE side preserves it when run with hooks that agree up
to that bookkeeping (`HSim`), so do the two run loops as long as neither bound is reached.
-/
namespace XSM.Bisim
open XSM XSM.Term XSM.Done

/-- two traces related record by record -/
inductive TrRel (tr : String → String → Prop) : List String → List String → Prop
  | nil : TrRel tr [] []
  | cons {a b : String} {l1 l2 : List String} : tr a b → TrRel tr l1 l2 → TrRel tr (a :: l1) (b :: l2)

theorem TrRel.refl {tr : String → String → Prop} (hr : ∀ r, tr r r) : ∀ l, TrRel tr l l
  | [] => .nil
  | r :: l => .cons (hr r) (TrRel.refl hr l)

theorem trRel_eq_iff : ∀ (l1 l2 : List String), TrRel Eq l1 l2 ↔ l1 = l2 := by
  intro l1 l2
  constructor
  · intro h
    induction h with
    | nil => rfl
    | cons h _ ih => rw [h, ih]
  · intro h; subst h; exact TrRel.refl (fun _ => rfl) _

/-- the events of a queue, in order (flags forgotten) -/
def evsOf (l : List QEv) : List Ev := l.map (·.ev)

/-- **the erasure**: forget the async chain-breaker bookkeeping — the counter and the `self` flags -/
def eraseQ (s : St) : St := { s with raiseDepth := 0, queue := s.queue.map (fun q => ⟨q.ev, false⟩) }

/-- an async-engine state `a` and a sync-engine state `b` agree up to the chain-breaker bookkeeping and, by `T`, the trace -/
structure Sim (T : List String → List String → Prop) (a b : St) : Prop where
  cfg : a.cfg = b.cfg
  hist : a.hist = b.hist
  status : a.status = b.status
  ctx : a.ctx = b.ctx
  err : a.err = b.err
  errors : a.errors = b.errors
  trace : T a.trace b.trace
  queue : evsOf a.queue = evsOf b.queue
  expCut : a.expCut = b.expCut

theorem map_erase_eq_iff (l1 l2 : List QEv) :
    l1.map (fun q => (⟨q.ev, false⟩ : QEv)) = l2.map (fun q => (⟨q.ev, false⟩ : QEv)) ↔ evsOf l1 = evsOf l2 := by
  unfold evsOf
  constructor
  · intro h
    have := congrArg (List.map (fun q : QEv => q.ev)) h
    simpa [List.map_map, Function.comp_def] using this
  · intro h
    have := congrArg (List.map (fun e : Ev => (⟨e, false⟩ : QEv))) h
    simpa [List.map_map, Function.comp_def] using this

theorem sim_eq_iff (a b : St) : Sim Eq a b ↔ eraseQ a = eraseQ b := by
  constructor
  · intro h
    obtain ⟨hcfg, hhist, hstatus, hctx, herr, herrors, htrace, hqueue, hcut⟩ := h
    cases a; cases b
    simp only [eraseQ] at *
    subst hcfg hhist hstatus hctx herr herrors htrace hcut
    simp only [St.mk.injEq, true_and, and_true]
    exact (map_erase_eq_iff _ _).2 hqueue
  · intro h
    cases a; cases b
    simp only [eraseQ, St.mk.injEq] at h
    obtain ⟨hcfg, hhist, hqueue, hstatus, htrace, herr, hctx, _, herrors, hcut⟩ := h
    exact ⟨hcfg, hhist, hstatus, hctx, herr, herrors, htrace, (map_erase_eq_iff _ _).1 hqueue, hcut⟩

section sim
variable {T : List String → List String → Prop} {a b : St}

theorem Sim.refl (hr : ∀ l, T l l) (s : St) : Sim T s s :=
  ⟨rfl, rfl, rfl, rfl, rfl, rfl, hr _, rfl, rfl⟩

/-- `XSM.rel_ite` with branches related whatever the test says: with `R := Sim T` (or `SimB T`) this is how
    every layer below gets past the engine's `if`s. -/
theorem rel_ite_const {α : Type} (R : α → α → Prop) {p q : Prop} [Decidable p] [Decidable q] (hpq : p ↔ q)
    {x1 x2 y1 y2 : α} (h1 : R x1 y1) (h2 : R x2 y2) : R (if p then x1 else x2) (if q then y1 else y2) :=
  rel_ite hpq (fun _ => h1) (fun _ => h2)

/-- `Sim` on the accumulators of `actStep`: related states and the same "skip the rest" flag -/
def SimB (T : List String → List String → Prop) (x y : St × Bool) : Prop := Sim T x.1 y.1 ∧ x.2 = y.2

theorem Sim.errSome (h : Sim T a b) : a.err.isSome = true ↔ b.err.isSome = true := by rw [h.err]

theorem Sim.emit (h : Sim T a b) {r1 r2 : String} (hr : T (r1 :: a.trace) (r2 :: b.trace)) :
    Sim T (emit r1 a) (emit r2 b) :=
  { h with trace := hr }

theorem Sim.setCtx (h : Sim T a b) (c : Ctx) : Sim T { a with ctx := c } { b with ctx := c } :=
  { h with ctx := rfl }

theorem Sim.setErr (h : Sim T a b) (e : Option EErr) : Sim T { a with err := e } { b with err := e } :=
  { h with err := rfl }

theorem Sim.setStatus (h : Sim T a b) (st : String) : Sim T { a with status := st } { b with status := st } :=
  { h with status := rfl }

theorem Sim.setDepth (h : Sim T a b) (n : Nat) : Sim T { a with raiseDepth := n } b :=
  { h with }

theorem Sim.setQueue (h : Sim T a b) {q1 q2 : List QEv} (hq : evsOf q1 = evsOf q2) :
    Sim T { a with queue := q1 } { b with queue := q2 } :=
  { h with queue := hq }

theorem Sim.fail (h : Sim T a b) (e : EErr) : Sim T (a.fail e) (b.fail e) :=
  rel_ite_const (Sim T) h.errSome h (h.setErr _)

theorem Sim.addActive (h : Sim T a b) (p : Path) : Sim T (addActive p a) (addActive p b) :=
  rel_ite_const (Sim T) (by rw [h.cfg]) h { h with cfg := congrArg (· ++ [p]) h.cfg }

theorem Sim.delActive (h : Sim T a b) (p : Path) : Sim T (delActive p a) (delActive p b) :=
  { h with cfg := congrArg (List.filter (· != p)) h.cfg }

theorem Sim.complete (h : Sim T a b) : Sim T (complete a) (complete b) :=
  rel_ite_const (Sim T) (by rw [h.status]) { h with status := rfl } h

theorem Sim.recordHistory (h : Sim T a b) (m : Machine) (ex : List Path) :
    Sim T (recordHistory m ex a) (recordHistory m ex b) :=
  { h with hist := by unfold XSM.recordHistory; rw [h.cfg, h.hist] }

theorem Sim.assignStep (h : Sim T a b) (canon : String) (cut : Bool) (x : ActionRef) :
    Sim T (assignStep canon cut x a) (assignStep canon cut x b) :=
  rel_ite_const (Sim T) Iff.rfl { h with expCut := rfl }
    (rel_ite_const (Sim T) Iff.rfl (h.ctx ▸ h.setCtx _) h)

theorem Sim.endExpansion (h : Sim T a b) (f : Nat) : Sim T (endExpansion f a) (endExpansion f b) :=
  rel_ite_const (Sim T) Iff.rfl { h with expCut := rfl } h

theorem evsOf_append (l1 l2 : List QEv) : evsOf (l1 ++ l2) = evsOf l1 ++ evsOf l2 := List.map_append

theorem Sim.enqueueQ (h : Sim T a b) (f1 f2 : Bool) (e : Ev) : Sim T (enqueueQ f1 e a) (enqueueQ f2 e b) :=
  rel_ite_const (Sim T) (by rw [h.status])
    (h.setQueue (by rw [evsOf_append, evsOf_append, h.queue]; rfl)) h

end sim

/-- what the simulation needs of two hook sets, the first handed event name `e1` and the second `e2`:
    the same user registry and guard evaluator (at those names), no coroutine action (the sync engine
    refuses them, the async engine runs them), sends that preserve `Sim`, and records related by `R`, a
    relation under which `T` is closed when related records are logged -/
structure HSim (R : String → String → Prop) (T : List String → List String → Prop) (h1 h2 : Hooks)
    (e1 e2 : String) : Prop where
  act : ∀ n c, h1.act n c e1 = h2.act n c e2
  noCoro : ∀ n c c', h2.act n c e2 ≠ .isAsync c'
  geval : ∀ g (a b : St), a.cfg = b.cfg → a.ctx = b.ctx → h1.geval g a e1 = h2.geval g b e2
  snd : ∀ e a b, Sim T a b → Sim T (h1.snd e a) (h2.snd e b)
  sndRaise : ∀ e a b, Sim T a b → Sim T (h1.sndRaise e a) (h2.sndRaise e b)
  record : ∀ n : String, R s!"{n}@{e1}" s!"{n}@{e2}"
  refl : ∀ r, R r r
  cons : ∀ {r1 r2 : String} {l1 l2 : List String}, R r1 r2 → T l1 l2 → T (r1 :: l1) (r2 :: l2)

section layers
variable {R : String → String → Prop} {T : List String → List String → Prop} {h1 h2 : Hooks} {e1 e2 : String}

theorem HSim.emit (hh : HSim R T h1 h2 e1 e2) {a b : St} (hs : Sim T a b) {r1 r2 : String} (hr : R r1 r2) :
    Sim T (emit r1 a) (emit r2 b) := hs.emit (hh.cons hr hs.trace)

theorem pickBranch_sim (hh : HSim R T h1 h2 e1 e2) {a b : St} (hc : a.cfg = b.cfg) (hx : a.ctx = b.ctx) :
    ∀ bs, pickBranch h1 a e1 bs = pickBranch h2 b e2 bs := by
  intro bs
  induction bs with
  | nil => rfl
  | cons br rest ih =>
    obtain ⟨g, acts⟩ := br
    simp only [pickBranch, hh.geval _ a b hc hx, ih]

theorem finishBuiltin_sim (hh : HSim R T h1 h2 e1 e2) (canon : String) (x : ActionRef) {a b : St} (hs : Sim T a b) :
    SimB T (finishBuiltin h1 canon x a) (finishBuiltin h2 canon x b) :=
  rel_ite_const (SimB T) hs.errSome ⟨hh.emit (hs.setErr none) (hh.refl _), rfl⟩
    (rel_ite_const (SimB T) Iff.rfl
      ⟨by cases raisedEvent x with
          | none => exact hs
          | some e => exact hh.sndRaise e a b hs, rfl⟩
      ⟨hs, rfl⟩)

theorem builtinStep_sim (hh : HSim R T h1 h2 e1 e2) (n1 n2 : List ActionRef → String → St → St)
    (hn : ∀ as a b, Sim T a b → Sim T (n1 as e1 a) (n2 as e2 b)) (cut : Bool) (canon : String) (x : ActionRef)
    {a b : St} (hs : Sim T a b) :
    SimB T (builtinStep h1 n1 cut e1 canon x a) (builtinStep h2 n2 cut e2 canon x b) := by
  unfold builtinStep
  simp only
  rw [pickBranch_sim hh hs.cfg hs.ctx, hs.expCut]
  split
  · exact ⟨hh.emit hs (hh.refl _), rfl⟩
  · exact finishBuiltin_sim hh canon x
      (rel_ite_const (Sim T) Iff.rfl (hs.assignStep _ _ _) (hn _ _ _ (hs.assignStep _ _ _)))

theorem actStep_sim (hh : HSim R T h1 h2 e1 e2) (n1 n2 : List ActionRef → String → St → St)
    (hn : ∀ as a b, Sim T a b → Sim T (n1 as e1 a) (n2 as e2 b)) (cut : Bool)
    (acc1 acc2 : St × Bool) (hs : SimB T acc1 acc2) (x : ActionRef) :
    SimB T (actStep h1 n1 cut e1 acc1 x) (actStep h2 n2 cut e2 acc2 x) := by
  refine rel_ite_const (SimB T) (by rw [hs.2, hs.1.err]) hs ?_
  rw [hs.1.ctx, hh.act]
  cases hact : h2.act x.type acc2.1.ctx e2 with
  | ok c => exact ⟨hh.emit (hs.1.setCtx c) (hh.record _), rfl⟩
  | isAsync c => exact absurd hact (hh.noCoro _ _ _)
  | raises => exact ⟨hh.emit (hh.emit hs.1 (hh.record _)) (hh.refl _), rfl⟩
  | missing =>
    show SimB T (match canonicalBuiltin x.type with | none => _ | some canon => _)
      (match canonicalBuiltin x.type with | none => _ | some canon => _)
    cases canonicalBuiltin x.type with
    | none => exact ⟨hs.1.fail _, rfl⟩
    | some canon => exact builtinStep_sim hh n1 n2 hn cut canon x hs.1

theorem execActionsF_sim (hh : HSim R T h1 h2 e1 e2) :
    ∀ (f : Nat) (as : List ActionRef) (a b : St), Sim T a b →
      Sim T (execActionsF h1 f as e1 a) (execActionsF h2 f as e2 b) := by
  intro f
  induction f with
  | zero =>
    intro as a b hs
    exact (foldl_rel₂ (SimB T) _ _ (fun _ _ x h => actStep_sim hh _ _ (fun _ _ _ h => h) true _ _ h x)
      as (a, false) (b, false) ⟨hs, rfl⟩).1
  | succ f ih =>
    intro as a b hs
    exact (foldl_rel₂ (SimB T) _ _
      (fun _ _ x h => actStep_sim hh _ _ (fun as a b h => (ih as a b h).endExpansion _) false _ _ h x)
      as (a, false) (b, false) ⟨hs, rfl⟩).1

theorem execActions_sim (hh : HSim R T h1 h2 e1 e2) (as : List ActionRef) {a b : St} (hs : Sim T a b) :
    Sim T (execActions h1 as e1 a) (execActions h2 as e2 b) :=
  execActionsF_sim hh _ as a b hs

theorem checkAndFireOnDone_sim (hh : HSim R T h1 h2 e1 e2) (m : Machine) (fin : Path) {a b : St} (hs : Sim T a b) :
    Sim T (checkAndFireOnDone h1 m fin a) (checkAndFireOnDone h2 m fin b) := by
  unfold checkAndFireOnDone
  simp only
  rw [hs.cfg]
  split
  · exact hh.snd _ _ _ hs
  · exact rel_ite_const (Sim T) Iff.rfl hs.complete hs

/-- one entry, the two sides possibly handed different event names -/
theorem enterOne_sim (fl1 fl2 : Flavor) (m : Machine) (ev1 ev2 : Option String) (e : Entry)
    (hh : HSim R T h1 h2 (entryEvName fl1 m e ev1) (entryEvName fl2 m e ev2)) {a b : St} (hs : Sim T a b) :
    Sim T (enterOne h1 fl1 m ev1 a e) (enterOne h2 fl2 m ev2 b e) := by
  refine rel_ite_const (Sim T) hs.errSome hs ?_
  cases m.defAt e.path with
  | none => exact hs
  | some d =>
    have k := execActions_sim hh d.entry (hs.addActive e.path)
    exact rel_ite_const (Sim T) k.errSome k (rel_ite_const (Sim T) Iff.rfl (checkAndFireOnDone_sim hh m e.path k) k)

theorem exitOne_sim (fl1 fl2 : Flavor) (m : Machine) (ev1 ev2 : Option String) (p : Path)
    (hh : HSim R T h1 h2 (exitEvName fl1 m p ev1) (exitEvName fl2 m p ev2)) {a b : St} (hs : Sim T a b) :
    Sim T (exitOne h1 fl1 m ev1 a p) (exitOne h2 fl2 m ev2 b p) := by
  refine rel_ite_const (Sim T) hs.errSome hs ?_
  cases m.defAt p with
  | none => exact hs
  | some d => exact (execActions_sim hh d.exit hs).delActive p

/-- a transition's three phases; the triggering event is known, so the flavours are irrelevant -/
theorem runPlan_sim (fl1 fl2 : Flavor) (m : Machine) (ev : Ev) (pl : Plan)
    (hh : HSim R T h1 h2 ev.type ev.type) {a b : St} (hs : Sim T a b) :
    Sim T (runPlan h1 fl1 m ev pl a) (runPlan h2 fl2 m ev pl b) := by
  have k2 := foldl_rel₂ (Sim T) _ _
    (fun a b p h => exitOne_sim fl1 fl2 m (some ev.type) (some ev.type) p (by cases fl1 <;> cases fl2 <;> exact hh) h)
    pl.exits _ _ (hs.recordHistory m pl.exits)
  have k4 := foldl_rel₂ (Sim T) _ _
    (fun a b e h => enterOne_sim fl1 fl2 m (some ev.type) (some ev.type) e (by cases fl1 <;> cases fl2 <;> exact hh) h)
    pl.entries _ _ (rel_ite_const (Sim T) k2.errSome k2 (execActions_sim hh pl.actions k2))
  unfold runPlan
  cases pl.err with
  | none => exact k4
  | some e => exact k4.fail e

theorem executeCore_sim (fl1 fl2 : Flavor) (m : Machine) (ev : Ev) (pl : Plan)
    (hh : HSim R T h1 h2 ev.type ev.type) {a b : St} (hs : Sim T a b) :
    Sim T (executeCore h1 fl1 m ev pl a) (executeCore h2 fl2 m ev pl b) := by
  refine rel_ite_const (Sim T) Iff.rfl ?_ ?_
  · cases pl.err with
    | none => exact execActions_sim hh _ hs
    | some e => exact hs.fail e
  · have k := runPlan_sim fl1 fl2 m ev pl hh hs
    exact rel_ite_const (Sim T) k.errSome { k with cfg := hs.cfg } k

theorem execute_sim (fl1 fl2 : Flavor) (m : Machine) (ev : Ev) (pl : Plan)
    (hh : HSim R T h1 h2 ev.type ev.type) {a b : St} (hs : Sim T a b) :
    Sim T (execute h1 fl1 m ev pl a) (execute h2 fl2 m ev pl b) := by
  have k := executeCore_sim fl1 fl2 m ev pl hh hs
  refine rel_ite_const (Sim T) k.errSome k (hh.emit k ?_)
  unfold obsRecord
  rw [k.cfg]
  exact hh.refl _

theorem processEvent_sim (fl1 fl2 : Flavor) (m : Machine) (u : UEnv) (ev : Ev)
    (hh : HSim R T h1 h2 ev.type ev.type) {a b : St} (hs : Sim T a b) :
    Sim T (processEvent h1 fl1 m u ev a) (processEvent h2 fl2 m u ev b) := by
  unfold processEvent
  rw [hs.cfg, hs.ctx]
  cases selectTransitions m b.cfg (u.genv b.ctx ev.type) ev with
  | error e =>
    cases e with
    | missing n => exact hs.fail _
  | ok sel =>
    refine foldl_rel₂ (Sim T) _ _ (fun a b c h => ?_) sel _ _ hs
    refine rel_ite_const (Sim T) h.errSome h (rel_ite_const (Sim T) (by rw [h.status]) h (rel_ite_const (Sim T) (by rw [h.cfg]) h ?_))
    rw [h.cfg, h.hist]
    exact execute_sim fl1 fl2 m ev _ hh h

theorem transientLoop_sim (fl1 fl2 : Flavor) (m : Machine) (u : UEnv) (hh : HSim R T h1 h2 "" "") :
    ∀ (n : Nat) (a b : St), Sim T a b →
      Sim T (transientLoop h1 fl1 m u n a) (transientLoop h2 fl2 m u n b) := by
  intro n
  induction n with
  | zero => intro a b hs; exact hs
  | succ n ih =>
    intro a b hs
    simp only [transientLoop]
    refine rel_ite_const (Sim T) hs.errSome hs ?_
    rw [hs.cfg, hs.ctx]
    cases selectTransitions m b.cfg (u.genv b.ctx "") (.user "") with
    | error e =>
      cases e with
      | missing n => exact hs.fail _
    | ok sel =>
      exact rel_ite_const (Sim T) Iff.rfl (ih _ _ (processEvent_sim fl1 fl2 m u (.user "") hh hs)) hs

end layers


/-! ## the engines' hooks -/

/-- the user registers no coroutine function as an action (the sync engine refuses to run one and
    raises `NotSupportedError`; the async engine awaits it) -/
def NoCoroutine (u : UEnv) : Prop := ∀ (n : String) (c : Ctx) (e : String) (c' : Ctx), u.a n c e ≠ .isAsync c'

section hooks
variable {R : String → String → Prop} {T : List String → List String → Prop}

/-- two hook sets built by `mkHooks` over the same user code: what is left to check is that user code answers
    alike under the two event names, that the sends preserve `Sim`, and the relation on records -/
theorem hsim_mkHooks (u : UEnv) (hu : NoCoroutine u) (m : Machine) {e1 e2 : String} {y1 y2 : Bool}
    {snd1 snd2 raise1 raise2 : Snd} (ha : ∀ n c, u.a n c e1 = u.a n c e2) (hg : ∀ n c, u.g n c e1 = u.g n c e2)
    (hsnd : ∀ e a b, Sim T a b → Sim T (snd1 e a) (snd2 e b))
    (hraise : ∀ e a b, Sim T a b → Sim T (raise1 e a) (raise2 e b))
    (hrec : ∀ n : String, R s!"{n}@{e1}" s!"{n}@{e2}") (hrefl : ∀ r, R r r)
    (hcons : ∀ {r1 r2 : String} {l1 l2 : List String}, R r1 r2 → T l1 l2 → T (r1 :: l1) (r2 :: l2)) :
    HSim R T (mkHooks u m y1 snd1 raise1) (mkHooks u m y2 snd2 raise2) e1 e2 where
  act := ha
  noCoro := fun n c c' => hu n c e2 c'
  geval := fun g a b hc hx => by
    show evalGuard m a.cfg (u.genv a.ctx e1) g = evalGuard m b.cfg (u.genv b.ctx e2) g
    rw [hc, hx, show u.genv b.ctx e1 = u.genv b.ctx e2 from funext fun n => hg n b.ctx]
  snd := hsnd
  sndRaise := hraise
  record := hrec
  refl := hrefl
  cons := hcons

/-- while the async loop is processing: counted, self-flagged sends vs the sync engine's marked enqueue -/
theorem hsim_async (hT : ∀ r l1 l2, T l1 l2 → T (r :: l1) (r :: l2)) (u : UEnv) (hu : NoCoroutine u)
    (m : Machine) (t : String) : HSim Eq T (hooksAsync u m) (hooksFlagged u m) t t :=
  hsim_mkHooks u hu m (fun _ _ => rfl) (fun _ _ => rfl) (fun e _ _ h => (h.setDepth _).enqueueQ true true e)
    (fun e _ _ h => (h.setDepth _).enqueueQ true true e) (fun _ => rfl) (fun _ => rfl) (fun h ht => h ▸ hT _ _ _ ht)

/-- during the async `start()` (no loop yet): both only enqueue (the sync engine marks, the async one does not) -/
theorem hsim_asyncStart (hT : ∀ r l1 l2, T l1 l2 → T (r :: l1) (r :: l2)) (u : UEnv) (hu : NoCoroutine u)
    (m : Machine) (t : String) : HSim Eq T (hooksAsyncStart u m) (hooksFlagged u m) t t :=
  hsim_mkHooks u hu m (fun _ _ => rfl) (fun _ _ => rfl) (fun e _ _ h => h.enqueueQ false true e)
    (fun e _ _ h => h.enqueueQ false true e) (fun _ => rfl) (fun _ => rfl) (fun h ht => h ▸ hT _ _ _ ht)

end hooks

/-! ## the start tag -/

/-- the event name the async engine hands to the entry actions run by `start()` -/
def initTag : String := "___xstate_statemachine_init___"

/-- how a record of the async engine relates to the sync engine's record at the same position: equal, or
    the same action run by `start()`, tagged with the init event by the async engine and with the synthetic
    `entry.<state id>` event by the sync engine -/
def StartTag (m : Machine) (ra rs : String) : Prop :=
  ra = rs ∨ ∃ (n : String) (p : Path), ra = s!"{n}@{initTag}" ∧ rs = s!"{n}@{"entry." ++ m.idOf p}"

theorem StartTag.refl (m : Machine) (r : String) : StartTag m r r := Or.inl rfl

/-- user code does not tell the two synthetic start events apart: every action and every guard answers
    the same under the async engine's init event and under the sync engine's `entry.<state id>` -/
def StartBlind (m : Machine) (u : UEnv) : Prop :=
  ∀ (p : Path) (n : String) (c : Ctx),
    u.a n c initTag = u.a n c ("entry." ++ m.idOf p) ∧ u.g n c initTag = u.g n c ("entry." ++ m.idOf p)

theorem hsim_start (u : UEnv) (hu : NoCoroutine u) (m : Machine) (hb : StartBlind m u) (p : Path) :
    HSim (StartTag m) (TrRel (StartTag m)) (hooksAsyncStart u m) (hooksFlagged u m) initTag
      ("entry." ++ m.idOf p) :=
  hsim_mkHooks u hu m (fun n c => (hb p n c).1) (fun n c => (hb p n c).2) (fun e _ _ h => h.enqueueQ false true e)
    (fun e _ _ h => h.enqueueQ false true e) (fun n => Or.inr ⟨n, p, rfl, rfl⟩) (StartTag.refl m) TrRel.cons

theorem startT_cons (m : Machine) (r : String) (l1 l2 : List String) (h : TrRel (StartTag m) l1 l2) :
    TrRel (StartTag m) (r :: l1) (r :: l2) := .cons (StartTag.refl m r) h

/-! ## one dequeued event -/

theorem isSome_false_iff {α : Type} (o : Option α) : ¬ (o.isSome = true) ↔ o = none :=
  Option.not_isSome_iff_eq_none

section drain
variable {T : List String → List String → Prop} {m : Machine} {u : UEnv}

theorem processed_sim (hT : ∀ r l1 l2, T l1 l2 → T (r :: l1) (r :: l2)) (hu : NoCoroutine u) (e : Ev) {a b : St} (hs : Sim T a b) :
    Sim T (asyncProcessed m u e a) (syncProcessed m u e b) := by
  unfold asyncProcessed syncProcessed
  apply transientLoop_sim _ _ m u (hsim_async hT u hu m "")
  exact processEvent_sim _ _ m u e (hsim_async hT u hu m e.type) (hs.emit (hT _ _ _ hs.trace))

theorem Sim.chainEnd {a b : St} (h : Sim T a b) (d : Nat) : Sim T (asyncChainEnd d a) b := by
  unfold asyncChainEnd
  split
  · exact h.setDepth 0
  · exact h

theorem asyncProcess_sim (hT : ∀ r l1 l2, T l1 l2 → T (r :: l1) (r :: l2)) (hu : NoCoroutine u) (e : Ev) {a b : St} (hs : Sim T a b)
    (he : (syncProcessed m u e b).err = none) : Sim T (asyncProcess m u e a) (syncProcessed m u e b) := by
  have k := processed_sim (m := m) hT hu e hs
  rw [asyncProcess_succeeded m u e a (k.err.trans he)]
  exact k.chainEnd _

theorem not_trips_of_not_cut (n c : Nat) {s : St} {q : QEv} {rest : List QEv} (hq : s.queue = q :: rest)
    (hr : s.status = "running") (hc : drainCut m u (n + 1) c s = false) : syncTrips m c q = false := by
  cases ht : syncTrips m c q with
  | false => rfl
  | true => rw [Term.drainCut_trip m u n c s q rest hq hr ht] at hc; exact absurd hc (by simp)

theorem asyncTrips_step (F : Nat) {s : St} {q : QEv} {rest : List QEv} (hq : s.queue = q :: rest)
    (hr : s.status = "running") :
    asyncTrips m u (F + 1) s =
      (if s.raiseDepth > m.maxIterations then 1 else 0) + asyncTrips m u F (asyncStep m u q { s with queue := rest }) := by
  simp [asyncTrips, hr, hq]

theorem asyncTrips_not_running (F : Nat) {s : St} (hr : s.status ≠ "running") : asyncTrips m u F s = 0 := by
  cases F with
  | zero => rfl
  | succ F => exact if_pos hr

theorem asyncSelfSends_step (F : Nat) {s : St} {q : QEv} {rest : List QEv} (hq : s.queue = q :: rest)
    (hr : s.status = "running") :
    asyncSelfSends m u (F + 1) s =
      (if s.raiseDepth > m.maxIterations ∧ q.self = true then 0
       else selfSendsOf m u q.ev (asyncBase m { s with queue := rest }))
        + asyncSelfSends m u F (asyncStep m u q { s with queue := rest }) := by
  simp [asyncSelfSends, hr, hq]

theorem Sim.pop {a b : St} (hs : Sim T a b) {qb : QEv} {rest : List QEv} (hqb : b.queue = qb :: rest) :
    ∃ qa resta, a.queue = qa :: resta ∧ qa.ev = qb.ev ∧ Sim T { a with queue := resta } { b with queue := rest } := by
  have h := hs.queue
  rw [hqb] at h
  cases hqa : a.queue with
  | nil => rw [hqa] at h; exact absurd h (List.cons_ne_nil _ _).symm
  | cons qa resta =>
    rw [hqa] at h
    exact ⟨qa, resta, rfl, (List.cons.inj h).1, hs.setQueue (List.cons.inj h).2⟩

theorem evsOf_nil_inv {l : List QEv} (h : evsOf l = []) : l = [] := by
  cases l with
  | nil => rfl
  | cons q rest => exact absurd h (by simp [evsOf])

/-! ## what a caller can see: the queue of an interpreter that is not running is dead -/

/-- the queue of an interpreter that is not running is never read again (`enqueue` refuses, `send`
    returns at once): the sync drain clears it, the async loop just exits and leaves it -/
def dropDead (s : St) : St := if s.status = "running" then s else { s with queue := [] }

/-- command-level relation: `Sim` up to dead queues -/
def Agrees (T : List String → List String → Prop) (a b : St) : Prop := Sim T (dropDead a) (dropDead b)

theorem dropDead_eq (s : St) :
    dropDead s = { s with queue := if s.status = "running" then s.queue else [] } := by
  unfold dropDead; split <;> rfl

theorem agree_iff (a b : St) :
    Agrees T a b ↔
      (a.cfg = b.cfg ∧ a.hist = b.hist ∧ a.status = b.status ∧ a.ctx = b.ctx ∧ a.err = b.err ∧
       a.errors = b.errors ∧ T a.trace b.trace ∧ (a.status = "running" → evsOf a.queue = evsOf b.queue) ∧
       a.expCut = b.expCut) := by
  unfold Agrees
  rw [dropDead_eq, dropDead_eq]
  constructor
  · intro h
    refine ⟨h.cfg, h.hist, h.status, h.ctx, h.err, h.errors, h.trace, fun hr => ?_, h.expCut⟩
    have hq : evsOf (if a.status = "running" then a.queue else []) = evsOf (if b.status = "running" then b.queue else []) :=
      h.queue
    rwa [if_pos hr, if_pos (h.status ▸ hr)] at hq
  · rintro ⟨hcfg, hhist, hstatus, hctx, herr, herrors, htrace, hqueue, hcut⟩
    refine ⟨hcfg, hhist, hstatus, hctx, herr, herrors, htrace, ?_, hcut⟩
    show evsOf (if a.status = "running" then a.queue else []) = evsOf (if b.status = "running" then b.queue else [])
    by_cases hr : a.status = "running"
    · rw [if_pos hr, if_pos (hstatus ▸ hr)]; exact hqueue hr
    · rw [if_neg hr, if_neg (hstatus ▸ hr)]

theorem Sim.agree {a b : St} (h : Sim T a b) : Agrees T a b :=
  (agree_iff a b).2 ⟨h.cfg, h.hist, h.status, h.ctx, h.err, h.errors, h.trace, fun _ => h.queue, h.expCut⟩

theorem Agrees.status {a b : St} (h : Agrees T a b) : a.status = b.status :=
  let ⟨_, _, hstatus, _⟩ := (agree_iff a b).1 h; hstatus

theorem Agrees.sim {a b : St} (h : Agrees T a b) (hr : a.status = "running") : Sim T a b := by
  obtain ⟨hcfg, hhist, hstatus, hctx, herr, herrors, htrace, hqueue, hcut⟩ := (agree_iff a b).1 h
  exact ⟨hcfg, hhist, hstatus, hctx, herr, herrors, htrace, hqueue hr, hcut⟩

theorem Agrees.of_dead {a b : St} (h : Agrees T a b) (hr : a.status ≠ "running") (q1 q2 : List QEv) :
    Agrees T { a with queue := q1 } { b with queue := q2 } := by
  obtain ⟨hcfg, hhist, hstatus, hctx, herr, herrors, htrace, _, hcut⟩ := (agree_iff a b).1 h
  exact (agree_iff _ _).2 ⟨hcfg, hhist, hstatus, hctx, herr, herrors, htrace, fun hr' => absurd hr' hr, hcut⟩

theorem Agrees.clearErr {a b : St} (h : Agrees T a b) : Agrees T { a with err := none } { b with err := none } := by
  obtain ⟨hcfg, hhist, hstatus, hctx, _, herrors, htrace, hqueue, hcut⟩ := (agree_iff a b).1 h
  exact (agree_iff _ _).2 ⟨hcfg, hhist, hstatus, hctx, rfl, herrors, htrace, hqueue, hcut⟩

theorem Agrees.retrace {T' : List String → List String → Prop} {a b : St} (h : Agrees T a b)
    (ht : T' a.trace b.trace) : Agrees T' a b := by
  obtain ⟨hcfg, hhist, hstatus, hctx, herr, herrors, _, hqueue, hcut⟩ := (agree_iff a b).1 h
  exact (agree_iff a b).2 ⟨hcfg, hhist, hstatus, hctx, herr, herrors, ht, hqueue, hcut⟩

theorem agree_eq_iff (a b : St) : Agrees Eq a b ↔ eraseQ (dropDead a) = eraseQ (dropDead b) := sim_eq_iff _ _

/-! ## the two drains, cut-free and error-free -/

theorem drain_agree_stop {a b : St} (hs : Sim T a b) (n F c : Nat) (h : a.status ≠ "running" ∨ b.queue = []) :
    Agrees T (asyncDrain m u F a) (drainLoop m u n c b) := by
  by_cases hra : a.status = "running"
  · have hqb := h.resolve_left (fun hn => hn hra)
    have hqa : a.queue = [] := evsOf_nil_inv (by rw [hs.queue, hqb]; rfl)
    rw [asyncDrain_queue_nil m u F hqa]
    cases n with
    | zero => rw [drainLoop_zero, hqb]; exact hs.agree
    | succ n => rw [drainLoop_nil m u n c b hqb]; exact hs.agree
  · rw [asyncDrain_not_running m u _ hra]
    rcases drainLoop_dead (m := m) (u := u) n c (hs.status ▸ hra) with h | h
    · rw [h]; exact hs.agree
    · rw [h]; exact hs.agree.of_dead hra a.queue []

/-- **the loops agree.** From `Sim`-related states, if the async breaker never trips, the sync drain is not
    cut (`drainCut`: no marked event trips the bound, and the sync MODEL's fuel does not run out) and no
    macrostep of the sync drain fails, the async loop — with any fuel at least the number of events the sync
    drain processes, or any fuel that does not run out (the MODEL's marker "HANG" is not reached) — and the
    sync drain end in `Agrees`-related states.

    Induction on the sync fuel, carrying `Sim`: both sides dequeue the same event (`Sim.pop`); as the breaker does
    not trip now, the async counter is within the bound, so `asyncStep` is `asyncProcess`
    (`asyncStep_below_bound`), which `asyncProcess_sim` relates to the sync macrostep; each event the sync drain
    processes (one unit of `drainSteps`) costs the async loop one unit of its fuel. -/
theorem drain_agree_gen (hT : ∀ r l1 l2, T l1 l2 → T (r :: l1) (r :: l2)) (hu : NoCoroutine u) :
    ∀ (n F c : Nat) (a b : St), (drainSteps m u n c b ≤ F ∨ (asyncDrain m u F a).status ≠ "HANG") → Sim T a b →
      asyncTrips m u F a = 0 → drainCut m u n c b = false →
      (drainLoop m u n c b).err = none → Agrees T (asyncDrain m u F a) (drainLoop m u n c b) := by
  intro n
  induction n with
  | zero =>
    intro F c a b _ hs _ hc _
    refine drain_agree_stop hs 0 F c ?_
    rw [Term.drainCut_zero, Bool.and_eq_false_iff, Bool.not_eq_false', List.isEmpty_iff,
      decide_eq_false_iff_not, hs.status.symm] at hc
    exact hc.symm
  | succ n ih =>
    intro F c a b hF hs ht hc he
    by_cases hra : a.status = "running"
    · have hrb : b.status = "running" := hs.status ▸ hra
      cases hqb : b.queue with
      | nil => exact drain_agree_stop hs _ F c (Or.inr hqb)
      | cons qb rest =>
        have htr : syncTrips m c qb = false := not_trips_of_not_cut n c hqb hrb hc
        obtain ⟨qa, resta, hqa, hev, hs'⟩ := hs.pop hqb
        rw [drainLoop_step m u n c b qb rest hqb hrb htr] at he ⊢
        rw [Term.drainCut_step m u n c b qb rest hqb hrb htr] at hc
        rw [Term.drainSteps_step m u n c b qb rest hqb hrb htr] at hF
        -- no macrostep of the sync drain fails
        have hee : ¬ (syncMacro m u qb.ev { b with queue := rest }).err.isSome = true := by
          intro hee
          rw [if_pos hee] at he
          exact absurd hee (by rw [he]; exact Bool.false_ne_true)
        rw [if_neg hee] at he hc hF ⊢
        cases F with
        | zero =>
          rcases hF with hF | hF
          · exact absurd hF (by rw [Nat.add_comm]; exact Nat.not_succ_le_zero _)
          · exact absurd (congrArg St.status (asyncDrain_hang m u hra hqa)) hF
        | succ F =>
          -- the breaker does not trip now: the async loop processes the event as well
          rw [asyncTrips_step F hqa hra] at ht
          obtain ⟨ht0, ht'⟩ := Nat.add_eq_zero_iff.1 ht
          have hd : a.raiseDepth ≤ m.maxIterations := Nat.le_of_not_lt fun hgt => by
            rw [if_pos hgt] at ht0; exact absurd ht0 (Nat.succ_ne_zero 0)
          rw [asyncDrain_step m u F hra hqa] at hF ⊢
          rw [asyncStep_below_bound m u qa { a with queue := resta } hd, hev] at ht' hF ⊢
          exact ih F _ _ _ (hF.imp_left fun h => Nat.le_of_succ_le_succ (by rwa [Nat.add_comm] at h))
            (asyncProcess_sim hT hu qb.ev hs' ((isSome_false_iff _).1 hee)) ht' hc he
    · exact drain_agree_stop hs _ F c (Or.inl hra)

theorem drain_agree (hT : ∀ r l1 l2, T l1 l2 → T (r :: l1) (r :: l2)) (hu : NoCoroutine u)
    (n F c : Nat) (a b : St) (hF : drainSteps m u n c b ≤ F) (hs : Sim T a b) (ht : asyncTrips m u F a = 0)
    (hc : drainCut m u n c b = false)
    (he : (drainLoop m u n c b).err = none) : Agrees T (asyncDrain m u F a) (drainLoop m u n c b) :=
  drain_agree_gen hT hu n F c a b (Or.inl hF) hs ht hc he

theorem asyncProcess_queue_length (e : Ev) (a : St) :
    (asyncProcess m u e a).queue.length ≤ a.queue.length + selfSendsOf m u e a := by
  obtain ⟨⟨l, hq, hl, hd, _⟩, _⟩ := asyncProcessed_grow m u e a
  rw [(cntSelf_all_true hl).1] at hd
  unfold selfSendsOf
  rw [(asyncProcess_fields m u e a).1, hq, List.length_append]
  omega

theorem Sim.queue_length {a b : St} (h : Sim T a b) : a.queue.length = b.queue.length := by
  have := congrArg List.length h.queue
  rwa [evsOf, evsOf, List.length_map, List.length_map] at this

/-- The arithmetic of one step of `drainCut_of_selfSends`. `bound` is `maxIterations`, `n` and `F` the two fuels
    before the step. The event in hand sends `now` events, the rest of the run `later`, together at most `K`; the
    async counter (`depth` → `depth'`) and the queue behind the event (`len` → `len'`) grow by at most `now`, the
    sync counter (`cnt` → `cnt'`) by at most one. Then the hypotheses of the lemma hold again after the step,
    with `later` for `K`, and the step count adds up. -/
theorem selfSends_step_arith {bound K n F now later depth depth' len len' cnt cnt' : Nat}
    (hK : now + later ≤ K) (hdep : depth' ≤ depth + now) (hlen : len' ≤ len + now) (hcn : cnt' ≤ cnt + 1)
    (hdr : depth + K ≤ bound) (hb : cnt + (len + 1) + K ≤ bound) (hl : len + 1 + K ≤ n + 1)
    (hlF : len + 1 + K ≤ F + 1) :
    depth' + later ≤ bound ∧ cnt' + len' + later ≤ bound ∧ len' + later ≤ n ∧ len' + later ≤ F ∧
      1 + (len' + later) ≤ len + 1 + K := by
  omega

/-- **the sufficient condition, sync side.** `K` bounds the events the machine sends itself during the async
    run of the loop. If the sync counter, the events queued and `K` together stay within `maxIterations` (so
    that no marked event can trip the bound: every queued event may be a marked one) — and the async counter
    plus `K` stays within the bound — the sync drain is not cut, provided both MODEL fuels cover the events
    queued plus `K`; and it processes at most that many events.

    Induction on the sync fuel along the two runs in step, as in `drain_agree_gen`; the hypotheses are the
    invariant, with `K` shrinking by what each processed event sends (`selfSends_step_arith`). -/
theorem drainCut_of_selfSends (hT : ∀ r l1 l2, T l1 l2 → T (r :: l1) (r :: l2)) (hu : NoCoroutine u) :
    ∀ (n F c K : Nat) (a b : St), Sim T a b → asyncSelfSends m u F a ≤ K →
      (a.status = "running" → a.raiseDepth + K ≤ m.maxIterations) →
      c + b.queue.length + K ≤ m.maxIterations → b.queue.length + K ≤ n → b.queue.length + K ≤ F →
      drainCut m u n c b = false ∧ drainSteps m u n c b ≤ b.queue.length + K := by
  intro n
  induction n with
  | zero =>
    intro F c K a b _ _ _ _ hl _
    have : b.queue = [] := List.length_eq_zero_iff.1 (Nat.le_zero.1 (Nat.le_trans (Nat.le_add_right _ _) hl))
    rw [Term.drainCut_zero, Term.drainSteps_zero, this]
    exact ⟨rfl, Nat.zero_le _⟩
  | succ n ih =>
    intro F c K a b hs hK hd hb hl hlF
    cases hqb : b.queue with
    | nil => rw [Term.drainCut_nil m u n c b hqb, Term.drainSteps_nil m u n c b hqb]; exact ⟨rfl, Nat.zero_le _⟩
    | cons qb rest =>
      by_cases hrb : b.status = "running"
      · have hra : a.status = "running" := hs.status.trans hrb
        rw [hqb, List.length_cons] at hb hl hlF
        cases F with
        | zero => exact absurd hlF (by rw [Nat.add_right_comm]; exact Nat.not_succ_le_zero _)
        | succ F =>
          obtain ⟨qa, resta, hqa, hev, hs'⟩ := hs.pop hqb
          have hdr := hd hra
          have hdle : a.raiseDepth ≤ m.maxIterations := Nat.le_trans (Nat.le_add_right _ _) hdr
          have hbase : asyncBase m { a with queue := resta } = { a with queue := resta } :=
            if_neg (Nat.not_lt.2 hdle)
          rw [asyncSelfSends_step F hqa hra, if_neg (fun hh => Nat.not_lt.2 hdle hh.1), hbase,
            asyncStep_below_bound m u qa { a with queue := resta } hdle, hev] at hK
          have hdep : (asyncProcess m u qb.ev { a with queue := resta }).raiseDepth ≤ a.raiseDepth + _ :=
            asyncProcess_depth_le m u qb.ev { a with queue := resta }
          have hlen : (asyncProcess m u qb.ev { a with queue := resta }).queue.length ≤ resta.length + _ :=
            asyncProcess_queue_length (m := m) (u := u) qb.ev { a with queue := resta }
          have hcn : chainedNext c qb ≤ c + 1 := by
            unfold chainedNext; split
            · exact Nat.le_refl _
            · exact Nat.le_succ _
          have htr : syncTrips m c qb = false :=
            (Term.syncTrips_eq_false m c _).2 (Or.inr (Nat.le_trans
              (Nat.le_trans (Nat.add_le_add_left (Nat.le_add_left 1 rest.length) c) (Nat.le_add_right _ K)) hb))
          rw [Term.drainCut_step m u n c b qb rest hqb hrb htr, Term.drainSteps_step m u n c b qb rest hqb hrb htr,
            List.length_cons]
          by_cases hee : (syncMacro m u qb.ev { b with queue := rest }).err.isSome = true
          · rw [if_pos hee, if_pos hee]
            exact ⟨rfl, Nat.le_trans (Nat.le_add_left _ _) (Nat.le_add_right _ _)⟩
          · rw [if_neg hee, if_neg hee]
            have k := asyncProcess_sim (m := m) hT hu qb.ev hs' ((isSome_false_iff _).1 hee)
            have hrl : resta.length = rest.length := hs'.queue_length
            rw [k.queue_length, hrl] at hlen
            obtain ⟨x1, x2, x3, x4, x5⟩ := selfSends_step_arith hK hdep hlen hcn hdr hb hl hlF
            obtain ⟨i1, i2⟩ := ih F (chainedNext c qb) _ _ _ k (Nat.le_refl _) (fun _ => x1) x2 x3 x4
            exact ⟨i1, Nat.le_trans (Nat.add_le_add_left i2 1) x5⟩
      · rw [Term.drainCut_dead m u n c b hrb, Term.drainSteps_dead m u n c b hrb]; exact ⟨rfl, Nat.zero_le _⟩

-- `asyncFuel m = 10 * maxIterations + 50`
theorem asyncFuel_ge_max (m : Machine) : m.maxIterations ≤ asyncFuel m :=
  Nat.le_trans (Nat.le_mul_of_pos_left _ (by decide)) (Nat.le_add_right _ 50)

theorem drainFuel_ge_max (m : Machine) (s : St) : m.maxIterations ≤ drainFuel m s :=
  Nat.le_trans (Nat.le_add_right _ 2)
    (Nat.le_trans (Nat.le_of_eq (Nat.one_mul _).symm) (Nat.mul_le_mul_right _ (Nat.le_add_left 1 _)))

/-- … for the drains the engines run: counter 0, the models' own fuels -/
theorem drainCut_of_short (hT : ∀ r l1 l2, T l1 l2 → T (r :: l1) (r :: l2)) (hu : NoCoroutine u) {a b : St}
    (hs : Sim T a b) (hd : a.status = "running" → a.raiseDepth = 0)
    (hshort : a.queue.length + asyncSelfSends m u (asyncFuel m) a ≤ m.maxIterations) :
    asyncTrips m u (asyncFuel m) a = 0 ∧ drainCut m u (drainFuel m b) 0 b = false ∧
    drainSteps m u (drainFuel m b) 0 b ≤ m.maxIterations := by
  have hK : asyncSelfSends m u (asyncFuel m) a ≤ m.maxIterations := Nat.le_trans (Nat.le_add_left _ _) hshort
  constructor
  · by_cases hr : a.status = "running"
    · exact short_chain_not_cut m u _ _ (by rw [hd hr, Nat.zero_add]; exact hK)
    · exact asyncTrips_not_running _ hr
  · rw [hs.queue_length] at hshort
    obtain ⟨i1, i2⟩ := drainCut_of_selfSends (m := m) (u := u) hT hu (drainFuel m b) (asyncFuel m) 0 _ _ _ hs
      (Nat.le_refl _) (fun hr => by rw [hd hr, Nat.zero_add]; exact hK) (by rw [Nat.zero_add]; exact hshort)
      (Nat.le_trans hshort (drainFuel_ge_max m b)) (Nat.le_trans hshort (asyncFuel_ge_max m))
    exact ⟨i1, Nat.le_trans i2 hshort⟩

end drain

/-! ## `send` -/

/-- the state `send` hands to the loop / the drain: the event appended, as an external one -/
def pushExt (e : Ev) (s : St) : St := { s with queue := s.queue ++ [⟨e, false⟩] }

/-- how often the async chain breaker fires while `send e` is digested from `a` -/
def sendTrips (m : Machine) (u : UEnv) (e : Ev) (a : St) : Nat :=
  if a.status = "running" then asyncTrips m u (asyncFuel m) (pushExt e a) else 0

/-- is the sync drain started by `send e` from `b` cut — does a MARKED event trip the bound (`chained >
    maxIterations`: the marked entries are purged)? (`drainCut` with the model's fuel `drainFuel`, which never
    runs out: `Term.drainCut_iff_trips`, `Term.drain_no_hang`) -/
def sendCut (m : Machine) (u : UEnv) (e : Ev) (b : St) : Bool :=
  if b.status = "running" then drainCut m u (drainFuel m (pushExt e b)) 0 (pushExt e b) else false

section send
variable {T : List String → List String → Prop} {m : Machine} {u : UEnv}

theorem Sim.pushExt {a b : St} (h : Sim T a b) (e : Ev) : Sim T (pushExt e a) (pushExt e b) :=
  h.setQueue (by rw [evsOf_append, evsOf_append, h.queue])

theorem syncSend_running (e : Ev) {b : St} (h : b.status = "running") :
    syncSend m u e b = drainLoop m u (drainFuel m (pushExt e b)) 0 (pushExt e b) := by
  unfold syncSend sndUnflagged drainFlagged pushExt
  rw [if_pos h]

/-- **one `send`, two states.** From `Agrees`-related states, if the breaker does not trip, the sync drain is
    not cut and the sync `send` raises nothing, the two engines end in `Agrees`-related states — provided the
    MODEL's async fuel covers the events the sync drain processes or does not run out (the code has no such
    bound). -/
theorem send_sim_gen (hT : ∀ r l1 l2, T l1 l2 → T (r :: l1) (r :: l2)) (hu : NoCoroutine u) (e : Ev) {a b : St} (hs : Agrees T a b)
    (hF : a.status = "running" →
      (drainSteps m u (drainFuel m (pushExt e b)) 0 (pushExt e b) ≤ asyncFuel m ∨ (asyncSend m u e a).status ≠ "HANG"))
    (ht : sendTrips m u e a = 0) (hc : sendCut m u e b = false) (he : (syncSend m u e b).err = none) :
    Agrees T (asyncSend m u e a) (syncSend m u e b) := by
  by_cases hra : a.status = "running"
  · have hrb : b.status = "running" := hs.status ▸ hra
    unfold sendTrips at ht; rw [if_pos hra] at ht
    unfold sendCut at hc; rw [if_pos hrb] at hc
    rw [syncSend_running e hrb] at he ⊢
    replace hF := hF hra
    rw [asyncSend_eq m u e a hra] at hF ⊢
    exact drain_agree_gen hT hu _ _ _ _ _ hF ((hs.sim hra).pushExt e) ht hc he
  · have hrb : b.status ≠ "running" := hs.status ▸ hra
    rw [asyncSend_not_running m u e hra, syncSend_not_running m u e hrb]
    exact hs

/-- a `send` to a sync interpreter with nothing queued processes at most `2 * maxIterations + 1` events, which
    the model's async fuel covers -/
theorem drainSteps_pushExt_idle (e : Ev) {b : St} (hq : b.queue = []) (F : Nat) :
    drainSteps m u F 0 (pushExt e b) ≤ asyncFuel m := by
  have h := Term.drainSteps_le m u F (pushExt e b)
  have hc : cntExt (pushExt e b).queue = 1 := by
    unfold pushExt; simp [hq, cntExt]
  rw [hc] at h
  unfold asyncFuel
  omega

/-- … for a sync interpreter with nothing queued (what every command of a run finds) -/
theorem send_sim_idle (hT : ∀ r l1 l2, T l1 l2 → T (r :: l1) (r :: l2)) (hu : NoCoroutine u) (e : Ev) {a b : St} (hs : Agrees T a b)
    (hq : b.status = "running" → b.queue = [])
    (ht : sendTrips m u e a = 0) (hc : sendCut m u e b = false) (he : (syncSend m u e b).err = none) :
    Agrees T (asyncSend m u e a) (syncSend m u e b) :=
  send_sim_gen hT hu e hs (fun hra => Or.inl (drainSteps_pushExt_idle e (hq (hs.status ▸ hra)) _)) ht hc he

/-- the sufficient condition for one `send` to an idle interpreter: fewer than `maxIterations` events sent
    to itself while the event is digested -/
theorem send_cutFree_of_short (hT : ∀ r l1 l2, T l1 l2 → T (r :: l1) (r :: l2)) (hu : NoCoroutine u) (e : Ev) {a b : St} (hs : Agrees T a b)
    (hq : a.status = "running" → Quiet a)
    (hshort : a.status = "running" → asyncSelfSends m u (asyncFuel m) (pushExt e a) < m.maxIterations) :
    sendTrips m u e a = 0 ∧ sendCut m u e b = false := by
  unfold sendTrips sendCut
  by_cases hra : a.status = "running"
  · rw [if_pos hra, if_pos (hs.status ▸ hra)]
    obtain ⟨hq0, hd0⟩ := hq hra
    have hlen : (pushExt e a).queue.length = 1 := by show (a.queue ++ [_]).length = 1; rw [hq0]; rfl
    obtain ⟨c1, c2, _⟩ := drainCut_of_short (m := m) hT hu ((hs.sim hra).pushExt e) (fun _ => hd0)
      (by rw [hlen, Nat.add_comm]; exact hshort hra)
    exact ⟨c1, c2⟩
  · rw [if_neg hra, if_neg (hs.status ▸ hra)]
    exact ⟨rfl, rfl⟩

end send

/-! ## `start()` -/

section start
variable {m : Machine} {u : UEnv}

theorem syncStart_of_ok {s : St} (he : (syncStart m u s).err = none) :
    ¬ (syncStartEntered m u s).err.isSome = true ∧ ¬ (syncStartSettled m u s).err.isSome = true ∧
    syncStart m u s = drainLoop m u (drainFuel m (syncStartSettled m u s)) 0 (syncStartSettled m u s) := by
  rw [syncStart_phases] at he ⊢
  by_cases h1 : (syncStartEntered m u s).err.isSome = true
  · rw [if_pos h1] at he; rw [he] at h1; exact absurd h1 Bool.false_ne_true
  · rw [if_neg h1] at he ⊢
    by_cases h2 : (syncStartSettled m u s).err.isSome = true
    · rw [if_pos h2] at he; rw [he] at h2; exact absurd h2 Bool.false_ne_true
    · rw [if_neg h2]; exact ⟨h1, h2, rfl⟩

theorem startEntered_sim (hu : NoCoroutine u) (hb : StartBlind m u) {a b : St} (hs : Sim (TrRel (StartTag m)) a b) :
    Sim (TrRel (StartTag m)) (asyncStartEntered m u a) (syncStartEntered m u b) := by
  unfold asyncStartEntered syncStartEntered
  simp only
  generalize startEntries m = se
  obtain ⟨es, e⟩ := se
  simp only
  have k : Sim (TrRel (StartTag m))
      (es.foldl (enterOne (hooksAsyncStart u m) .async m (some "___xstate_statemachine_init___"))
        { a with status := "running", ctx := m.ctx0 })
      (es.foldl (enterOne (hooksFlagged u m) .sync m none) { b with status := "running", ctx := m.ctx0 }) := by
    exact foldl_rel₂ (Sim _) _ _ (fun a b en h => enterOne_sim .async .sync m _ _ en (hsim_start u hu m hb en.path) h)
      es _ _ ((hs.setCtx m.ctx0).setStatus "running")
  cases e with
  | none => exact k
  | some err => exact k.fail err

theorem startSettled_sim (hu : NoCoroutine u) (hb : StartBlind m u) {a b : St} (hs : Sim (TrRel (StartTag m)) a b) :
    Sim (TrRel (StartTag m)) (asyncStartSettled m u a) (syncStartSettled m u b) := by
  unfold asyncStartSettled syncStartSettled
  exact transientLoop_sim _ _ m u (hsim_asyncStart (startT_cons m) u hu m "") _ _ _ (startEntered_sim hu hb hs)

theorem start_sim_gen (hu : NoCoroutine u) (hb : StartBlind m u) {a b : St} (hs : Sim (TrRel (StartTag m)) a b)
    (hF : drainSteps m u (drainFuel m (syncStartSettled m u b)) 0 (syncStartSettled m u b) ≤ asyncFuel m ∨
      (asyncStart m u a).status ≠ "HANG")
    (ht : asyncTrips m u (asyncFuel m) (asyncStartSettled m u a) = 0)
    (hc : drainCut m u (drainFuel m (syncStartSettled m u b)) 0 (syncStartSettled m u b) = false)
    (he : (syncStart m u b).err = none) :
    Agrees (TrRel (StartTag m)) (asyncStart m u a) (syncStart m u b) := by
  have k1 := startEntered_sim hu hb hs
  have k2 := startSettled_sim hu hb hs
  obtain ⟨h1, h2, e⟩ := syncStart_of_ok he
  rw [e] at he ⊢
  rw [asyncStart_phases, if_neg (fun h => h1 (k1.errSome.1 h)), if_neg (fun h => h2 (k2.errSome.1 h))] at hF ⊢
  exact drain_agree_gen (startT_cons m) hu _ _ _ _ _ hF k2 ht hc he

/-- stated with "the async model's fuel does not run out" (the code has no such bound) -/
theorem start_sim (hu : NoCoroutine u) (hb : StartBlind m u) {a b : St} (hs : Sim (TrRel (StartTag m)) a b)
    (hh : (asyncStart m u a).status ≠ "HANG")
    (ht : asyncTrips m u (asyncFuel m) (asyncStartSettled m u a) = 0)
    (hc : drainCut m u (drainFuel m (syncStartSettled m u b)) 0 (syncStartSettled m u b) = false)
    (he : (syncStart m u b).err = none) :
    Agrees (TrRel (StartTag m)) (asyncStart m u a) (syncStart m u b) :=
  start_sim_gen hu hb hs (Or.inr hh) ht hc he

/-- the sufficient condition for `start()`: what the initial entry and settling queued (on the sync engine
    every such event is marked: `_is_processing` is set during `start()`) plus what the machine sends itself
    while that is digested fits `maxIterations`; then the sync drain also processes at most `maxIterations`
    events, within the async MODEL's fuel -/
theorem start_cutFree_of_short (hu : NoCoroutine u) (hb : StartBlind m u) {a b : St} (hs : Sim (TrRel (StartTag m)) a b)
    (hd : a.raiseDepth = 0)
    (hshort : (asyncStartSettled m u a).queue.length + asyncSelfSends m u (asyncFuel m) (asyncStartSettled m u a)
      ≤ m.maxIterations) :
    asyncTrips m u (asyncFuel m) (asyncStartSettled m u a) = 0 ∧
    drainCut m u (drainFuel m (syncStartSettled m u b)) 0 (syncStartSettled m u b) = false ∧
    drainSteps m u (drainFuel m (syncStartSettled m u b)) 0 (syncStartSettled m u b) ≤ m.maxIterations := by
  refine drainCut_of_short (startT_cons m) hu (startSettled_sim hu hb hs) (fun hr => ?_) hshort
  obtain ⟨⟨l, _, hl, _, hx⟩, _⟩ := asyncStartSettled_grow m u a
  have := hx hr
  rwa [(cntSelf_all_false hl).1, Nat.add_zero, show _ = 0 from hd] at this

end start

/-! ## whole runs: `start()`, then the events one by one -/

/-- the side condition "neither bound is reached", for the commands `evs` sent one by one (each once the
    previous one is digested) from the async state `a` / the sync state `b` -/
def cutFreeFrom (m : Machine) (u : UEnv) : List Ev → St → St → Bool
  | [], _, _ => true
  | e :: es, a, b =>
    decide (sendTrips m u e { a with err := none } = 0) && !sendCut m u e { b with err := none } &&
      cutFreeFrom m u es (cmd .async m u a e) (cmd .sync m u b e)

/-- no `send` of the sync engine raises -/
def noFailFrom (m : Machine) (u : UEnv) : List Ev → St → Bool
  | [], _ => true
  | e :: es, b => (cmd .sync m u b e).err.isNone && noFailFrom m u es (cmd .sync m u b e)

/-- every `send` reaches an async interpreter whose chain of self-sent events stays below the bound -/
def shortFrom (m : Machine) (u : UEnv) : List Ev → St → Bool
  | [], _ => true
  | e :: es, a =>
    decide (a.status = "running" →
      asyncSelfSends m u (asyncFuel m) (pushExt e { a with err := none }) < m.maxIterations) &&
      shortFrom m u es (cmd .async m u a e)

section run
variable {T : List String → List String → Prop} {m : Machine} {u : UEnv}

theorem start_noHang_of_short (hu : NoCoroutine u) (hb : StartBlind m u) {a b : St} (hs : Sim (TrRel (StartTag m)) a b)
    (hd : a.raiseDepth = 0)
    (hshort : (asyncStartSettled m u a).queue.length + asyncSelfSends m u (asyncFuel m) (asyncStartSettled m u a)
      ≤ m.maxIterations)
    (he : (syncStart m u b).err = none) : (asyncStart m u a).status ≠ "HANG" := by
  obtain ⟨c1, c2, c3⟩ := start_cutFree_of_short hu hb hs hd hshort
  have h0 := start_sim_gen hu hb hs (Or.inl (Nat.le_trans c3 (asyncFuel_ge_max m))) c1 c2 he
  rw [h0.status]
  rcases syncStart_status m u b with h | ⟨_, h⟩ <;> (rw [h]; decide)

theorem syncSend_queue_nil (e : Ev) {s : St} (hq : s.status ≠ "running" → s.queue = [])
    (he : (syncSend m u e s).err = none) : (syncSend m u e s).queue = [] := by
  by_cases hr : s.status = "running"
  · rw [syncSend_running e hr] at he ⊢
    exact Term.drainLoop_queue_nil_of_ok m u _ _ _ he
  · rw [syncSend_not_running m u e hr]; exact hq hr

theorem syncStart_queue_nil (s : St) (he : (syncStart m u s).err = none) : (syncStart m u s).queue = [] := by
  have e := (syncStart_of_ok he).2.2
  rw [e] at he ⊢
  exact Term.drainLoop_queue_nil_of_ok m u _ _ _ he

theorem cutFreeFrom_cons (e : Ev) (es : List Ev) (a b : St) :
    cutFreeFrom m u (e :: es) a b = true ↔
      (sendTrips m u e { a with err := none } = 0 ∧ sendCut m u e { b with err := none } = false) ∧
      cutFreeFrom m u es (cmd .async m u a e) (cmd .sync m u b e) = true := by
  simp only [cutFreeFrom, Bool.and_eq_true, decide_eq_true_eq, Bool.not_eq_true']

theorem noFailFrom_cons (e : Ev) (es : List Ev) (b : St) :
    noFailFrom m u (e :: es) b = true ↔
      (cmd .sync m u b e).err = none ∧ noFailFrom m u es (cmd .sync m u b e) = true := by
  simp only [noFailFrom, Bool.and_eq_true, Option.isNone_iff_eq_none]

theorem shortFrom_cons (e : Ev) (es : List Ev) (a : St) :
    shortFrom m u (e :: es) a = true ↔
      (a.status = "running" →
        asyncSelfSends m u (asyncFuel m) (pushExt e { a with err := none }) < m.maxIterations) ∧
      shortFrom m u es (cmd .async m u a e) = true := by
  simp only [shortFrom, Bool.and_eq_true, decide_eq_true_eq]

theorem run_from (hT : ∀ r l1 l2, T l1 l2 → T (r :: l1) (r :: l2)) (hu : NoCoroutine u) :
    ∀ (evs : List Ev) (a b : St), Agrees T a b → b.err = none → b.queue = [] →
      cutFreeFrom m u evs a b = true → noFailFrom m u evs b = true →
      ∀ k, Agrees T ((evs.take k).foldl (cmd .async m u) a) ((evs.take k).foldl (cmd .sync m u) b) ∧
        ((evs.take k).foldl (cmd .sync m u) b).err = none ∧
        ((evs.take k).foldl (cmd .sync m u) b).queue = [] := by
  intro evs
  induction evs with
  | nil => intro a b hs he hq _ _ k; rw [List.take_nil]; exact ⟨hs, he, hq⟩
  | cons e es ih =>
    intro a b hs he hq hc hf k
    cases k with
    | zero => exact ⟨hs, he, hq⟩
    | succ k =>
      obtain ⟨⟨hc1, hc2⟩, hc3⟩ := (cutFreeFrom_cons e es a b).1 hc
      obtain ⟨hf1, hf2⟩ := (noFailFrom_cons e es b).1 hf
      exact ih _ _ (send_sim_idle hT hu e hs.clearErr (fun _ => hq) hc1 hc2 hf1) hf1
        (syncSend_queue_nil e (s := { b with err := none }) (fun _ => hq) hf1) hc3 hf2 k

theorem cutFreeFrom_of_short (hT : ∀ r l1 l2, T l1 l2 → T (r :: l1) (r :: l2)) (hu : NoCoroutine u) :
    ∀ (evs : List Ev) (a b : St), Agrees T a b → (a.status = "running" → Quiet a) →
      shortFrom m u evs a = true → noFailFrom m u evs b = true → cutFreeFrom m u evs a b = true := by
  intro evs
  induction evs with
  | nil => intro a b _ _ _ _; rfl
  | cons e es ih =>
    intro a b hs hq hsh hf
    obtain ⟨hsh1, hsh2⟩ := (shortFrom_cons e es a).1 hsh
    obtain ⟨hf1, hf2⟩ := (noFailFrom_cons e es b).1 hf
    obtain ⟨c1, c2⟩ := send_cutFree_of_short (m := m) hT hu e hs.clearErr (a := { a with err := none }) hq hsh1
    have hqb : b.status = "running" → b.queue = [] := fun hrb =>
      have hra : a.status = "running" := hs.status ▸ hrb
      evsOf_nil_inv (by rw [← (hs.sim hra).queue, (hq hra).1]; rfl)
    exact (cutFreeFrom_cons e es a b).2 ⟨⟨c1, c2⟩, ih _ _ (send_sim_idle hT hu e hs.clearErr hqb c1 c2 hf1)
      (fun h => asyncSend_quiet m u e { a with err := none } hq h) hsh2 hf2⟩

end run

/-! ## the side conditions of a whole run, as decidable predicates -/

/-- **neither bound is reached** in the run `start()`, then `evs` one by one: while `start()` digests what
    the initial entry and settling queued, and while each `send` is digested, the async chain breaker never
    fires (`asyncTrips … = 0`) and the sync drain is never cut (`drainCut … = false`: no marked event — one
    enqueued while `_is_processing` was set — is dequeued as the `maxIterations + 1`-st of its drain since the
    last cut; the model's fuel `drainFuel` never runs out, `Term.drain_no_hang`).
    Last clause, MODEL only: the fuel constant of the async model's run loop (`asyncFuel`; the code has no
    such bound, C13 §3) does not run out while `start()` digests what the initial entry and settling queued
    (every later command starts from an empty queue: there the fuel always suffices). -/
def CutFree (m : Machine) (u : UEnv) (evs : List Ev) : Prop :=
  asyncTrips m u (asyncFuel m) (asyncStartSettled m u {}) = 0 ∧
  drainCut m u (drainFuel m (syncStartSettled m u {})) 0 (syncStartSettled m u {}) = false ∧
  cutFreeFrom m u evs (asyncStart m u {}) (syncStart m u {}) = true ∧
  (asyncStart m u {}).status ≠ "HANG"

/-- **no macrostep fails**: neither `start()` nor any `send` of the sync engine raises -/
def NoFail (m : Machine) (u : UEnv) (evs : List Ev) : Prop :=
  (syncStart m u {}).err.isNone = true ∧ noFailFrom m u evs (syncStart m u {}) = true

/-- **short chains**: what `start()` queues plus what the machine sends itself while that is digested fits
    `maxIterations`, and while each `send` is digested the machine sends itself fewer than `maxIterations`
    events (counted on the async run: `asyncSelfSends`) -/
def ShortChains (m : Machine) (u : UEnv) (evs : List Ev) : Prop :=
  (asyncStartSettled m u {}).queue.length + asyncSelfSends m u (asyncFuel m) (asyncStartSettled m u {})
    ≤ m.maxIterations ∧
  shortFrom m u evs (asyncStart m u {}) = true

instance (m : Machine) (u : UEnv) (evs : List Ev) : Decidable (CutFree m u evs) := by
  unfold CutFree; exact inferInstance
instance (m : Machine) (u : UEnv) (evs : List Ev) : Decidable (NoFail m u evs) := by
  unfold NoFail; exact inferInstance
instance (m : Machine) (u : UEnv) (evs : List Ev) : Decidable (ShortChains m u evs) := by
  unfold ShortChains; exact inferInstance

section whole
variable {T : List String → List String → Prop} {m : Machine} {u : UEnv}

/-- the traces of two runs that continue from `oa` / `ob` with the SAME new records (newest first) -/
def SplitAt (oa ob : List String) (ta tb : List String) : Prop := ∃ new, ta = new ++ oa ∧ tb = new ++ ob

theorem splitAt_cons (oa ob : List String) (r : String) (l1 l2 : List String) (h : SplitAt oa ob l1 l2) :
    SplitAt oa ob (r :: l1) (r :: l2) := by
  obtain ⟨new, h1, h2⟩ := h
  exact ⟨r :: new, by rw [h1]; rfl, by rw [h2]; rfl⟩

theorem trRel_refl_startTag (m : Machine) (l : List String) : TrRel (StartTag m) l l :=
  TrRel.refl (StartTag.refl m) l

theorem start_agree_core (hu : NoCoroutine u) (hb : StartBlind m u) (evs : List Ev)
    (hc : CutFree m u evs) (hf : NoFail m u evs) :
    Agrees (TrRel (StartTag m)) (asyncStart m u {}) (syncStart m u {}) :=
  let ⟨hatrips, hscut, _, hnohang⟩ := hc
  start_sim hu hb (Sim.refl (trRel_refl_startTag m) {}) hnohang hatrips hscut (Option.isNone_iff_eq_none.1 hf.1)

/-- **whole runs.** The records logged by the sends are the same on both sides; those of `start()` stay
    below them. -/
theorem run_agree_core (hu : NoCoroutine u) (hb : StartBlind m u) (evs : List Ev)
    (hc : CutFree m u evs) (hf : NoFail m u evs) (k : Nat) :
    Agrees (SplitAt (asyncStart m u {}).trace (syncStart m u {}).trace)
      ((evs.take k).foldl (cmd .async m u) (asyncStart m u {}))
      ((evs.take k).foldl (cmd .sync m u) (syncStart m u {})) ∧
    ((evs.take k).foldl (cmd .sync m u) (syncStart m u {})).err = none ∧
    ((evs.take k).foldl (cmd .sync m u) (syncStart m u {})).queue = [] := by
  have h0 := (start_agree_core hu hb evs hc hf).retrace
    (T' := SplitAt (asyncStart m u {}).trace (syncStart m u {}).trace) ⟨[], rfl, rfl⟩
  obtain ⟨_, _, hsends, _⟩ := hc
  exact run_from (splitAt_cons _ _) hu evs _ _ h0 (Option.isNone_iff_eq_none.1 hf.1)
    (syncStart_queue_nil {} (Option.isNone_iff_eq_none.1 hf.1)) hsends hf.2 k

theorem cutFree_of_shortChains (hu : NoCoroutine u) (hb : StartBlind m u) (evs : List Ev)
    (hs : ShortChains m u evs) (hf : NoFail m u evs) : CutFree m u evs := by
  obtain ⟨s1, s2⟩ := hs
  obtain ⟨f1, f2⟩ := hf
  have f1' : (syncStart m u {}).err = none := Option.isNone_iff_eq_none.1 f1
  obtain ⟨c1, c2, _⟩ := start_cutFree_of_short hu hb (Sim.refl (trRel_refl_startTag m) {}) rfl s1
  have hnh : (asyncStart m u {}).status ≠ "HANG" :=
    start_noHang_of_short hu hb (Sim.refl (trRel_refl_startTag m) {}) rfl s1 f1'
  have h0 : Agrees (TrRel (StartTag m)) (asyncStart m u {}) (syncStart m u {}) :=
    start_sim hu hb (Sim.refl (trRel_refl_startTag m) {}) hnh c1 c2 f1'
  exact ⟨c1, c2, cutFreeFrom_of_short (startT_cons m) hu evs _ _ h0
    (fun hr => asyncStart_quiet m u {} rfl hr) s2 f2, hnh⟩

end whole

end XSM.Bisim

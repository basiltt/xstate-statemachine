import Xsm.Model.Lifecycle
import Xsm.Proofs.Faults
import Xsm.Proofs.Done
import Xsm.Proofs.Trace
/-
For C14 (lifecycle) and C04: the statuses each call refuses, read off `Generated.Tables`; the status along a call
(every layer of the engine leaves it or takes it from "running" to "done": `StatusStep`), up to the two drains and
`start()` in its phases (`Bisim.syncStartEntered`, `Bisim.syncStartSettled`, which `Agree.lean` and `Pure.lean` argue along); the
automaton of C14 (`Edge`, `Reach`).
-/
namespace XSM
open XSM.Done

/-- `SyncInterpreter.send/send_events`: `if self.status != "running": return` -/
theorem syncSendGate_spec (st : String) : refuses Tables.syncSendGate st = true ↔ st ≠ "running" := by
  simp [refuses, gateClause, Tables.syncSendGate]

/-- `Interpreter.send/send_events`: `if self.status in ("stopped", "done", "error"): return` -/
theorem asyncSendGate_spec (st : String) :
    refuses Tables.asyncSendGate st = true ↔ (st = "stopped" ∨ st = "done" ∨ st = "error") := by
  simp [refuses, gateClause, Tables.asyncSendGate]

/-- both `stop()`s: `if self.status in ("uninitialized", "stopped"): return` -/
theorem stopGate_spec (fl : Flavor) (st : String) :
    refuses (stopGate fl) st = true ↔ (st = "uninitialized" ∨ st = "stopped") := by
  cases fl <;> simp [stopGate, refuses, gateClause, Tables.syncStopGate, Tables.asyncStopGate]

/-- `_fail`: `if self.status not in ("running", "uninitialized"): return` -/
theorem failGate_spec (st : String) :
    refuses Tables.failGate st = true ↔ ¬ (st = "running" ∨ st = "uninitialized") := by
  simp [refuses, gateClause, Tables.failGate]

theorem opStart_async_uninit (m : Machine) (u : UEnv) (l : LSt) (h : l.st.status = "uninitialized") :
    opStart .async m u l = { st := asyncStart m u l.st, loop := asyncLoopCreated m u l.st } := by
  have : asyncResumes l = false := by simp [asyncResumes, h]
  simp [opStart, startRaises, this, h]

theorem syncMacro_eq (m : Machine) (u : UEnv) (e : Ev) (s : St) : syncMacro m u e s = syncProcessed m u e s := rfl

theorem syncMacro_eq_drainMacro (m : Machine) (u : UEnv) (e : Ev) (s : St) : syncMacro m u e s = drainMacro m u e s := rfl

theorem StatusStep.refl (a : String) : StatusStep a a := Or.inl rfl
theorem syncMacro_status (m : Machine) (u : UEnv) (e : Ev) (s : St) :
    StatusStep s.status (syncMacro m u e s).status := syncProcessed_status m u e s

theorem drainLoop_status (m : Machine) (u : UEnv) (fuel c : Nat) (s : St) :
    StatusStep s.status (drainLoop m u fuel c s).status := by
  apply drainLoop_ind m u (fun s' => StatusStep s.status s'.status)
  · intro s' q h; exact h
  · intro s' e h; exact StatusStep.trans h (syncProcessed_status m u e s')
  · exact Or.inl rfl

/-- `HANG` is the model's own marker: the fuel of the MODEL is exhausted -/
theorem asyncDrain_status (m : Machine) (u : UEnv) : ∀ (fuel : Nat) (s : St),
    StatusStep s.status (asyncDrain m u fuel s).status ∨ (asyncDrain m u fuel s).status = "HANG" := by
  intro fuel
  induction fuel with
  | zero =>
    intro s
    simp only [asyncDrain]
    split
    · exact Or.inl (Or.inl rfl)
    · exact Or.inr rfl
  | succ n ih =>
    intro s
    by_cases hrun : s.status = "running"
    · cases hq : s.queue with
      | nil => rw [asyncDrain_queue_nil m u _ hq]; exact Or.inl (Or.inl rfl)
      | cons q rest =>
        rw [asyncDrain_step m u n hrun hq]
        have h1 : StatusStep s.status (asyncStep m u q { s with queue := rest }).status :=
          asyncStep_status m u q { s with queue := rest }
        rcases ih (asyncStep m u q { s with queue := rest }) with h2 | h2
        · exact Or.inl (StatusStep.trans h1 h2)
        · exact Or.inr h2
    · rw [asyncDrain_not_running m u (n + 1) hrun]; exact Or.inl (Or.inl rfl)

theorem hooksAsyncStart_status (u : UEnv) (m : Machine) : HooksRel statusRel (hooksAsyncStart u m) :=
  (hooksRel_of_enqueue statusRel statusRel_eng.trans enqueueQ_statusRel (fun _ _ => Or.inl rfl) u m).2.1

namespace Bisim

/-- `SyncInterpreter.start()`, first phase: `_enter_states([machine])` (every state gets its own synthetic
    entry event) -/
def syncStartEntered (m : Machine) (u : UEnv) (s : St) : St :=
  let s := { s with status := "running", ctx := m.ctx0 }
  let (es, e) := startEntries m
  let s := es.foldl (enterOne (hooksFlagged u m) .sync m none) s
  match e with | some err => s.fail err | none => s

/-- … second phase: the eventless settling (the queue is drained afterwards) -/
def syncStartSettled (m : Machine) (u : UEnv) (s : St) : St :=
  transientLoop (hooksFlagged u m) .sync m u m.maxIterations (syncStartEntered m u s)

theorem syncStart_phases (m : Machine) (u : UEnv) (s : St) :
    syncStart m u s =
      if (syncStartEntered m u s).err.isSome then syncStartEntered m u s
      else if (syncStartSettled m u s).err.isSome then syncStartSettled m u s
      else drainLoop m u (drainFuel m (syncStartSettled m u s)) 0 (syncStartSettled m u s) := rfl

end Bisim

theorem syncEntered_status (m : Machine) (u : UEnv) (s : St) : StatusStep "running" (Bisim.syncStartEntered m u s).status :=
  startEntered_rel statusRel_eng _ (hooksFlagged_status u m) .sync m none { s with status := "running", ctx := m.ctx0 }

theorem asyncEntered_status (m : Machine) (u : UEnv) (s : St) : StatusStep "running" (asyncStartEntered m u s).status :=
  startEntered_rel statusRel_eng _ (hooksAsyncStart_status u m) .async m _ { s with status := "running", ctx := m.ctx0 }

theorem syncStart_status (m : Machine) (u : UEnv) (s : St) : StatusStep "running" (syncStart m u s).status := by
  rw [Bisim.syncStart_phases]
  have h1 := syncEntered_status m u s
  have h2 : StatusStep "running" (Bisim.syncStartSettled m u s).status :=
    StatusStep.trans h1 (transientLoop_rel statusRel_eng (hooksFlagged u m) (hooksFlagged_status u m) .sync m u _ _)
  split
  · exact h1
  · split
    · exact h2
    · exact StatusStep.trans h2 (drainLoop_status m u _ _ _)

/-- async `start()`: running, done, "stopped" (the start failed and raised), or the model's `HANG` -/
theorem asyncStart_status (m : Machine) (u : UEnv) (s : St) :
    StatusStep "running" (asyncStart m u s).status ∨ (asyncStart m u s).status = "stopped" ∨
      (asyncStart m u s).status = "HANG" := by
  rw [asyncStart_phases]
  have h2 : StatusStep "running" (asyncStartSettled m u s).status :=
    StatusStep.trans (asyncEntered_status m u s)
      (transientLoop_rel statusRel_eng (hooksAsyncStart u m) (hooksAsyncStart_status u m) .async m u _ _)
  split
  · exact Or.inr (Or.inl rfl)
  · split
    · exact Or.inr (Or.inl rfl)
    · rcases asyncDrain_status m u (asyncFuel m) _ with h | h
      · exact Or.inl (StatusStep.trans h2 h)
      · exact Or.inr (Or.inr h)

/-- one edge of the property's automaton: uninitialized → running → (done | error) → stopped, running → stopped -/
def Edge (a b : String) : Prop :=
  (a = "uninitialized" ∧ b = "running") ∨ (a = "running" ∧ (b = "done" ∨ b = "error" ∨ b = "stopped")) ∨
  ((a = "done" ∨ a = "error") ∧ b = "stopped")

/-- `b` is reachable from `a` along edges of the automaton (written out: zero or more edges) -/
def Reach (a b : String) : Prop :=
  b = a ∨ (a = "uninitialized" ∧ (b = "running" ∨ b = "done" ∨ b = "error" ∨ b = "stopped")) ∨
  (a = "running" ∧ (b = "done" ∨ b = "error" ∨ b = "stopped")) ∨ ((a = "done" ∨ a = "error") ∧ b = "stopped")

theorem Reach.refl (a : String) : Reach a a := Or.inl rfl
theorem Reach.of_uninit {a b : String} (ha : a = "uninitialized")
    (hb : b = "running" ∨ b = "done" ∨ b = "error" ∨ b = "stopped") : Reach a b := Or.inr (Or.inl ⟨ha, hb⟩)
theorem Reach.of_running {a b : String} (ha : a = "running") (hb : b = "done" ∨ b = "error" ∨ b = "stopped") :
    Reach a b := Or.inr (Or.inr (Or.inl ⟨ha, hb⟩))
theorem Reach.of_finished {a : String} (ha : a = "done" ∨ a = "error") : Reach a "stopped" :=
  Or.inr (Or.inr (Or.inr ⟨ha, rfl⟩))

theorem Reach.of_edge {a b : String} (h : Edge a b) : Reach a b := by
  rcases h with ⟨h1, h2⟩ | ⟨h1, h2⟩ | ⟨h1, rfl⟩
  · exact .of_uninit h1 (Or.inl h2)
  · exact .of_running h1 h2
  · exact .of_finished h1
/-- With `of_edge`: every path of edges is in `Reach`. (Conversely each pair `Reach` lists is a path of at most three edges, which
    is read off the two definitions and proved nowhere.) In each case the middle status `b` pins down where `a` can have been. -/
theorem Reach.trans {a b c : String} (h1 : Reach a b) (h2 : Reach b c) : Reach a c := by
  rcases h2 with rfl | ⟨rfl, hc⟩ | ⟨rfl, hc⟩ | ⟨hb, rfl⟩
  · exact h1
  · rcases h1 with rfl | ⟨_, h⟩ | ⟨_, h⟩ | ⟨_, h⟩
    · exact .of_uninit rfl hc
    all_goals exact absurd h (by decide)
  · rcases h1 with rfl | ⟨ha, _⟩ | ⟨_, h⟩ | ⟨_, h⟩
    · exact .of_running rfl hc
    · exact .of_uninit ha (Or.inr hc)
    all_goals exact absurd h (by decide)
  · rcases h1 with rfl | ⟨ha, _⟩ | ⟨ha, _⟩ | ⟨_, rfl⟩
    · exact .of_finished hb
    · exact .of_uninit ha (by decide)
    · exact .of_running ha (by decide)
    · exact absurd hb (by decide)

/-- the five statuses of the library -/
def Known5 (st : String) : Prop :=
  st = "uninitialized" ∨ st = "running" ∨ st = "done" ∨ st = "error" ∨ st = "stopped"

theorem Reach.known {a b : String} (h : Reach a b) (ha : Known5 a) : Known5 b := by
  unfold Known5
  rcases h with h | ⟨_, h⟩ | ⟨_, h⟩ | ⟨_, h⟩
  · rw [h]; exact ha
  · rcases h with h | h | h | h <;> simp [h]
  · rcases h with h | h | h <;> simp [h]
  · simp [h]

theorem Reach.of_statusStep {a b : String} (h : StatusStep a b) : Reach a b := by
  rcases h with h | ⟨h1, h2⟩
  · exact Or.inl h
  · exact .of_running h1 (Or.inl h2)

end XSM

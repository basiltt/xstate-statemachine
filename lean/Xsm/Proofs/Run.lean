import Xsm.Model.Lifecycle
import Xsm.Proofs.RootTarget
/-
From one selected transition to whole runs of either engine: the configuration stays `Legal` along
`processEvent`, the eventless settling, both drains, `start` and every later command.
-/
namespace XSM
open Spec

/-- the transition of a candidate is target-less / internal, or has a resolvable plain target
    (a state that is neither a history pseudo-state nor the root) -/
def CandPlain (m : Machine) (c : Cand) : Prop :=
  c.t.target = none ∨ c.t.target = some "" ∨
    (∃ tstr tgt nt, c.t.target = some tstr ∧ tstr ≠ "" ∧ resolveRobust m c.src tstr = some tgt ∧
      m.root.at tgt = some nt ∧ nt.kind ≠ .history ∧ tgt ≠ [])

def CandOK (m : Machine) (c : Cand) : Prop :=
  CandPlain m c ∨
    (∃ tstr, c.t.target = some tstr ∧ tstr ≠ "" ∧ resolveRobust m c.src tstr = some [] ∧
      m.root.kind ≠ .history)

/-- what selection must guarantee (discharged in `SelSound.lean` from hypotheses on the machine alone):
    sources are ancestors-or-self of active states, transitions are well-targeted -/
def SelSound (m : Machine) : Prop :=
  ∀ cfg env ev sel, Legal m.root cfg → selectTransitions m cfg env ev = .ok sel →
    ∀ c ∈ sel, CandOK m c ∧ ∃ q ∈ cfg, c.src <+: q

def SelSoundPlain (m : Machine) : Prop :=
  ∀ cfg env ev sel, Legal m.root cfg → selectTransitions m cfg env ev = .ok sel →
    ∀ c ∈ sel, CandPlain m c ∧ ∃ q ∈ cfg, c.src <+: q

theorem SelSoundPlain.toSelSound {m : Machine} (h : SelSoundPlain m) : SelSound m :=
  fun cfg env ev sel hl hs c hc => ⟨Or.inl (h cfg env ev sel hl hs c hc).1, (h cfg env ev sel hl hs c hc).2⟩

theorem planTransition_internal (m : Machine) (cfg : List Path) (hist : List (Path × List Path)) (c : Cand)
    (h : c.t.target = none ∨ c.t.target = some "" ∨
      ∃ tstr, c.t.target = some tstr ∧ resolveRobust m c.src tstr = some c.src ∧ c.t.reenter = false) :
    (planTransition m cfg hist c).internal = true := by
  unfold planTransition
  rcases h with h | h | ⟨tstr, h, hres, hre⟩
  · simp only [h]
  · simp only [h, if_true]
  · simp only [h, hres, hre, Bool.not_false, Bool.and_true, decide_true, if_true]
    split <;> rfl

/-- a plain candidate is planned as an internal transition or has a `PlainTarget` -/
theorem candPlain_cases (m : Machine) (cfg : List Path) (hist : List (Path × List Path)) (c : Cand) (hc : CandPlain m c) :
    planTransition m cfg hist c = { actions := c.t.actions, internal := true } ∨ ∃ tgt, PlainTarget m c tgt := by
  rcases hc with hn | he | ⟨tstr, tgt, nt, ht, hne, hres, htgt, hnh, htne⟩
  · left; unfold planTransition; simp only [hn]
  · left; unfold planTransition; simp only [he, if_true]
  · by_cases hself : tgt = c.src ∧ c.t.reenter = false
    · left
      unfold planTransition
      simp only [ht, hne, if_false, hres, hself.1, hself.2, Bool.not_false, Bool.and_true,
        decide_true, if_true]
    · right
      exact ⟨tgt, ⟨⟨tstr, ht, hne, hres⟩, hself, ⟨nt, htgt, hnh⟩, htne⟩⟩

/-- one selected transition keeps the configuration legal — whether its actions succeed, raise or
    are missing (then it is rolled back) -/
theorem legal_microstep (h : Hooks) (hok : HooksOK h) (fl : Flavor) (m : Machine) (ev : Ev)
    (c : Cand) (s : St) (hwf : WF m.root) (hi : InitOK m.root)
    (hl : Legal m.root s.cfg) (hc : CandOK m c) (hsrc : c.src ∈ s.cfg) :
    Legal m.root (execute h fl m ev (planTransition m s.cfg s.hist c) s).cfg := by
  have internal : (planTransition m s.cfg s.hist c).internal = true →
      Legal m.root (execute h fl m ev (planTransition m s.cfg s.hist c) s).cfg := fun hint => by
    rw [execute_internal_cfg h hok fl m ev _ s hint]; exact hl
  rcases hc with hc | ⟨tstr, ht, hne, hres, hk⟩
  · rcases candPlain_cases m s.cfg s.hist c hc with hint | ⟨tgt, hp⟩
    · exact internal (by rw [hint])
    · obtain ⟨tstr, ht, hne, hres⟩ := hp.declared
      obtain ⟨nt, htgt, hnh⟩ := hp.exists_
      exact legal_microstep_plain h hok fl m ev c s hwf hi hl hsrc tstr ht hne tgt hres hp.ext nt htgt hnh hp.nonroot
  · by_cases hself : ([] : Path) = c.src ∧ c.t.reenter = false
    · exact internal (planTransition_internal m _ _ c (Or.inr (Or.inr ⟨tstr, ht, hres.trans (congrArg some hself.1), hself.2⟩)))
    · exact legal_microstep_root h hok fl m ev c s hwf hi hk hl tstr ht hne hres hself

theorem legal_prefix_mem {m : Machine} {cfg : List Path} (hL : Legal m.root cfg) {p q : Path}
    (hq : q ∈ cfg) (hp : p <+: q) : p ∈ cfg := prefix_closed hL.parent_active hp hq

/-- one iteration keeps the configuration legal; a source that may have been exited is only a
    problem when no staleness test is made, i.e. for a single selected transition -/
theorem stepSel_legal (h : Hooks) (hok : HooksOK h) (fl : Flavor) (m : Machine) (ev : Ev) (multi : Bool)
    (hwf : WF m.root) (hi : InitOK m.root) {s : St} {c : Cand} (hl : Legal m.root s.cfg)
    (hc : CandOK m c) (hsrc : multi = false → c.src ∈ s.cfg) :
    Legal m.root (stepSel h fl m ev multi s c).cfg := by
  have hmem : (multi && !(s.cfg.contains c.src)) = false → c.src ∈ s.cfg := by
    cases multi with
    | false => exact fun _ => hsrc rfl
    | true => cases hcon : s.cfg.contains c.src with
      | true => exact fun _ => List.contains_iff_mem.1 hcon
      | false => exact fun h => by cases h
  unfold stepSel
  cases s.err.isSome with
  | true => exact hl
  | false => cases finished s.status with
    | true => exact hl
    | false => cases hst : (multi && !(s.cfg.contains c.src)) with
      | true => exact hl
      | false => exact legal_microstep h hok fl m ev c s hwf hi hl hc (hmem hst)

theorem processEvent_inv (h : Hooks) (hok : HooksOK h) (fl : Flavor) (m : Machine) (u : UEnv) (ev : Ev)
    (hwf : WF m.root) (hi : InitOK m.root) (hsel : SelSound m) (s : St) (hl0 : Legal m.root s.cfg) :
    Legal m.root (processEvent h fl m u ev s).cfg := by
  cases hs : selectTransitions m s.cfg (u.genv s.ctx ev.type) ev with
  | error e =>
    cases e with
    | missing n => simp only [processEvent, hs]; rw [fail_cfg]; exact hl0
  | ok sel =>
    rw [processEvent_peFold h fl m u ev s hs]
    have hall := hsel s.cfg (u.genv s.ctx ev.type) ev sel hl0 hs
    -- with the staleness test every step is safe, whatever earlier steps did to the configuration
    have multi : ∀ (cs : List Cand) (s' : St), Legal m.root s'.cfg → (∀ c ∈ cs, CandOK m c) →
        Legal m.root (cs.foldl (stepSel h fl m ev true) s').cfg := by
      intro cs
      induction cs with
      | nil => intro s' hl _; exact hl
      | cons c cs ih =>
        intro s' hl hcs
        exact ih _ (stepSel_legal h hok fl m ev true hwf hi hl (hcs c List.mem_cons_self) (fun h => by cases h))
          (fun c' hc' => hcs c' (List.mem_cons_of_mem _ hc'))
    match sel, hall with
    | [], _ => exact hl0
    | [c], hall =>
      obtain ⟨hc, q, hq, hp⟩ := hall c List.mem_cons_self
      exact stepSel_legal h hok fl m ev _ hwf hi hl0 hc (fun _ => legal_prefix_mem hl0 hq hp)
    | c :: c' :: cs, hall => exact multi _ s hl0 (fun c hc => (hall c hc).1)

/-- one macrostep of the sync drain, as `drainLoop` spells it: `on_event_received`, `_process_event`, the
    eventless settling (`syncMacro` of `Xsm/Model/Lifecycle.lean` is this expression) -/
def drainMacro (m : Machine) (u : UEnv) (e : Ev) (s : St) : St :=
  transientLoop (hooksFlagged u m) .sync m u m.maxIterations
    (processEvent (hooksFlagged u m) .sync m u e (emit ("#recv:" ++ e.type) s))

theorem drainLoop_zero (m : Machine) (u : UEnv) (c : Nat) (s : St) :
    drainLoop m u 0 c s = if s.queue.isEmpty then s else { s with queue := [] } := by
  simp only [drainLoop]

theorem drainLoop_nil (m : Machine) (u : UEnv) (fuel c : Nat) (s : St) (hq : s.queue = []) :
    drainLoop m u (fuel + 1) c s = s := by
  cases s with
  | mk cfg hist queue status trace err ctx rd errors =>
    simp only at hq
    subst hq
    simp only [drainLoop]

theorem drainLoop_not_running (m : Machine) (u : UEnv) (fuel c : Nat) {s : St} (h : s.status ≠ "running") :
    drainLoop m u (fuel + 1) c s = if s.queue = [] then s else { s with queue := [] } := by
  simp only [drainLoop]
  split
  · rename_i hq; simp [hq]
  · rename_i q rest hq
    simp [h, hq]

theorem drainLoop_trip (m : Machine) (u : UEnv) (fuel c : Nat) (s : St) (q : QEv) (rest : List QEv)
    (hq : s.queue = q :: rest) (hrun : s.status = "running") (ht : syncTrips m c q = true) :
    drainLoop m u (fuel + 1) c s = drainLoop m u fuel 0 (syncPurge s) := by
  cases s with
  | mk cfg hist queue status trace err ctx rd errors =>
    simp only at hq hrun
    subst hq; subst hrun
    simp only [drainLoop, ne_eq, not_true_eq_false, if_false, ht, if_true]

theorem drainLoop_step (m : Machine) (u : UEnv) (fuel c : Nat) (s : St) (q : QEv) (rest : List QEv)
    (hq : s.queue = q :: rest) (hrun : s.status = "running") (ht : syncTrips m c q = false) :
    drainLoop m u (fuel + 1) c s =
      if (syncMacro m u q.ev { s with queue := rest }).err.isSome = true then syncMacro m u q.ev { s with queue := rest }
      else drainLoop m u fuel (chainedNext c q) (syncMacro m u q.ev { s with queue := rest }) := by
  cases s with
  | mk cfg hist queue status trace err ctx rd errors =>
    simp only at hq hrun
    subst hq; subst hrun
    simp only [drainLoop, syncMacro, ne_eq, not_true_eq_false, if_false, ht, Bool.false_eq_true]
    rfl

theorem drainLoop_cases (m : Machine) (u : UEnv) (P : Nat → Nat → St → Prop)
    (h0 : ∀ c s, P 0 c s)
    (hnil : ∀ fuel c s, s.queue = [] → P (fuel + 1) c s)
    (hdead : ∀ fuel c s, s.status ≠ "running" → P (fuel + 1) c s)
    (htrip : ∀ fuel c s q rest, s.queue = q :: rest → s.status = "running" → syncTrips m c q = true →
      P fuel 0 (syncPurge s) → P (fuel + 1) c s)
    (hstep : ∀ fuel c s q rest, s.queue = q :: rest → s.status = "running" → syncTrips m c q = false →
      ((syncMacro m u q.ev { s with queue := rest }).err.isSome = false →
        P fuel (chainedNext c q) (syncMacro m u q.ev { s with queue := rest })) → P (fuel + 1) c s) :
    ∀ fuel c s, P fuel c s := by
  intro fuel
  induction fuel with
  | zero => exact h0
  | succ n ih =>
    intro c s
    cases hq : s.queue with
    | nil => exact hnil n c s hq
    | cons q rest =>
      by_cases hrun : s.status = "running"
      · cases ht : syncTrips m c q with
        | true => exact htrip n c s q rest hq hrun ht (ih _ _)
        | false => exact hstep n c s q rest hq hrun ht (fun _ => ih _ _)
      · exact hdead n c s hrun

theorem drainLoop_ind (m : Machine) (u : UEnv) (P : St → Prop)
    (hqueue : ∀ s q, P s → P { s with queue := q })
    (hmacro : ∀ s e, P s → P (drainMacro m u e s)) :
    ∀ (fuel c : Nat) (s : St), P s → P (drainLoop m u fuel c s) := by
  apply drainLoop_cases m u (fun fuel c s => P s → P (drainLoop m u fuel c s))
  · intro c s hp; rw [drainLoop_zero]; split
    · exact hp
    · exact hqueue s [] hp
  · intro fuel c s hq hp; rw [drainLoop_nil m u fuel c s hq]; exact hp
  · intro fuel c s hr hp; rw [drainLoop_not_running m u fuel c hr]; split
    · exact hp
    · exact hqueue s [] hp
  · intro fuel c s q rest hq hr ht ih hp
    rw [drainLoop_trip m u fuel c s q rest hq hr ht]
    exact ih (hqueue s _ hp)
  · intro fuel c s q rest hq hr ht ih hp
    rw [drainLoop_step m u fuel c s q rest hq hr ht]
    have h2 := hmacro _ q.ev (hqueue s rest hp)
    split
    · exact h2
    · rename_i he
      exact ih (by simpa using he) h2

section inv
variable {m : Machine} (u : UEnv) (hwf : WF m.root) (hi : InitOK m.root) (hsel : SelSound m)
include hwf hi hsel

theorem transientLoop_inv (h : Hooks) (hok : HooksOK h) (fl : Flavor) :
    ∀ (fuel : Nat) (s : St), Legal m.root s.cfg → Legal m.root (transientLoop h fl m u fuel s).cfg := by
  intro fuel
  induction fuel with
  | zero => intro s hl; exact hl
  | succ n ih =>
    intro s hl
    simp only [transientLoop]
    by_cases herr : s.err.isSome = true
    · simp only [herr, if_true]; exact hl
    · simp only [herr, Bool.false_eq_true, if_false]
      cases hs : selectTransitions m s.cfg (u.genv s.ctx "") (.user "") with
      | error e => cases e with | missing n => simp only; rw [fail_cfg]; exact hl
      | ok sel =>
        simp only
        split
        · exact ih _ (processEvent_inv h hok fl m u (.user "") hwf hi hsel s hl)
        · exact hl

theorem macrostep_inv (h : Hooks) (hok : HooksOK h) (fl : Flavor) (e : Ev) {s : St} (hl : Legal m.root s.cfg) :
    Legal m.root (transientLoop h fl m u m.maxIterations
      (processEvent h fl m u e (emit ("#recv:" ++ e.type) s))).cfg :=
  transientLoop_inv u hwf hi hsel h hok fl _ _ (processEvent_inv h hok fl m u e hwf hi hsel _ hl)

theorem asyncProcess_inv (e : Ev) {s : St} (hl : Legal m.root s.cfg) : Legal m.root (asyncProcess m u e s).cfg := by
  have h2 := macrostep_inv u hwf hi hsel (hooksAsync u m) (hooksAsync_ok u m) .async e hl
  unfold asyncProcess
  simp only
  rw [asyncChainEnd_cfg]
  split <;> exact h2

theorem asyncStep_inv (q : QEv) {s : St} (hl : Legal m.root s.cfg) : Legal m.root (asyncStep m u q s).cfg := by
  unfold asyncStep
  split
  · split
    · exact hl
    · exact asyncProcess_inv u hwf hi hsel q.ev (s := asyncPurge s) hl
  · exact asyncProcess_inv u hwf hi hsel q.ev hl

theorem drainLoop_inv : ∀ (fuel c : Nat) (s : St), Legal m.root s.cfg →
    Legal m.root (drainLoop m u fuel c s).cfg :=
  drainLoop_ind m u (fun s => Legal m.root s.cfg) (fun _ _ hl => hl)
    (fun _ e hl => macrostep_inv u hwf hi hsel (hooksFlagged u m) (hooksFlagged_ok u m) .sync e hl)

end inv

theorem startEntries_eq (m : Machine) (hwf : WF m.root) (hi : InitOK m.root) :
    (startEntries m).2 = none ∧ (startEntries m).1.map (·.path) = enterDefault [] m.root := by
  unfold startEntries
  rw [dfltDescend_eq m [] m.root hwf hi]
  refine ⟨rfl, ?_⟩
  simp only [List.map_cons, List.map_map, tag, Function.comp_def, List.map_id']
  exact (enterDefault_cons [] m.root).symm

theorem initialEntry_legal (h : Hooks) (hok : HooksOK h) (fl : Flavor) (m : Machine) (ev : Option String)
    (hwf : WF m.root) (hi : InitOK m.root) (hk : m.root.kind ≠ .history) (s0 : St) (hc0 : s0.cfg = [])
    (hr : ((startEntries m).1.foldl (enterOne h fl m ev) s0).err = none) :
    Legal m.root ((startEntries m).1.foldl (enterOne h fl m ev) s0).cfg := by
  obtain ⟨_, hp⟩ := startEntries_eq m hwf hi
  have hv : ∀ e ∈ (startEntries m).1, (m.defAt e.path).isSome := by
    intro e hem
    have : e.path ∈ enterDefault [] m.root := by rw [← hp]; exact List.mem_map_of_mem hem
    obtain ⟨n, hn⟩ := enterDefault_at m.root [] m.root rfl hwf e.path this
    exact defAt_isSome_of_at hn
  obtain ⟨_, f2⟩ := enterFold_spec h hok fl m ev (startEntries m).1 s0 hv hr
  apply legal_enterDefault_root m.root hwf hk
  intro q
  rw [f2 q, hp, hc0]
  simp

/-- what a caller can observe after `start()`: either the library refused to start the machine
    (an error was raised: `err` is set) or the configuration is legal -/
def StartOK (m : Machine) (s : St) : Prop := s.err ≠ none ∨ Legal m.root s.cfg

theorem asyncDrain_not_running (m : Machine) (u : UEnv) (n : Nat) {s : St} (h : s.status ≠ "running") :
    asyncDrain m u n s = s := by
  cases n with
  | zero => simp [asyncDrain, h]
  | succ n => simp [asyncDrain, h]

theorem asyncDrain_queue_nil (m : Machine) (u : UEnv) (F : Nat) {s : St} (h : s.queue = []) :
    asyncDrain m u F s = s := by
  cases F with
  | zero => simp [asyncDrain, h]
  | succ n => simp [asyncDrain, h]

theorem asyncDrain_step (m : Machine) (u : UEnv) (F : Nat) {s : St} {q : QEv} {rest : List QEv}
    (hr : s.status = "running") (hq : s.queue = q :: rest) :
    asyncDrain m u (F + 1) s = asyncDrain m u F (asyncStep m u q { s with queue := rest }) := by
  rw [asyncDrain, if_neg (not_not_intro hr), hq]

theorem asyncDrain_hang (m : Machine) (u : UEnv) {s : St} {q : QEv} {rest : List QEv} (hr : s.status = "running")
    (hq : s.queue = q :: rest) : asyncDrain m u 0 s = { s with status := "HANG" } := by
  simp [asyncDrain, hr, hq]

/-- the four ways the run loop can go: stopped machine, empty queue, fuel exhausted, one iteration -/
theorem asyncDrain_cases (m : Machine) (u : UEnv) (P : Nat → St → Prop)
    (hdead : ∀ F s, s.status ≠ "running" → P F s)
    (hnil : ∀ F s, s.queue = [] → P F s)
    (hhang : ∀ s q rest, s.status = "running" → s.queue = q :: rest → P 0 s)
    (hstep : ∀ F s q rest, s.status = "running" → s.queue = q :: rest →
      P F (asyncStep m u q { s with queue := rest }) → P (F + 1) s) : ∀ F s, P F s := by
  intro F
  induction F with
  | zero =>
    intro s
    by_cases hr : s.status = "running"
    · cases hq : s.queue with
      | nil => exact hnil 0 s hq
      | cons q rest => exact hhang s q rest hr hq
    · exact hdead 0 s hr
  | succ F ih =>
    intro s
    by_cases hr : s.status = "running"
    · cases hq : s.queue with
      | nil => exact hnil _ s hq
      | cons q rest => exact hstep F s q rest hr hq (ih _)
    · exact hdead _ s hr

theorem asyncDrain_inv {m : Machine} (u : UEnv) (hwf : WF m.root) (hi : InitOK m.root) (hsel : SelSound m) :
    ∀ (fuel : Nat) (s : St), Legal m.root s.cfg → Legal m.root (asyncDrain m u fuel s).cfg := by
  apply asyncDrain_cases m u (fun F s => Legal m.root s.cfg → Legal m.root (asyncDrain m u F s).cfg)
  · intro F s hr hl; rw [asyncDrain_not_running m u F hr]; exact hl
  · intro F s hq hl; rw [asyncDrain_queue_nil m u F hq]; exact hl
  · intro s q rest hr hq hl; rw [asyncDrain_hang m u hr hq]; exact hl
  · intro F s q rest hr hq ih hl; rw [asyncDrain_step m u F hr hq]
    exact ih (asyncStep_inv u hwf hi hsel q (s := { s with queue := rest }) hl)

/-- `asyncStart` in one piece: entry, settling, then the run loop (which does nothing unless the
    interpreter is still running — that is the `if self.status == "running": create_task(...)`) -/
theorem asyncStart_phases (m : Machine) (u : UEnv) (s : St) :
    asyncStart m u s =
      if (asyncStartEntered m u s).err.isSome then { asyncStartEntered m u s with status := "stopped" }
      else if (asyncStartSettled m u s).err.isSome then { asyncStartSettled m u s with status := "stopped" }
      else asyncDrain m u (asyncFuel m) (asyncStartSettled m u s) := by
  unfold asyncStart asyncStartSettle
  generalize asyncStartEntered m u s = e
  generalize asyncStartSettled m u s = t
  have stopped : ∀ x : St, (if ({ x with status := "stopped" } : St).status = "running"
      then asyncDrain m u (asyncFuel m) { x with status := "stopped" } else { x with status := "stopped" }) =
        { x with status := "stopped" } := fun x => if_neg (show ¬ ("stopped" : String) = "running" by decide)
  cases e.err.isSome with
  | true => exact stopped e
  | false =>
    cases t.err.isSome with
    | true => exact stopped t
    | false =>
      show (if t.status = "running" then asyncDrain m u (asyncFuel m) t else t) = asyncDrain m u (asyncFuel m) t
      by_cases h : t.status = "running"
      · rw [if_pos h]
      · rw [if_neg h, asyncDrain_not_running m u _ h]

/-- both `start()`s have this shape: enter, settle, run the queue, giving up (`stop` leaves the error
    flag alone) as soon as an error is pending. What the settled state has (`Q`) and the run loop turns
    into `P` holds of the result unless an error is reported. -/
theorem start_phases_or {P Q : St → Prop} {e : St} {settle stop drain : St → St}
    (hstop : ∀ s, (stop s).err = s.err) (he : e.err = none → Q (settle e))
    (hd : Q (settle e) → P (drain (settle e))) (r : St)
    (hr : r = if e.err.isSome then stop e else if (settle e).err.isSome then stop (settle e)
      else drain (settle e)) : r.err ≠ none ∨ P r := by
  subst hr
  cases h1 : e.err with
  | some x =>
    rw [Option.isSome_some, if_pos rfl]
    exact Or.inl (by rw [hstop, h1]; exact Option.some_ne_none x)
  | none =>
    rw [Option.isSome_none, if_neg Bool.false_ne_true]
    cases h2 : (settle e).err with
    | some x =>
      rw [Option.isSome_some, if_pos rfl]
      exact Or.inl (by rw [hstop, h2]; exact Option.some_ne_none x)
    | none =>
      rw [Option.isSome_none, if_neg Bool.false_ne_true]
      exact Or.inr (hd (he h1))

theorem asyncStart_ok (m : Machine) (u : UEnv) (hwf : WF m.root) (hi : InitOK m.root)
    (hk : m.root.kind ≠ .history) (hsel : SelSound m) : StartOK m (asyncStart m u {}) := by
  refine start_phases_or (P := fun s => Legal m.root s.cfg) (Q := fun s => Legal m.root s.cfg)
    (settle := transientLoop (hooksAsyncStart u m) .async m u m.maxIterations)
    (stop := fun s => { s with status := "stopped" }) (fun _ => rfl) (fun h1 => ?_)
    (asyncDrain_inv u hwf hi hsel _ _) _ (asyncStart_phases m u {})
  refine transientLoop_inv u hwf hi hsel _ (hooksAsyncStart_ok u m) .async _ _ ?_
  simp only [asyncStartEntered, (startEntries_eq m hwf hi).1] at h1 ⊢
  exact initialEntry_legal _ (hooksAsyncStart_ok u m) .async m _ hwf hi hk _ rfl h1

theorem syncStart_ok (m : Machine) (u : UEnv) (hwf : WF m.root) (hi : InitOK m.root)
    (hk : m.root.kind ≠ .history) (hsel : SelSound m) : StartOK m (syncStart m u {}) := by
  refine start_phases_or (P := fun s => Legal m.root s.cfg) (Q := fun s => Legal m.root s.cfg)
    (e := (startEntries m).1.foldl (enterOne (hooksFlagged u m) .sync m none)
      { ({} : St) with status := "running", ctx := m.ctx0 })
    (settle := transientLoop (hooksFlagged u m) .sync m u m.maxIterations) (stop := id)
    (drain := drainFlagged m u) (fun _ => rfl)
    (fun h1 => transientLoop_inv u hwf hi hsel _ (hooksFlagged_ok u m) .sync _ _
      (initialEntry_legal _ (hooksFlagged_ok u m) .sync m _ hwf hi hk _ rfl h1))
    (drainLoop_inv u hwf hi hsel _ _ _) _ ?_
  unfold syncStart
  simp only [(startEntries_eq m hwf hi).1]
  rfl

/-- a later command starts with the error flag cleared (the exception went to the caller / the log) -/
def cmd (fl : Flavor) (m : Machine) (u : UEnv) (s : St) (e : Ev) : St := send fl m u e { s with err := none }

theorem cmd_inv (fl : Flavor) (m : Machine) (u : UEnv) (e : Ev) (hwf : WF m.root) (hi : InitOK m.root)
    (hsel : SelSound m) (s : St) (hl : Legal m.root s.cfg) : Legal m.root (cmd fl m u s e).cfg := by
  cases fl with
  | sync =>
    show Legal m.root (syncSend m u e { s with err := none }).cfg
    unfold syncSend sndUnflagged drainFlagged
    split
    · exact drainLoop_inv u hwf hi hsel _ _ _ hl
    · exact hl
  | async =>
    show Legal m.root (asyncSend m u e { s with err := none }).cfg
    unfold asyncSend
    split
    · exact asyncDrain_inv u hwf hi hsel _ _ hl
    · exact hl

/-- **C01 for whole runs, both engines**: if `start()` did not refuse the machine, then after
    `start()` and after every one of any finite sequence of events (each observed when `send`
    returns / the queue has drained) the configuration is `Legal` — whatever user actions and guards
    do (succeed, raise, be missing). -/
theorem legal_run (fl : Flavor) (m : Machine) (u : UEnv) (hwf : WF m.root) (hi : InitOK m.root)
    (hk : m.root.kind ≠ .history) (hsel : SelSound m) (hstart : (start fl m u {}).err = none)
    (evs : List Ev) : Legal m.root (evs.foldl (cmd fl m u) (start fl m u {})).cfg := by
  have h0 : Legal m.root (start fl m u {}).cfg := by
    have : StartOK m (start fl m u {}) := by
      cases fl with
      | sync => exact syncStart_ok m u hwf hi hk hsel
      | async => exact asyncStart_ok m u hwf hi hk hsel
    rcases this with h | h
    · exact absurd hstart h
    · exact h
  exact foldl_inv (P := fun s => Legal m.root s.cfg) _ (fun s e h => cmd_inv fl m u e hwf hi hsel s h) evs _ h0

end XSM

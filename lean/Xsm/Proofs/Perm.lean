import Xsm.Proofs.Select
import Xsm.Proofs.Bridge
import Xsm.Proofs.Run
/-
Order-independence for C16: the active configuration is a set in the implementation and a `List Path` in the
model; every consumer of `cfg` gives the same result on any permutation of it. Sorting by (depth, id) decides
the order, so the dotted id has to be injective on the configuration (`IdInj`; it is on dot-free keys);
selection, planning and history recording then give EQUAL results; done-ness needs at most one active child
per compound state (`CompUniq`; legal configurations have it); the executing side takes states equal up to the
order of `cfg` (`St.equiv`) to such states, one lemma per engine function.
-/
namespace XSM
open XSM.Spec

section sort
variable {α : Type}

theorem sortBy_leDesc_perm (d : α → Nat) (s : α → String) {xs ys : List α} (hp : xs.Perm ys)
    (hinj : ∀ a ∈ xs, ∀ b ∈ xs, s a = s b → a = b) :
    sortBy (leDesc d s) xs = sortBy (leDesc d s) ys :=
  sortBy_perm_eq _ hp (fun a _ b _ => leDesc_total d s a b)
    (fun a _ b _ c _ => leDesc_trans d s a b c)
    (fun a ha b hb h1 h2 => hinj a ha b hb (leDesc_antisymm d s a b h1 h2).2)

theorem sortBy_leAsc_perm (d : α → Nat) (s : α → String) {xs ys : List α} (hp : xs.Perm ys)
    (hinj : ∀ a ∈ xs, ∀ b ∈ xs, s a = s b → a = b) :
    sortBy (leAsc d s) xs = sortBy (leAsc d s) ys :=
  sortBy_perm_eq _ hp (fun a _ b _ => leAsc_total d s a b)
    (fun a _ b _ c _ => leAsc_trans d s a b c)
    (fun a ha b hb h1 h2 => hinj a ha b hb (leAsc_antisymm d s a b h1 h2).2)
end sort

/-- **`idOf` is injective on dot-free paths** (whatever the machine id is: it is a common prefix) -/
theorem idOf_injective (m : Machine) (p q : Path)
    (hp : ∀ k ∈ p, '.' ∉ k.toList) (hq : ∀ k ∈ q, '.' ∉ k.toList)
    (h : m.idOf p = m.idOf q) : p = q := by
  have h1 := congrArg String.toList h
  rw [idOf_toList, idOf_toList] at h1
  exact idTail_inj hp hq (List.append_cancel_left h1)

/-- key injectivity on a list of paths: the hypothesis of every ordering theorem -/
def IdInj (m : Machine) (c : List Path) : Prop := ∀ a ∈ c, ∀ b ∈ c, m.idOf a = m.idOf b → a = b

def DotFree (c : List Path) : Prop := ∀ p ∈ c, ∀ k ∈ p, '.' ∉ k.toList
instance (c : List Path) : Decidable (DotFree c) :=
  inferInstanceAs (Decidable (∀ p ∈ c, ∀ k ∈ p, '.' ∉ k.toList))

theorem IdInj.sub {m : Machine} {c c' : List Path} (h : IdInj m c) (hs : ∀ q ∈ c', q ∈ c) : IdInj m c' :=
  fun a ha b hb e => h a (hs a ha) b (hs b hb) e

theorem IdInj.perm {m : Machine} {c c' : List Path} (h : IdInj m c) (hp : c.Perm c') : IdInj m c' :=
  h.sub (fun _ hq => hp.symm.subset hq)

theorem leavesSorted_perm (m : Machine) {cfg cfg' : List Path} (hp : cfg.Perm cfg') (hinj : IdInj m cfg) :
    leavesSorted m cfg = leavesSorted m cfg' := by
  unfold leavesSorted
  dsimp only
  rw [← (hp.filter _).isEmpty_eq]
  split
  · exact sortBy_leDesc_perm List.length m.idOf hp hinj
  · exact sortBy_leDesc_perm List.length m.idOf (hp.filter _) (hinj.sub fun q hq => (List.mem_filter.1 hq).1)

theorem isStateIn_perm (m : Machine) {cfg cfg' : List Path} (hp : cfg.Perm cfg') (params : Option J) :
    isStateIn m cfg params = isStateIn m cfg' params := by
  unfold isStateIn
  split
  · rfl
  · exact hp.any_eq

mutual
theorem evalGuard_perm (m : Machine) {cfg cfg' : List Path} (hp : cfg.Perm cfg') (env : GEnv) :
    ∀ g, evalGuard m cfg env g = evalGuard m cfg' env g
  | .and cs => by simp only [evalGuard]; exact evalAll_perm m hp env cs
  | .or cs => by simp only [evalGuard]; exact evalAny_perm m hp env cs
  | .not c => by simp only [evalGuard, evalGuard_perm m hp env c]
  | .stateIn ps => by simp only [evalGuard, isStateIn_perm m hp ps]
  | .named _ _ => by simp only [evalGuard]
theorem evalAll_perm (m : Machine) {cfg cfg' : List Path} (hp : cfg.Perm cfg') (env : GEnv) :
    ∀ cs, evalAll m cfg env cs = evalAll m cfg' env cs
  | [] => by simp only [evalAll]
  | c :: cs => by simp only [evalAll, evalGuard_perm m hp env c, evalAll_perm m hp env cs]
theorem evalAny_perm (m : Machine) {cfg cfg' : List Path} (hp : cfg.Perm cfg') (env : GEnv) :
    ∀ cs, evalAny m cfg env cs = evalAny m cfg' env cs
  | [] => by simp only [evalAny]
  | c :: cs => by simp only [evalAny, evalGuard_perm m hp env c, evalAny_perm m hp env cs]
end

theorem guardOk_perm (m : Machine) {cfg cfg' : List Path} (hp : cfg.Perm cfg') (env : GEnv)
    (g : Option GuardExpr) : guardOk m cfg env g = guardOk m cfg' env g := by
  cases g with
  | none => rfl
  | some g => exact evalGuard_perm m hp env g

theorem passes_perm (m : Machine) {cfg cfg' : List Path} (hp : cfg.Perm cfg') (env : GEnv)
    (c : GCache) (t : Trans) : passes m cfg env c t = passes m cfg' env c t := by
  simp only [passes, guardOk_perm m hp env]

theorem filterPassing_perm (m : Machine) {cfg cfg' : List Path} (hp : cfg.Perm cfg') (env : GEnv)
    (src : Path) : filterPassing m cfg env src = filterPassing m cfg' env src := by
  funext ts
  induction ts with
  | nil => rfl
  | cons t ts ih => funext c; simp only [filterPassing, passes_perm m hp env, ih]

theorem onCands_walk_perm (m : Machine) {cfg cfg' : List Path} (hp : cfg.Perm cfg') (env : GEnv)
    (src : Path) : ∀ (ts : List Trans) (c : GCache),
      onCands.walk m cfg env src ts c = onCands.walk m cfg' env src ts c := by
  intro ts
  induction ts with
  | nil => intro c; rfl
  | cons t ts ih =>
    intro c
    simp only [onCands.walk, passes_perm m hp env, ih]

theorem onCands_perm (m : Machine) {cfg cfg' : List Path} (hp : cfg.Perm cfg') (env : GEnv)
    (src : Path) (d : StateDef) (ev : Ev) : ∀ (keys : List String) (c : GCache),
      onCands m cfg env src d ev keys c = onCands m cfg' env src d ev keys c := by
  intro keys
  induction keys with
  | nil => intro c; rfl
  | cons k keys ih =>
    intro c
    simp only [onCands, onCands_walk_perm m hp env, ih]

theorem nodeBuckets_perm (m : Machine) {cfg cfg' : List Path} (hp : cfg.Perm cfg') (env : GEnv)
    (cur : Path) (d : StateDef) (ev : Ev) (b : Bool) :
    nodeBuckets m cfg env cur d ev b = nodeBuckets m cfg' env cur d ev b := by
  simp only [nodeBuckets, filterPassing_perm m hp env]

theorem collectChain_perm (m : Machine) {cfg cfg' : List Path} (hp : cfg.Perm cfg') (env : GEnv)
    (ev : Ev) (b1 b2 : Bool) : ∀ ps : List Path,
      collectChain m cfg env ev b1 b2 ps = collectChain m cfg' env ev b1 b2 ps := by
  intro ps
  induction ps with
  | nil => rfl
  | cons cur ups ih =>
    funext c
    simp only [collectChain, onCands_perm m hp env, nodeBuckets_perm m hp env, ih]

theorem selectLoop_perm (m : Machine) {cfg cfg' : List Path} (hp : cfg.Perm cfg') (env : GEnv) (ev : Ev) :
    ∀ (ls : List Path) (c : GCache) (acc : List Cand),
      selectLoop m cfg env ev ls c acc = selectLoop m cfg' env ev ls c acc := by
  intro ls
  induction ls with
  | nil => intro c acc; rfl
  | cons l ls ih =>
    intro c acc
    simp only [selectLoop, collectEligible, collectChain_perm m hp env, ih]

theorem selectTransitions_perm (m : Machine) {cfg cfg' : List Path} (hp : cfg.Perm cfg')
    (hinj : IdInj m cfg) (env : GEnv) (ev : Ev) :
    selectTransitions m cfg env ev = selectTransitions m cfg' env ev := by
  simp only [selectTransitions, leavesSorted_perm m hp hinj, selectLoop_perm m hp env]

theorem sortExit_perm (m : Machine) {xs ys : List Path} (hp : xs.Perm ys) (hinj : IdInj m xs) :
    sortExit m xs = sortExit m ys := by
  unfold sortExit
  exact congrArg List.reverse (sortBy_leAsc_perm List.length m.idOf hp hinj)

theorem exitSet_perm (m : Machine) {c c' : List Path} (hp : c.Perm c') (dom tgt : Path) :
    (exitSet m c dom tgt).Perm (exitSet m c' dom tgt) := by
  unfold exitSet Spec.exitSet
  simp only
  split
  · exact (hp.filter _).filter _
  · exact hp.filter _

/-- the ordered exit list of a transition with domain `domO` -/
theorem exits_perm (m : Machine) {cfg cfg' : List Path} (hp : cfg.Perm cfg') (hinj : IdInj m cfg)
    (domO : Option Path) (tgt : Path) :
    sortExit m (match domO with | none => cfg | some dom => exitSet m cfg dom tgt) =
      sortExit m (match domO with | none => cfg' | some dom => exitSet m cfg' dom tgt) := by
  cases domO with
  | none => exact sortExit_perm m hp hinj
  | some dom => exact sortExit_perm m (exitSet_perm m hp dom tgt) (hinj.sub fun _ hq => (mem_exitSet.1 hq).1)

theorem planTransition_perm (m : Machine) {cfg cfg' : List Path} (hp : cfg.Perm cfg') (hinj : IdInj m cfg)
    (hist : List (Path × List Path)) (c : Cand) :
    planTransition m cfg hist c = planTransition m cfg' hist c := by
  cases h1 : c.t.target with
  | none => simp only [planTransition, h1]
  | some tstr =>
    cases h2 : resolveRobust m c.src tstr with
    | none => simp only [planTransition, h1, h2]
    | some tgt =>
      simp only [planTransition, h1, h2]
      cases domainO m c.src tgt with
      | none => simp only [sortExit_perm m hp hinj]
      | some dom =>
        simp only [sortExit_perm m (exitSet_perm m hp dom tgt) (hinj.sub fun _ hq => (mem_exitSet.1 hq).1)]

theorem recordHistory_perm (m : Machine) (ex : List Path) (s s' : St) (hp : s.cfg.Perm s'.cfg)
    (hh : s.hist = s'.hist) (hinj : IdInj m s.cfg) :
    (recordHistory m ex s).hist = (recordHistory m ex s').hist := by
  have key : ∀ st : Path,
      sortBy (fun a b : Path => a.length < b.length || (a.length == b.length && decide (m.idOf a ≤ m.idOf b)))
        (s.cfg.filter (fun q => q != st && st.isPrefixOf q)) =
      sortBy (fun a b : Path => a.length < b.length || (a.length == b.length && decide (m.idOf a ≤ m.idOf b)))
        (s'.cfg.filter (fun q => q != st && st.isPrefixOf q)) := by
    intro st
    exact sortBy_leAsc_perm List.length m.idOf (hp.filter _) (hinj.sub (fun q hq => (List.mem_filter.1 hq).1))
  simp only [recordHistory, key, hh]

theorem recordHistory_other (m : Machine) (ex : List Path) (s : St) :
    recordHistory m ex s = { s with hist := (recordHistory m ex s).hist } := rfl

theorem find?_perm_unique {α : Type} (f : α → Bool) {xs ys : List α} (hp : xs.Perm ys)
    (hu : ∀ a ∈ xs, ∀ b ∈ xs, f a = true → f b = true → a = b) : xs.find? f = ys.find? f := by
  cases hx : xs.find? f with
  | none =>
    symm
    rw [List.find?_eq_none] at hx ⊢
    intro y hy; exact hx y (hp.symm.subset hy)
  | some a =>
    have ha := List.mem_of_find?_eq_some hx
    have hfa := List.find?_some hx
    cases hy : ys.find? f with
    | none =>
      rw [List.find?_eq_none] at hy
      exact absurd hfa (hy a (hp.subset ha))
    | some b =>
      have hb := hp.symm.subset (List.mem_of_find?_eq_some hy)
      rw [hu a ha b hb hfa (List.find?_some hy)]

/-- at most one active child of `p` -/
def UniqAt (cfg : List Path) (p : Path) : Prop :=
  ∀ q₁ ∈ cfg, ∀ q₂ ∈ cfg, q₁.dropLast = p → q₂.dropLast = p → q₁ ≠ [] → q₂ ≠ [] → q₁ = q₂

mutual
/-- every compound state of the subtree `n` (placed at `p`) has at most one active child -/
def CompUniq (cfg : List Path) (p : Path) : SNode → Prop
  | .mk d kids => (d.kind = .compound → UniqAt cfg p) ∧ CompUniqKids cfg p kids
def CompUniqKids (cfg : List Path) (p : Path) : List (String × SNode) → Prop
  | [] => True
  | (k, c) :: rest => CompUniq cfg (p ++ [k]) c ∧ CompUniqKids cfg p rest
end

theorem UniqAt.perm {cfg cfg' : List Path} {p : Path} (h : UniqAt cfg p) (hs : ∀ q ∈ cfg', q ∈ cfg) :
    UniqAt cfg' p :=
  fun q₁ h₁ q₂ h₂ => h q₁ (hs q₁ h₁) q₂ (hs q₂ h₂)

mutual
theorem CompUniq.sub {cfg cfg' : List Path} (hs : ∀ q ∈ cfg', q ∈ cfg) :
    ∀ (p : Path) (n : SNode), CompUniq cfg p n → CompUniq cfg' p n
  | p, .mk d kids, h => by
    simp only [CompUniq] at h ⊢
    exact ⟨fun hk => (h.1 hk).perm hs, CompUniqKids.sub hs p kids h.2⟩
theorem CompUniqKids.sub {cfg cfg' : List Path} (hs : ∀ q ∈ cfg', q ∈ cfg) :
    ∀ (p : Path) (ks : List (String × SNode)), CompUniqKids cfg p ks → CompUniqKids cfg' p ks
  | _, [], _ => by simp only [CompUniqKids]
  | p, (k, c) :: rest, h => by
    simp only [CompUniqKids] at h ⊢
    exact ⟨CompUniq.sub hs (p ++ [k]) c h.1, CompUniqKids.sub hs p rest h.2⟩
end

mutual
theorem doneNode_perm {cfg cfg' : List Path} (hp : cfg.Perm cfg') :
    ∀ (p : Path) (n : SNode), CompUniq cfg p n → doneNode cfg p n = doneNode cfg' p n
  | p, .mk d kids, h => by
    simp only [CompUniq] at h
    unfold doneNode
    cases hk : d.kind with
    | final => rfl
    | atomic => rfl
    | history => rfl
    | parallel => exact doneRegions_perm hp p kids h.2
    | compound =>
      have hu := h.1 hk
      have hf : cfg.find? (fun q => q != [] && q.dropLast == p) =
          cfg'.find? (fun q => q != [] && q.dropLast == p) := by
        apply find?_perm_unique _ hp
        intro a ha b hb fa fb
        simp only [Bool.and_eq_true, bne_iff_ne, ne_eq, beq_iff_eq] at fa fb
        exact hu a ha b hb fa.2 fb.2 fa.1 fb.1
      rw [hf]
      cases cfg'.find? (fun q => q != [] && q.dropLast == p) with
      | some ch => exact doneKid_perm hp p _ kids h.2
      | none => rfl
theorem doneKid_perm {cfg cfg' : List Path} (hp : cfg.Perm cfg') :
    ∀ (p : Path) (k : String) (ks : List (String × SNode)), CompUniqKids cfg p ks →
      doneKid cfg p k ks = doneKid cfg' p k ks
  | _, _, [], _ => by simp only [doneKid]
  | p, k, (k', c) :: rest, h => by
    simp only [CompUniqKids] at h
    simp only [doneKid]
    exact rel_ite Iff.rfl (fun _ => doneNode_perm hp (p ++ [k']) c h.1) (fun _ => doneKid_perm hp p k rest h.2)
theorem doneRegions_perm {cfg cfg' : List Path} (hp : cfg.Perm cfg') :
    ∀ (p : Path) (ks : List (String × SNode)), CompUniqKids cfg p ks →
      doneRegions cfg p ks = doneRegions cfg' p ks
  | _, [], _ => by simp only [doneRegions]
  | p, (k, c) :: rest, h => by
    simp only [CompUniqKids] at h
    simp only [doneRegions]
    rw [doneNode_perm hp (p ++ [k]) c h.1, doneRegions_perm hp p rest h.2, hp.any_eq]
end

theorem compUniqKids_find {cfg : List Path} {p : Path} {k : String} :
    ∀ {ks : List (String × SNode)} {c : SNode}, CompUniqKids cfg p ks → findKid k ks = some c →
      CompUniq cfg (p ++ [k]) c := by
  intro ks
  induction ks with
  | nil => intro c _ hf; simp [findKid] at hf
  | cons hd rest ih =>
    obtain ⟨k', n⟩ := hd
    intro c h hf
    simp only [CompUniqKids] at h
    simp only [findKid] at hf
    split at hf
    · rename_i hk; simp only [Option.some.injEq] at hf; subst hf; subst hk; exact h.1
    · exact ih h.2 hf

theorem compUniq_at {cfg : List Path} : ∀ (p q : Path) (n n' : SNode), CompUniq cfg q n →
    n.at p = some n' → CompUniq cfg (q ++ p) n' := by
  intro p
  induction p with
  | nil => intro q n n' h hat; simp only [SNode.at, Option.some.injEq] at hat; subst hat; simpa using h
  | cons k p ih =>
    intro q n n' h hat
    match n, h, hat with
    | .mk d kids, h, hat =>
      simp only [SNode.at] at hat
      simp only [CompUniq] at h
      cases hf : findKid k kids with
      | none => simp [hf] at hat
      | some c =>
        simp only [hf] at hat
        have := ih (q ++ [k]) c n' (compUniqKids_find h.2 hf) hat
        simpa using this

theorem isStateDone_perm (m : Machine) {cfg cfg' : List Path} (hp : cfg.Perm cfg')
    (hu : CompUniq cfg [] m.root) (p : Path) : isStateDone m cfg p = isStateDone m cfg' p := by
  unfold isStateDone
  cases hat : m.root.at p with
  | none => rfl
  | some n =>
    have := compUniq_at p [] m.root n hu hat
    simp only [List.nil_append] at this
    exact doneNode_perm hp p n this

theorem uniqAt_of_legal {root : SNode} {c : List Path} (hL : Legal root c) {p : Path} {d : StateDef}
    {kids : List (String × SNode)} (hat : root.at p = some (.mk d kids)) (hk : d.kind = .compound) :
    UniqAt c p := by
  intro q₁ h₁ q₂ h₂ e₁ e₂ n₁ n₂
  have hpc : p ∈ c := e₁ ▸ hL.parent_active q₁ h₁
  have hq₁ : q₁ = p ++ [q₁.getLast n₁] := by rw [← e₁]; exact (List.dropLast_concat_getLast n₁).symm
  have hq₂ : q₂ = p ++ [q₂.getLast n₂] := by rw [← e₂]; exact (List.dropLast_concat_getLast n₂).symm
  have hne : kids ≠ [] := by
    rintro rfl
    obtain ⟨n, hn, _⟩ := hL.states q₁ h₁
    rw [hq₁, at_snoc root p d [] _ hat] at hn
    simp [findKid] at hn
  obtain ⟨k, _, hk'⟩ := hL.compound_one p hpc d kids hat hk hne
  have a₁ : q₁.getLast n₁ = k := hk' _ (hq₁ ▸ h₁)
  have a₂ : q₂.getLast n₂ = k := hk' _ (hq₂ ▸ h₂)
  rw [hq₁, hq₂, a₁, a₂]

mutual
theorem compUniq_of_legal {root : SNode} (hwf : WF root) {c : List Path} (hL : Legal root c) :
    ∀ (p : Path) (n : SNode), root.at p = some n → CompUniq c p n
  | p, .mk d kids, hat => by
    simp only [CompUniq]
    refine ⟨fun hk => uniqAt_of_legal hL hat hk, compUniqKids_of_legal hwf hL p kids ?_⟩
    intro k ch hm
    rw [at_snoc root p d kids k hat]
    have hw := wf_at hwf p _ hat
    simp only [WF] at hw
    exact findKid_of_mem_nodup hw.2.1 hm
theorem compUniqKids_of_legal {root : SNode} (hwf : WF root) {c : List Path} (hL : Legal root c) :
    ∀ (p : Path) (ks : List (String × SNode)), (∀ k ch, (k, ch) ∈ ks → root.at (p ++ [k]) = some ch) →
      CompUniqKids c p ks
  | _, [], _ => by simp only [CompUniqKids]
  | p, (k, ch) :: rest, h => by
    simp only [CompUniqKids]
    exact ⟨compUniq_of_legal hwf hL (p ++ [k]) ch (h k ch List.mem_cons_self),
      compUniqKids_of_legal hwf hL p rest (fun k' ch' hm => h k' ch' (List.mem_cons_of_mem _ hm))⟩
end

theorem compUniq_root_of_legal {root : SNode} (hwf : WF root) {c : List Path} (hL : Legal root c) :
    CompUniq c [] root := compUniq_of_legal hwf hL [] root rfl

/-- two trace records agree up to the order in which a `#t:` observer record lists the configuration -/
def RecEq (m : Machine) (r r' : String) : Prop :=
  r = r' ∨ ∃ c c' : List Path, c.Perm c' ∧
    r = "#t:" ++ ",".intercalate (c.map m.idOf) ∧ r' = "#t:" ++ ",".intercalate (c'.map m.idOf)

/-- traces of the same length whose records agree pairwise (`RecEq`) -/
inductive TraceEq (m : Machine) : List String → List String → Prop
  | nil : TraceEq m [] []
  | cons {r r' : String} {t t' : List String} : RecEq m r r' → TraceEq m t t' → TraceEq m (r :: t) (r' :: t')

theorem TraceEq.refl (m : Machine) : ∀ t, TraceEq m t t
  | [] => TraceEq.nil
  | _ :: t => TraceEq.cons (Or.inl rfl) (TraceEq.refl m t)

/-- same state up to the list order of the configuration (and of its echo in `#t:` records) -/
structure St.equiv (m : Machine) (s s' : St) : Prop where
  cfg : s.cfg.Perm s'.cfg
  hist : s.hist = s'.hist
  queue : s.queue = s'.queue
  status : s.status = s'.status
  trace : TraceEq m s.trace s'.trace
  err : s.err = s'.err
  ctx : s.ctx = s'.ctx
  raiseDepth : s.raiseDepth = s'.raiseDepth
  errors : s.errors = s'.errors
  expCut : s.expCut = s'.expCut

theorem rel_ite_and {α : Type} {R : α → α → Prop} {P : α → Prop} {c c' : Prop} [Decidable c] [Decidable c']
    (hc : c ↔ c') {a a' b b' : α} (ha : c → R a a' ∧ P a) (hb : ¬ c → R b b' ∧ P b) :
    R (if c then a else b) (if c' then a' else b') ∧ P (if c then a else b) :=
  rel_ite (R := fun x y => R x y ∧ P x) hc ha hb

namespace St.equiv
variable {m : Machine} {s s' : St}

theorem refl (m : Machine) (s : St) : St.equiv m s s :=
  ⟨List.Perm.refl _, rfl, rfl, rfl, TraceEq.refl m _, rfl, rfl, rfl, rfl, rfl⟩

theorem setErr (h : St.equiv m s s') (e : Option EErr) :
    St.equiv m { s with err := e } { s' with err := e } :=
  ⟨h.cfg, h.hist, h.queue, h.status, h.trace, rfl, h.ctx, h.raiseDepth, h.errors, h.expCut⟩
theorem setCtx (h : St.equiv m s s') (c : Ctx) :
    St.equiv m { s with ctx := c } { s' with ctx := c } :=
  ⟨h.cfg, h.hist, h.queue, h.status, h.trace, h.err, rfl, h.raiseDepth, h.errors, h.expCut⟩
theorem setCfg (h : St.equiv m s s') {c c' : List Path} (hc : c.Perm c') :
    St.equiv m { s with cfg := c } { s' with cfg := c' } :=
  ⟨hc, h.hist, h.queue, h.status, h.trace, h.err, h.ctx, h.raiseDepth, h.errors, h.expCut⟩
theorem setHist (h : St.equiv m s s') (x : List (Path × List Path)) :
    St.equiv m { s with hist := x } { s' with hist := x } :=
  ⟨h.cfg, rfl, h.queue, h.status, h.trace, h.err, h.ctx, h.raiseDepth, h.errors, h.expCut⟩
theorem setStatus (h : St.equiv m s s') (x : String) :
    St.equiv m { s with status := x } { s' with status := x } :=
  ⟨h.cfg, h.hist, h.queue, rfl, h.trace, h.err, h.ctx, h.raiseDepth, h.errors, h.expCut⟩
theorem setQueue (h : St.equiv m s s') (x : List QEv) :
    St.equiv m { s with queue := x } { s' with queue := x } :=
  ⟨h.cfg, h.hist, rfl, h.status, h.trace, h.err, h.ctx, h.raiseDepth, h.errors, h.expCut⟩
theorem setExpCut (h : St.equiv m s s') (x : Bool) :
    St.equiv m { s with expCut := x } { s' with expCut := x } :=
  ⟨h.cfg, h.hist, h.queue, h.status, h.trace, h.err, h.ctx, h.raiseDepth, h.errors, rfl⟩
theorem setRaiseDepth (h : St.equiv m s s') (x : Nat) :
    St.equiv m { s with raiseDepth := x } { s' with raiseDepth := x } :=
  ⟨h.cfg, h.hist, h.queue, h.status, h.trace, h.err, h.ctx, rfl, h.errors, h.expCut⟩

theorem emitRec (h : St.equiv m s s') {r r' : String} (hr : RecEq m r r') :
    St.equiv m (emit r s) (emit r' s') :=
  ⟨h.cfg, h.hist, h.queue, h.status, TraceEq.cons hr h.trace, h.err, h.ctx, h.raiseDepth, h.errors, h.expCut⟩
theorem emit (h : St.equiv m s s') (r : String) : St.equiv m (XSM.emit r s) (XSM.emit r s') :=
  h.emitRec (Or.inl rfl)

/-- the most frequent case: both sides branch on their own error flag -/
theorem ite_err (h : St.equiv m s s') {a a' b b' : St} (ha : St.equiv m a a') (hb : St.equiv m b b') :
    St.equiv m (if s.err.isSome then a else b) (if s'.err.isSome then a' else b') :=
  rel_ite (by rw [h.err]) (fun _ => ha) (fun _ => hb)

theorem fail (h : St.equiv m s s') (e : EErr) : St.equiv m (s.fail e) (s'.fail e) :=
  h.ite_err h (h.setErr _)

theorem addActive (h : St.equiv m s s') (p : Path) : St.equiv m (addActive p s) (addActive p s') :=
  rel_ite (by rw [h.cfg.contains_eq]) (fun _ => h) (fun _ => h.setCfg (h.cfg.append_right _))

theorem delActive (h : St.equiv m s s') (p : Path) : St.equiv m (delActive p s) (delActive p s') :=
  h.setCfg (h.cfg.filter _)

theorem complete (h : St.equiv m s s') : St.equiv m (complete s) (complete s') :=
  rel_ite (by rw [h.status]) (fun _ => h.setStatus _) (fun _ => h)

theorem enqueueQ (h : St.equiv m s s') (b : Bool) (e : Ev) :
    St.equiv m (enqueueQ b e s) (enqueueQ b e s') := by
  unfold XSM.enqueueQ
  rw [← h.queue]
  exact rel_ite (by rw [h.status]) (fun _ => h.setQueue _) (fun _ => h)

theorem obs (h : St.equiv m s s') : St.equiv m (XSM.emit (obsRecord m s) s) (XSM.emit (obsRecord m s') s') :=
  h.emitRec (Or.inr ⟨s.cfg, s'.cfg, h.cfg, rfl, rfl⟩)
end St.equiv

/-- hooks that respect the equivalence (every engine's hooks do: `hooks*_perm`) -/
structure HooksPerm (m : Machine) (h : Hooks) : Prop where
  snd : ∀ e s s', St.equiv m s s' → St.equiv m (h.snd e s) (h.snd e s')
  sndRaise : ∀ e s s', St.equiv m s s' → St.equiv m (h.sndRaise e s) (h.sndRaise e s')
  geval : ∀ g s s' ev, St.equiv m s s' → h.geval g s ev = h.geval g s' ev

theorem mkHooks_perm (u : UEnv) (m : Machine) (b : Bool) (f : Snd)
    (hf : ∀ e s s', St.equiv m s s' → St.equiv m (f e s) (f e s')) : HooksPerm m (mkHooks u m b f f) :=
  ⟨hf, hf, fun ge s s' ev h => by
    simp only [mkHooks]
    rw [← h.ctx]
    exact evalGuard_perm m h.cfg _ ge⟩

theorem hooksFlagged_perm (u : UEnv) (m : Machine) : HooksPerm m (hooksFlagged u m) :=
  mkHooks_perm u m true _ fun e _ _ h => h.enqueueQ true e
theorem hooksAsyncStart_perm (u : UEnv) (m : Machine) : HooksPerm m (hooksAsyncStart u m) :=
  mkHooks_perm u m false _ fun e _ _ h => h.enqueueQ false e
theorem hooksAsync_perm (u : UEnv) (m : Machine) : HooksPerm m (hooksAsync u m) :=
  mkHooks_perm u m false _ fun e s s' h => by
    rw [← h.raiseDepth]
    exact (h.setRaiseDepth _).enqueueQ true e

/-- accumulator of `_execute_actions` -/
def AccEq (m : Machine) (a a' : St × Bool) : Prop := St.equiv m a.1 a'.1 ∧ a.2 = a'.2

theorem pickBranch_perm {m : Machine} {h : Hooks} (hh : HooksPerm m h) {s s' : St} (he : St.equiv m s s')
    (evType : String) : ∀ bs, pickBranch h s evType bs = pickBranch h s' evType bs := by
  intro bs
  induction bs with
  | nil => rfl
  | cons b bs ih => simp only [pickBranch, ih, fun ge => hh.geval ge s s' evType he]

theorem assignStep_equiv {m : Machine} {s s' : St} (he : St.equiv m s s') (canon : String) (cut : Bool)
    (a : ActionRef) : St.equiv m (assignStep canon cut a s) (assignStep canon cut a s') := by
  unfold assignStep
  exact rel_ite Iff.rfl (fun _ => he.setExpCut _) fun _ =>
    rel_ite Iff.rfl (fun _ => by rw [← he.ctx]; exact he.setCtx _) (fun _ => he)

theorem endExpansion_equiv {m : Machine} {s s' : St} (he : St.equiv m s s') (f : Nat) :
    St.equiv m (endExpansion f s) (endExpansion f s') := by
  unfold endExpansion
  exact rel_ite Iff.rfl (fun _ => he.setExpCut _) (fun _ => he)

theorem finishBuiltin_equiv {m : Machine} {h : Hooks} (hh : HooksPerm m h) {s s' : St} (he : St.equiv m s s')
    (canon : String) (a : ActionRef) : AccEq m (finishBuiltin h canon a s) (finishBuiltin h canon a s') := by
  unfold finishBuiltin
  refine rel_ite (by rw [he.err]) (fun _ => ⟨(he.setErr none).emit _, rfl⟩) fun _ =>
    rel_ite Iff.rfl (fun _ => ⟨?_, rfl⟩) (fun _ => ⟨he, rfl⟩)
  cases raisedEvent a with
  | none => exact he
  | some e => exact hh.sndRaise e _ _ he

theorem builtinStep_equiv {m : Machine} {h : Hooks} (hh : HooksPerm m h)
    (nested : List ActionRef → String → St → St)
    (hn : ∀ fs ev s s', St.equiv m s s' → St.equiv m (nested fs ev s) (nested fs ev s'))
    (cut : Bool) (evType canon : String) (a : ActionRef) {s s' : St} (he : St.equiv m s s') :
    AccEq m (builtinStep h nested cut evType canon a s) (builtinStep h nested cut evType canon a s') := by
  unfold builtinStep
  simp only
  rw [← pickBranch_perm hh he evType, ← he.expCut]
  split
  · exact ⟨he.emit _, rfl⟩
  · exact finishBuiltin_equiv hh
      (rel_ite Iff.rfl (fun _ => assignStep_equiv he _ _ _) (fun _ => hn _ _ _ _ (assignStep_equiv he _ _ _))) _ _

theorem actStep_equiv {m : Machine} {h : Hooks} (hh : HooksPerm m h)
    (nested : List ActionRef → String → St → St)
    (hn : ∀ fs ev s s', St.equiv m s s' → St.equiv m (nested fs ev s) (nested fs ev s'))
    (cut : Bool) (evType : String) {acc acc' : St × Bool} (he : AccEq m acc acc') (a : ActionRef) :
    AccEq m (actStep h nested cut evType acc a) (actStep h nested cut evType acc' a) := by
  obtain ⟨h1, h2⟩ := he
  unfold actStep
  refine rel_ite (by rw [h2, h1.err]) (fun _ => ⟨h1, h2⟩) fun _ => ?_
  rw [← h1.ctx]
  cases h.act a.type acc.1.ctx evType with
  | ok c => exact ⟨(h1.setCtx _).emit _, rfl⟩
  | isAsync c => exact rel_ite Iff.rfl (fun _ => ⟨h1.fail _, rfl⟩) (fun _ => ⟨(h1.setCtx _).emit _, rfl⟩)
  | raises => exact ⟨(h1.emit _).emit _, rfl⟩
  | missing =>
    cases canonicalBuiltin a.type with
    | none => exact ⟨h1.fail _, rfl⟩
    | some canon => exact builtinStep_equiv hh nested hn cut evType canon a h1

theorem execActionsF_equiv {m : Machine} {h : Hooks} (hh : HooksPerm m h) :
    ∀ (fuel : Nat) (as : List ActionRef) (evType : String) (s s' : St), St.equiv m s s' →
      St.equiv m (execActionsF h fuel as evType s) (execActionsF h fuel as evType s') := by
  intro fuel
  induction fuel with
  | zero =>
    intro as evType s s' he
    unfold execActionsF
    exact (foldl_rel₂ (AccEq m) _ _ (fun _ _ a h => actStep_equiv hh _ (fun _ _ _ _ h => h) true evType h a)
      as (s, false) (s', false) ⟨he, rfl⟩).1
  | succ f ih =>
    intro as evType s s' he
    unfold execActionsF
    exact (foldl_rel₂ (AccEq m) _ _
      (fun _ _ a h => actStep_equiv hh _ (fun fs ev s s' h => endExpansion_equiv (ih fs ev s s' h) _) false evType h a)
      as (s, false) (s', false) ⟨he, rfl⟩).1

theorem execActions_equiv {m : Machine} {h : Hooks} (hh : HooksPerm m h) (as : List ActionRef)
    (evType : String) {s s' : St} (he : St.equiv m s s') :
    St.equiv m (execActions h as evType s) (execActions h as evType s') :=
  execActionsF_equiv hh _ as evType s s' he

theorem checkAndFireOnDone_equiv {m : Machine} {h : Hooks} (hh : HooksPerm m h) (fin : Path) {s s' : St}
    (he : St.equiv m s s') (hu : CompUniq s.cfg [] m.root) :
    St.equiv m (checkAndFireOnDone h m fin s) (checkAndFireOnDone h m fin s') := by
  unfold checkAndFireOnDone
  simp only [← show isStateDone m s.cfg = isStateDone m s'.cfg from funext (isStateDone_perm m he.cfg hu)]
  split
  · exact hh.snd _ _ _ he
  · split
    · exact he.complete
    · exact he

theorem enterOne_cfg (h : Hooks) (hok : HooksOK h) (fl : Flavor) (m : Machine) (ev : Option String)
    (s : St) (e : Entry) :
    (enterOne h fl m ev s e).cfg = s.cfg ∨ (enterOne h fl m ev s e).cfg = (addActive e.path s).cfg := by
  cases he : s.err.isSome with
  | true => exact Or.inl (by rw [enterOne_sticky h fl m ev s e he])
  | false =>
    cases hd : m.defAt e.path with
    | none => exact Or.inl (by unfold enterOne; simp only [he, hd, Bool.false_eq_true, if_false])
    | some d => exact Or.inr (enterOne_cfg_of_def h hok fl m ev s e d hd he)

theorem enterOne_sup (h : Hooks) (hok : HooksOK h) (fl : Flavor) (m : Machine) (ev : Option String)
    (s : St) (e : Entry) : ∀ q ∈ s.cfg, q ∈ (enterOne h fl m ev s e).cfg := by
  intro q hq
  rcases enterOne_cfg h hok fl m ev s e with hc | hc
  · rw [hc]; exact hq
  · rw [hc]; exact mem_addActive.2 (Or.inl hq)

theorem enterFold_sup (h : Hooks) (hok : HooksOK h) (fl : Flavor) (m : Machine) (ev : Option String)
    (es : List Entry) (s : St) : ∀ q ∈ s.cfg, q ∈ (es.foldl (enterOne h fl m ev) s).cfg :=
  foldl_rel (Rel := fun a b : St => ∀ q ∈ a.cfg, q ∈ b.cfg) (fun _ _ hq => hq) (fun h1 h2 q hq => h2 q (h1 q hq)) _
    (enterOne_sup h hok fl m ev) es s

/-- one entry. The uniqueness hypothesis is about the configuration the entry produces (done-ness is
    evaluated there). -/
theorem enterOne_equiv {m : Machine} {h : Hooks} (hok : HooksOK h) (hh : HooksPerm m h) (fl : Flavor)
    (ev : Option String) {s s' : St} (he : St.equiv m s s') (e : Entry)
    (hu : CompUniq (enterOne h fl m ev s e).cfg [] m.root) :
    St.equiv m (enterOne h fl m ev s e) (enterOne h fl m ev s' e) := by
  unfold enterOne at hu ⊢
  refine rel_ite (by rw [he.err]) (fun _ => he) fun herr => ?_
  cases hd : m.defAt e.path with
  | none => exact he
  | some d =>
    have h1 := execActions_equiv hh d.entry (entryEvName fl m e ev) (he.addActive e.path)
    refine rel_ite (by rw [h1.err]) (fun _ => h1) fun he2 => rel_ite Iff.rfl (fun hfin => ?_) (fun _ => h1)
    simp only [if_neg herr, hd, if_neg he2] at hu
    rw [if_pos hfin, (checkDone_cfg_err h hok m e.path _).1] at hu
    exact checkAndFireOnDone_equiv hh e.path h1 hu

theorem enterFold_equiv {m : Machine} {h : Hooks} (hok : HooksOK h) (hh : HooksPerm m h) (fl : Flavor)
    (ev : Option String) : ∀ (es : List Entry) {s s' : St}, St.equiv m s s' →
      CompUniq (es.foldl (enterOne h fl m ev) s).cfg [] m.root →
      St.equiv m (es.foldl (enterOne h fl m ev) s) (es.foldl (enterOne h fl m ev) s') := by
  intro es
  induction es with
  | nil => intro s s' he _; exact he
  | cons e es ih =>
    intro s s' he hu
    simp only [List.foldl_cons] at hu ⊢
    refine ih (enterOne_equiv hok hh fl ev he e ?_) hu
    exact CompUniq.sub (enterFold_sup h hok fl m ev es _) [] m.root hu

theorem exitOne_equiv {m : Machine} {h : Hooks} (hh : HooksPerm m h) (fl : Flavor)
    (ev : Option String) {s s' : St} (he : St.equiv m s s') (p : Path) :
    St.equiv m (exitOne h fl m ev s p) (exitOne h fl m ev s' p) := by
  unfold exitOne
  refine he.ite_err he ?_
  split
  · exact he
  · exact (execActions_equiv hh _ _ he).delActive p

theorem recordHistory_equiv {m : Machine} (ex : List Path) {s s' : St} (he : St.equiv m s s')
    (hinj : IdInj m s.cfg) : St.equiv m (recordHistory m ex s) (recordHistory m ex s') := by
  rw [recordHistory_other m ex s, recordHistory_other m ex s', ← recordHistory_perm m ex s s' he.cfg he.hist hinj]
  exact he.setHist _

theorem runPlan_equiv {m : Machine} {h : Hooks} (hok : HooksOK h) (hh : HooksPerm m h) (fl : Flavor)
    (ev : Ev) (pl : Plan) {s s' : St} (he : St.equiv m s s') (hinj : IdInj m s.cfg)
    (hu : CompUniq (runPlan h fl m ev pl s).cfg [] m.root) :
    St.equiv m (runPlan h fl m ev pl s) (runPlan h fl m ev pl s') := by
  unfold runPlan at hu ⊢
  simp only at hu ⊢
  have h2 := foldl_rel₂ (St.equiv m) _ _ (fun _ _ p h => exitOne_equiv hh fl (some ev.type) h p) pl.exits _ _
    (recordHistory_equiv pl.exits he hinj)
  have h4 := enterFold_equiv hok hh fl (some ev.type) pl.entries
    (h2.ite_err h2 (execActions_equiv hh pl.actions ev.type h2))
  split at hu
  · exact (h4 (by rwa [fail_cfg] at hu)).fail _
  · exact h4 hu

/-- **one transition, whole state**: from states that differ only in the order of `cfg`, executing the
    same plan gives states that differ only in the order of `cfg` (and of its echo in the `#t:` record).
    `hu`: in the configuration the plan produces every compound state has at most one active child. -/
theorem execute_equiv {m : Machine} {h : Hooks} (hok : HooksOK h) (hh : HooksPerm m h) (fl : Flavor)
    (ev : Ev) (pl : Plan) {s s' : St} (he : St.equiv m s s') (hinj : IdInj m s.cfg)
    (hu : pl.internal = false → CompUniq (runPlan h fl m ev pl s).cfg [] m.root) :
    St.equiv m (execute h fl m ev pl s) (execute h fl m ev pl s') := by
  have hc : St.equiv m (executeCore h fl m ev pl s) (executeCore h fl m ev pl s') := by
    unfold executeCore
    refine rel_ite Iff.rfl (fun _ => ?_) (fun hi => ?_)
    · split
      · exact he.fail _
      · exact execActions_equiv hh _ _ he
    · have hr := runPlan_equiv hok hh fl ev pl he hinj (hu (by simpa using hi))
      exact hr.ite_err (hr.setCfg he.cfg) hr
  exact hc.ite_err hc hc.obs

theorem select_equiv (m : Machine) (u : UEnv) (ev : Ev) (et : String) {s s' : St} (he : St.equiv m s s')
    (hinj : IdInj m s.cfg) :
    selectTransitions m s.cfg (u.genv s.ctx et) ev = selectTransitions m s'.cfg (u.genv s'.ctx et) ev := by
  rw [← he.ctx]; exact selectTransitions_perm m he.cfg hinj _ ev

theorem microstep_equiv {m : Machine} {h : Hooks} (hok : HooksOK h) (hh : HooksPerm m h) (fl : Flavor)
    (ev : Ev) (c : Cand) {s s' : St} (he : St.equiv m s s') (hinj : IdInj m s.cfg)
    (hu : (planTransition m s.cfg s.hist c).internal = false →
      CompUniq (runPlan h fl m ev (planTransition m s.cfg s.hist c) s).cfg [] m.root) :
    St.equiv m (execute h fl m ev (planTransition m s.cfg s.hist c) s)
      (execute h fl m ev (planTransition m s'.cfg s'.hist c) s') := by
  rw [← he.hist, ← planTransition_perm m he.cfg hinj]
  exact execute_equiv hok hh fl ev _ he hinj hu

/-- an invariant `P` of the run that provides the two hypotheses of `microstep_equiv` at every step.
    `uniq` and `step` ask them of EVERY candidate `c`, selected or not: "the configuration is legal" is
    therefore not an instance (C01 keeps legality for candidates with an active source only); the
    run-level theorems of C12 go through `Snap.RunInv`, which asks them of the selected candidates. -/
structure StepInv (m : Machine) (h : Hooks) (fl : Flavor) (P : St → Prop) : Prop where
  inj : ∀ s, P s → IdInj m s.cfg
  uniq : ∀ s ev c, P s → (planTransition m s.cfg s.hist c).internal = false →
    CompUniq (runPlan h fl m ev (planTransition m s.cfg s.hist c) s).cfg [] m.root
  step : ∀ s ev c, P s → P (execute h fl m ev (planTransition m s.cfg s.hist c) s)
  fail : ∀ s e, P s → P (s.fail e)

theorem processEvent_equiv {m : Machine} {h : Hooks} (hok : HooksOK h) (hh : HooksPerm m h) (fl : Flavor)
    (u : UEnv) (ev : Ev) {P : St → Prop} (hP : StepInv m h fl P) {s s' : St} (he : St.equiv m s s') (hs : P s) :
    St.equiv m (processEvent h fl m u ev s) (processEvent h fl m u ev s') ∧ P (processEvent h fl m u ev s) := by
  unfold processEvent
  rw [← select_equiv m u ev ev.type he (hP.inj s hs)]
  split
  · exact ⟨he.fail _, hP.fail _ _ hs⟩
  · refine foldl_rel₂ (fun a b => St.equiv m a b ∧ P a) _ _ (fun a b c ⟨he, hs⟩ => ?_) _ s s' ⟨he, hs⟩
    exact rel_ite_and (by rw [he.err]) (fun _ => ⟨he, hs⟩) fun _ =>
      rel_ite_and (by rw [he.status]) (fun _ => ⟨he, hs⟩) fun _ =>
      rel_ite_and (by rw [he.cfg.contains_eq]) (fun _ => ⟨he, hs⟩) fun _ =>
      ⟨microstep_equiv hok hh fl ev c he (hP.inj a hs) (hP.uniq a ev c hs), hP.step a ev c hs⟩

theorem transientLoop_equiv_of {m : Machine} {h : Hooks} {fl : Flavor} {u : UEnv} {P : St → Prop}
    (inj : ∀ s, P s → IdInj m s.cfg) (fail : ∀ s e, P s → P (s.fail e))
    (pe : ∀ {s s' : St}, St.equiv m s s' → P s → St.equiv m (processEvent h fl m u (.user "") s)
      (processEvent h fl m u (.user "") s') ∧ P (processEvent h fl m u (.user "") s))
    (fuel : Nat) {s s' : St} (he : St.equiv m s s') (hs : P s) :
    St.equiv m (transientLoop h fl m u fuel s) (transientLoop h fl m u fuel s') ∧
      P (transientLoop h fl m u fuel s) := by
  induction fuel generalizing s s' with
  | zero => exact ⟨he, hs⟩
  | succ f ih =>
    unfold transientLoop
    refine rel_ite_and (by rw [he.err]) (fun _ => ⟨he, hs⟩) fun _ => ?_
    rw [← select_equiv m u (.user "") "" he (inj s hs)]
    split
    · exact ⟨he.fail _, fail _ _ hs⟩
    · split
      · obtain ⟨he', hs'⟩ := pe he hs
        exact ih he' hs'
      · exact ⟨he, hs⟩

theorem runPlan_cfg_of_ok (h : Hooks) (fl : Flavor) (m : Machine) (ev : Ev) (pl : Plan) (s : St)
    (hint : pl.internal = false) (herr : (execute h fl m ev pl s).err = none) :
    (runPlan h fl m ev pl s).cfg = (execute h fl m ev pl s).cfg := by
  rw [execute_err_eq, executeCore_external h fl m ev pl s hint] at herr
  have hrun : (runPlan h fl m ev pl s).err = none := by split at herr <;> exact herr
  rw [execute_cfg_eq, executeCore_external h fl m ev pl s hint, hrun]
  rfl

theorem compUniq_runPlan_of_legal (h : Hooks) (fl : Flavor) (m : Machine) (ev : Ev) (pl : Plan) (s : St)
    (hwf : WF m.root) (hint : pl.internal = false) (herr : (execute h fl m ev pl s).err = none)
    (hL : Legal m.root (execute h fl m ev pl s).cfg) :
    CompUniq (runPlan h fl m ev pl s).cfg [] m.root := by
  rw [runPlan_cfg_of_ok h fl m ev pl s hint herr]
  exact compUniq_root_of_legal hwf hL

mutual
theorem compUniq_of_forall {cfg : List Path} (hU : ∀ p, UniqAt cfg p) : ∀ (p : Path) (n : SNode), CompUniq cfg p n
  | p, .mk d kids => by
    simp only [CompUniq]
    exact ⟨fun _ => hU p, compUniqKids_of_forall hU p kids⟩
theorem compUniqKids_of_forall {cfg : List Path} (hU : ∀ p, UniqAt cfg p) :
    ∀ (p : Path) (ks : List (String × SNode)), CompUniqKids cfg p ks
  | _, [] => by simp only [CompUniqKids]
  | p, (k, c) :: rest => by
    simp only [CompUniqKids]
    exact ⟨compUniq_of_forall hU (p ++ [k]) c, compUniqKids_of_forall hU p rest⟩
end

end XSM

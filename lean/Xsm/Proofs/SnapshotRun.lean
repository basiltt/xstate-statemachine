import Xsm.Proofs.Snapshot
import Xsm.Proofs.Run
import Xsm.Proofs.Trace
/-
C12: the run invariant `Snap.RunInv` instantiated from C01 and C11 — "the configuration is `Legal` and every remembered
list is a legal selection" (`RunP`) — for well-formed machines with sound selection (`SelSoundH`: plain, root and history
targets; `runInv_of_hooks`).  What C01 does not give is the configuration a transition builds when it FAILS midway
(before the rollback): it is a subset of the old configuration (failure while exiting) or of the configuration the
completed transition would have produced (failure afterwards); both are legal, so at most one child of every compound
state is active in it.  Then: any property of the history that `recordHistory` keeps holds in every reached state
(`run_histQ`), in particular the (depth, id) order of the remembered lists.
-/
namespace XSM
namespace Snap
open Spec Hist

theorem exitFold_sub (h : Hooks) (hok : HooksOK h) (fl : Flavor) (m : Machine) (ev : Option String)
    (ps : List Path) (s : St) : ∀ q ∈ (ps.foldl (exitOne h fl m ev) s).cfg, q ∈ s.cfg :=
  foldl_rel (Rel := fun a b : St => ∀ q ∈ b.cfg, q ∈ a.cfg) (fun _ _ hq => hq) (fun h1 h2 q hq => h1 q (h2 q hq)) _
    (fun s p q => (exitOne_mem h hok fl m ev s p q).1) ps s

theorem enterFold_sub (h : Hooks) (hok : HooksOK h) (fl : Flavor) (m : Machine) (ev : Option String) :
    ∀ (es : List Entry) (s : St), ∀ q ∈ (es.foldl (enterOne h fl m ev) s).cfg,
      q ∈ s.cfg ∨ q ∈ es.map (·.path) := by
  intro es
  induction es with
  | nil => intro s q hq; exact Or.inl hq
  | cons e es ih =>
    intro s q hq
    simp only [List.foldl_cons] at hq
    rcases ih _ q hq with h1 | h1
    · rcases enterOne_cfg h hok fl m ev s e with hc | hc
      · rw [hc] at h1; exact Or.inl h1
      · rw [hc] at h1
        rcases mem_addActive.1 h1 with h2 | h2
        · exact Or.inl h2
        · exact Or.inr (by simp [h2])
    · exact Or.inr (List.mem_cons_of_mem _ h1)

theorem enterFold_err (h : Hooks) (fl : Flavor) (m : Machine) (ev : Option String) (es : List Entry) (s : St)
    (he : s.err.isSome = true) : es.foldl (enterOne h fl m ev) s = s :=
  foldl_fixed _ s (fun e => enterOne_sticky h fl m ev s e he) es

/-- the configuration `runPlan` leaves (before any rollback): within the old one, or within
    `(old \ exits) ∪ entries` -/
theorem runPlan_cfg_cases (h : Hooks) (hok : HooksOK h) (fl : Flavor) (m : Machine) (ev : Ev) (pl : Plan) (s : St)
    (hvx : ∀ p ∈ pl.exits, (m.defAt p).isSome) :
    (∀ q ∈ (runPlan h fl m ev pl s).cfg, q ∈ s.cfg) ∨
    (∀ q ∈ (runPlan h fl m ev pl s).cfg, (q ∈ s.cfg ∧ q ∉ pl.exits) ∨ q ∈ pl.entries.map (·.path)) := by
  have hcfg : (runPlan h fl m ev pl s).cfg =
      (pl.entries.foldl (enterOne h fl m (some ev.type)) (afterActions h fl m ev pl s)).cfg := by
    rw [runPlan_eq]
    cases pl.err with
    | none => rfl
    | some e => exact fail_cfg _ e
  rw [hcfg, afterActions, afterExits]
  generalize hs2 : pl.exits.foldl (exitOne h fl m (some ev.type)) (recordHistory m pl.exits s) = s2
  by_cases h2 : s2.err.isSome = true
  · left
    rw [if_pos h2, enterFold_err h fl m _ _ s2 h2]
    intro q hq
    rw [← hs2] at hq
    exact exitFold_sub h hok fl m _ _ (recordHistory m pl.exits s) q hq
  · right
    rw [if_neg h2]
    obtain ⟨_, x2⟩ := exitFold_spec h hok fl m (some ev.type) pl.exits (recordHistory m pl.exits s) hvx
      (by rw [hs2]; exact Option.not_isSome_iff_eq_none.1 h2)
    rw [hs2] at x2
    intro q hq
    rcases enterFold_sub h hok fl m _ _ _ q hq with h1 | h1
    · rw [execActions_cfg h hok] at h1
      exact Or.inl ((x2 q).1 h1)
    · exact Or.inr h1

/-- what C01 knows about a transition before it runs: its exits are active states and the
    configuration the completed transition produces is legal -/
structure MicroSpec (m : Machine) (s : St) (pl : Plan) : Prop where
  exits_valid : ∀ p ∈ pl.exits, (m.defAt p).isSome
  exits_active : ∀ p ∈ pl.exits, p ∈ s.cfg
  result : ∃ R, Legal m.root R ∧ ∀ q, ((q ∈ s.cfg ∧ q ∉ pl.exits) ∨ q ∈ pl.entries.map (·.path)) → q ∈ R

theorem runPlan_uniq (h : Hooks) (hok : HooksOK h) (fl : Flavor) (m : Machine) (ev : Ev) (pl : Plan) (s : St)
    (hwf : WF m.root) (hL : Legal m.root s.cfg) (hsp : MicroSpec m s pl) :
    CompUniq (runPlan h fl m ev pl s).cfg [] m.root := by
  rcases runPlan_cfg_cases h hok fl m ev pl s hsp.exits_valid with hc | hc
  · exact CompUniq.sub hc [] m.root (compUniq_root_of_legal hwf hL)
  · obtain ⟨R, hR, hsub⟩ := hsp.result
    exact CompUniq.sub (fun q hq => hsub q (hc q hq)) [] m.root (compUniq_root_of_legal hwf hR)

/-- the exits of every plan are a sorted part of the (legal) configuration -/
theorem MicroSpec.of_exits {m : Machine} {s : St} {pl : Plan} (hL : Legal m.root s.cfg) {X : List Path}
    (hex : pl.exits = sortExit m X) (hX : ∀ p ∈ X, p ∈ s.cfg)
    (hres : ∃ R, Legal m.root R ∧ ∀ q, ((q ∈ s.cfg ∧ q ∉ pl.exits) ∨ q ∈ pl.entries.map (·.path)) → q ∈ R) :
    MicroSpec m s pl := by
  have hact : ∀ p ∈ pl.exits, p ∈ s.cfg := fun p hp => hX p ((mem_sortExit m p X).1 (hex ▸ hp))
  refine ⟨fun p hp => ?_, hact, hres⟩
  obtain ⟨n, hn, _⟩ := hL.states p (hact p hp)
  exact defAt_isSome_of_at hn

theorem plain_spec (m : Machine) (c : Cand) (s : St) (hwf : WF m.root) (hi : InitOK m.root)
    (hL : Legal m.root s.cfg) (hsrc : c.src ∈ s.cfg) (tgt : Path) (hp : PlainTarget m c tgt) :
    MicroSpec m s (planTransition m s.cfg s.hist c) := by
  obtain ⟨nt, htgt, hnh⟩ := hp.exists_
  obtain ⟨_, hpent⟩ := planEnter_eq m _ hwf hi (plain_chain_valid m c tgt hp)
  rw [planTransition_plain m s.cfg s.hist c tgt hp]
  refine .of_exits hL rfl (fun p hp => (mem_exitSet.1 hp).1)
    ⟨stepConfig m.root s.cfg c.src tgt, legal_step_flat m.root hwf s.cfg hL c.src tgt hsrc nt htgt hnh hp.nonroot, ?_⟩
  intro q hq
  rw [mem_stepConfig]
  simp only [extPlan, hpent, mem_sortExit] at hq
  exact hq

theorem root_spec (m : Machine) (c : Cand) (s : St) (hwf : WF m.root) (hi : InitOK m.root)
    (hk : m.root.kind ≠ .history) (hL : Legal m.root s.cfg)
    (tstr : String) (ht : c.t.target = some tstr) (hne : tstr ≠ "")
    (hres : resolveRobust m c.src tstr = some [])
    (hext : ¬ ([] = c.src ∧ c.t.reenter = false)) :
    MicroSpec m s (planTransition m s.cfg s.hist c) := by
  have hkh : ¬ (m.kindAt [] = some Kind.history) := by
    simp only [Machine.kindAt, SNode.at, Option.map_some, Option.some.injEq]
    exact hk
  have hvL : ∀ p ∈ ([[]] : List Path), ∃ n, m.root.at p = some n := by
    intro p hp; simp at hp; subst hp; exact ⟨m.root, rfl⟩
  obtain ⟨_, hpent⟩ := planEnter_eq m [[]] hwf hi hvL
  have hplan : planTransition m s.cfg s.hist c = extPlan m s.cfg c.t.actions [[]] := by
    rw [planTransition_external m s.cfg s.hist c ht hne hres hext, if_neg hkh, domainO_root, pathFromO_none_nil]
  rw [hplan]
  refine .of_exits hL rfl (fun _ hp => hp)
    ⟨enterDefault [] m.root, legal_enterDefault_root m.root hwf hk _ (fun _ => Iff.rfl), ?_⟩
  intro q hq
  simp only [extPlan, hpent, enterStates_root, mem_sortExit] at hq
  rcases hq with ⟨a, b⟩ | h2
  · exact absurd a b
  · exact h2

theorem candOK_spec (m : Machine) (c : Cand) (s : St) (hwf : WF m.root) (hi : InitOK m.root)
    (hL : Legal m.root s.cfg) (hc : CandOK m c) (hsrc : c.src ∈ s.cfg)
    (hint : (planTransition m s.cfg s.hist c).internal = false) :
    MicroSpec m s (planTransition m s.cfg s.hist c) := by
  rcases hc with hp | ⟨tstr, ht, hne, hres, hk⟩
  · rcases candPlain_cases m s.cfg s.hist c hp with hi' | ⟨tgt, hp⟩
    · rw [hi'] at hint; cases hint
    · exact plain_spec m c s hwf hi hL hsrc tgt hp
  · by_cases hself : ([] : Path) = c.src ∧ c.t.reenter = false
    · exact nomatch (planTransition_internal m _ _ c
        (Or.inr (Or.inr ⟨tstr, ht, hres.trans (congrArg some hself.1), hself.2⟩))).symm.trans hint
    · exact root_spec m c s hwf hi hk hL tstr ht hne hres hself

/-- a candidate whose target is a history pseudo-state whose owner is inactive (source outside the
    owner: the scope of C11), with the static sanity `HistNodeOK` of the history node -/
def HistCand (m : Machine) (cfg : List Path) (c : Cand) : Prop :=
  ∃ tstr hh hn, c.t.target = some tstr ∧ tstr ≠ "" ∧ resolveRobust m c.src tstr = some hh ∧
    m.root.at hh = some hn ∧ hn.kind = .history ∧ hh.dropLast ∉ cfg ∧ HistNodeOK m hh

theorem hist_spec (m : Machine) (c : Cand) (s : St) (hwf : WF m.root) (hi : InitOK m.root)
    (hL : Legal m.root s.cfg) (hsrc : c.src ∈ s.cfg) (hA : HistAll m s.hist) (hc : HistCand m s.cfg c) :
    MicroSpec m s (planTransition m s.cfg s.hist c) := by
  obtain ⟨tstr, hh, hn, ht, hne, hres, hat, hk, hP, hOK⟩ := hc
  obtain ⟨hhne, hns, hdomO, hdomc, k1, hk1⟩ := hist_domain m s.cfg hL c.src hh hsrc hn hat hk hP
  have hG := hist_goodTargets m hwf hi s.hist hh hhne hn hat (fun R hg hR => hA _ R hg hR) hOK _ k1 hk1
  have hkh : m.kindAt hh = some Kind.history := by simp [Machine.kindAt, hat, hk]
  generalize hdomdef : lcp c.src hh = dom at *
  generalize hTdef : resolveHistoryTarget m s.hist hh = T at *
  have hplan := planTransition_history m s.cfg s.hist c tstr ht hne hh hres hns hkh dom hdomO
  rw [hTdef] at hplan
  generalize hLdef : (T.flatMap (pathFrom dom)).eraseDups = L at hplan
  have hLmem : ∀ q, q ∈ L ↔ q ∈ histForest dom T := by
    intro q; rw [← hLdef, List.mem_eraseDups, flatMap_pathFrom dom T hG.below]
  have hF : Forest m.root L := Forest_congr (fun q => (hLmem q).symm) hG.forest
  have hvL : ∀ p ∈ L, ∃ n, m.root.at p = some n := by
    intro p hp; obtain ⟨n, hn', _⟩ := hF.valid p hp; exact ⟨n, hn'⟩
  obtain ⟨_, hpent⟩ := planEnter_eq m L hwf hi hvL
  rw [hplan]
  have hlegal : Legal m.root (stepConfigL m.root s.cfg dom hh (histForest dom T)) :=
    legal_stepL m.root hwf s.cfg hL dom hh k1 (histForest dom T) hdomc
      (List.IsPrefix.trans hk1 (List.dropLast_prefix hh)) hG.forest hG.first hG.branch
  refine .of_exits hL rfl (fun p hp => (mem_exitSet.1 hp).1) ⟨_, hlegal, ?_⟩
  intro q hq
  rw [mem_stepConfigL]
  simp only [hpent, mem_enterStates_congr hLmem q, mem_sortExit, exitSet] at hq
  exact hq

theorem exitOne_hist (h : Hooks) (htr : HooksTraceOK h) (fl : Flavor) (m : Machine) (ev : Option String)
    (s : St) (p : Path) : (exitOne h fl m ev s p).hist = s.hist := by
  unfold exitOne
  split
  · rfl
  · split
    · rfl
    · exact execActions_hist h htr _ _ _

theorem exitFold_hist (h : Hooks) (htr : HooksTraceOK h) (fl : Flavor) (m : Machine) (ev : Option String)
    (ps : List Path) (s : St) : (ps.foldl (exitOne h fl m ev) s).hist = s.hist :=
  foldl_rel (Rel := fun a b : St => b.hist = a.hist) (fun _ => rfl) (fun h1 h2 => h2.trans h1) _
    (exitOne_hist h htr fl m ev) ps s

theorem checkDone_hist (h : Hooks) (htr : HooksTraceOK h) (m : Machine) (fin : Path) (s : St) :
    (checkAndFireOnDone h m fin s).hist = s.hist := by
  unfold checkAndFireOnDone
  simp only
  split
  · exact htr.snd_hist _ _
  · split
    · unfold complete; split <;> rfl
    · rfl

theorem addActive_hist (p : Path) (s : St) : (addActive p s).hist = s.hist := by
  unfold addActive; split <;> rfl

theorem enterOne_hist (h : Hooks) (htr : HooksTraceOK h) (fl : Flavor) (m : Machine) (ev : Option String)
    (s : St) (e : Entry) : (enterOne h fl m ev s e).hist = s.hist := by
  unfold enterOne
  split
  · rfl
  · split
    · rfl
    · simp only
      have h1 := execActions_hist h htr (entryEvName fl m e ev) (by assumption : StateDef).entry (addActive e.path s)
      split
      · rw [h1, addActive_hist]
      · split
        · rw [checkDone_hist h htr, h1, addActive_hist]
        · rw [h1, addActive_hist]

theorem enterFold_hist (h : Hooks) (htr : HooksTraceOK h) (fl : Flavor) (m : Machine) (ev : Option String)
    (es : List Entry) (s : St) : (es.foldl (enterOne h fl m ev) s).hist = s.hist :=
  foldl_rel (Rel := fun a b : St => b.hist = a.hist) (fun _ => rfl) (fun h1 h2 => h2.trans h1) _
    (enterOne_hist h htr fl m ev) es s

theorem runPlan_hist (h : Hooks) (htr : HooksTraceOK h) (fl : Flavor) (m : Machine) (ev : Ev) (pl : Plan) (s : St) :
    (runPlan h fl m ev pl s).hist = (recordHistory m pl.exits s).hist := by
  have h1 : (afterActions h fl m ev pl s).hist = (recordHistory m pl.exits s).hist := by
    unfold afterActions afterExits
    simp only
    split
    · exact exitFold_hist h htr fl m _ _ _
    · rw [execActions_hist h htr]; exact exitFold_hist h htr fl m _ _ _
  rw [runPlan_eq]
  cases pl.err with
  | none => exact (enterFold_hist h htr fl m _ _ _).trans h1
  | some e => exact (fail_hist _ e).trans ((enterFold_hist h htr fl m _ _ _).trans h1)

theorem execute_hist_cases (h : Hooks) (htr : HooksTraceOK h) (fl : Flavor) (m : Machine) (ev : Ev) (pl : Plan) (s : St) :
    (execute h fl m ev pl s).hist = s.hist ∨ (pl.internal = false ∧
      (execute h fl m ev pl s).hist = (recordHistory m pl.exits s).hist) := by
  cases hint : pl.internal with
  | true => exact Or.inl (execute_internal_hist h htr fl m ev pl s hint)
  | false =>
    refine Or.inr ⟨rfl, ?_⟩
    rw [execute_hist_eq, executeCore_external h fl m ev pl s hint]
    split <;> exact runPlan_hist h htr fl m ev pl s

theorem hooksOf_ok (fl : Flavor) (u : UEnv) (m : Machine) : HooksOK (hooksOf fl u m) := by
  cases fl with
  | sync => exact hooksFlagged_ok u m
  | async => exact hooksAsync_ok u m

theorem hooksOf_traceOK (fl : Flavor) (u : UEnv) (m : Machine) : HooksTraceOK (hooksOf fl u m) := by
  cases fl with
  | sync => exact hooksFlagged_traceOK u m
  | async => exact hooksAsync_traceOK u m

/-- what selection must guarantee here (the `SelSound` of `legal_run`, extended by history targets):
    sources are ancestors-or-self of active states; the selected transitions all have plain or root
    targets, or exactly one transition is selected and it targets a history state whose owner is
    inactive -/
def SelSoundH (m : Machine) : Prop :=
  ∀ cfg env ev sel, Legal m.root cfg → selectTransitions m cfg env ev = .ok sel →
    (∀ c ∈ sel, ∃ q ∈ cfg, c.src <+: q) ∧ ((∀ c ∈ sel, CandOK m c) ∨ ∃ c, sel = [c] ∧ HistCand m cfg c)

theorem SelSound.toH {m : Machine} (h : SelSound m) : SelSoundH m :=
  fun cfg env ev sel hl hs => ⟨fun c hc => (h cfg env ev sel hl hs c hc).2, Or.inl (fun c hc => (h cfg env ev sel hl hs c hc).1)⟩

/-- the invariant of the runs considered: legal configuration (C01) and every remembered list a legal
    selection of its owner's subtree (C11) -/
def RunP (m : Machine) (s : St) : Prop := Legal m.root s.cfg ∧ HistAll m s.hist

theorem microSpec_of (m : Machine) (c : Cand) (s : St) (hwf : WF m.root) (hi : InitOK m.root)
    (hs : RunP m s) (hc : CandOK m c ∨ HistCand m s.cfg c) (hsrc : c.src ∈ s.cfg)
    (hint : (planTransition m s.cfg s.hist c).internal = false) :
    MicroSpec m s (planTransition m s.cfg s.hist c) := by
  rcases hc with hc | hc
  · exact candOK_spec m c s hwf hi hs.1 hc hsrc hint
  · exact hist_spec m c s hwf hi hs.1 hsrc hs.2 hc

theorem legal_microstep_any (h : Hooks) (hok : HooksOK h) (fl : Flavor) (m : Machine) (ev : Ev) (c : Cand) (s : St)
    (hwf : WF m.root) (hi : InitOK m.root) (hs : RunP m s) (hc : CandOK m c ∨ HistCand m s.cfg c)
    (hsrc : c.src ∈ s.cfg) : Legal m.root (execute h fl m ev (planTransition m s.cfg s.hist c) s).cfg := by
  rcases hc with hc | ⟨tstr, hh, hn, ht, hne, hres, hat, hk, hP, hOK⟩
  · exact legal_microstep h hok fl m ev c s hwf hi hs.1 hc hsrc
  · exact legal_microstep_history h hok fl m ev c s hwf hi hs.1 hsrc tstr ht hne hh hres hn hat hk hP
      (fun R hg hR => hs.2 _ R hg hR) hOK

/-- **C01 and C11 provide the run invariant**, for any hooks that only enqueue: for a well-formed machine
    without '.' in its id and keys whose selection is sound (`SelSoundH`), "`cfg` is `Legal` and every
    remembered list is a legal selection" is a `RunInv`, for arbitrary user code. -/
theorem runInv_of_hooks (h : Hooks) (hok : HooksOK h) (htr : HooksTraceOK h) (fl : Flavor) (m : Machine) (u : UEnv)
    (hwf : WF m.root) (hi : InitOK m.root) (hsel : SelSoundH m) (hd : MDot m) :
    RunInv m u h fl (RunP m) (CandOK m) (fun s c => HistCand m s.cfg c) where
  inj := fun s hs => idInj_of_valid m hd s.cfg (fun p hp => by
    obtain ⟨n, hn, _⟩ := hs.1.states p hp
    rw [hn]; rfl)
  sel := fun s ev sel hs hsl => by
    obtain ⟨h1, h2⟩ := hsel s.cfg _ ev sel hs.1 hsl
    refine ⟨fun c hc => ?_, h2⟩
    obtain ⟨q, hq, hp⟩ := h1 c hc
    exact legal_prefix_mem hs.1 hq hp
  uniq := fun s ev c hs hc hsrc hint =>
    runPlan_uniq _ hok fl m ev _ s hwf hs.1 (microSpec_of m c s hwf hi hs hc hsrc hint)
  step := fun s ev c hs hc hsrc => by
    refine ⟨legal_microstep_any _ hok fl m ev c s hwf hi hs hc hsrc, ?_⟩
    rcases execute_hist_cases _ htr fl m ev (planTransition m s.cfg s.hist c) s with hh | ⟨hint, hh⟩
    · rw [hh]; exact hs.2
    · rw [hh]
      exact histAll_recordHistory m hwf _ s hs.1 (microSpec_of m c s hwf hi hs hc hsrc hint).exits_active hs.2
  frame := fun s t hc hh hs => by
    show Legal m.root t.cfg ∧ HistAll m t.hist
    rw [← hc, ← hh]; exact hs

/-- … in particular for the hooks either engine processes a sent event with -/
theorem runInv_legal (fl : Flavor) (m : Machine) (u : UEnv) (hwf : WF m.root) (hi : InitOK m.root)
    (hsel : SelSoundH m) (hd : MDot m) :
    RunInv m u (hooksOf fl u m) fl (RunP m) (CandOK m) (fun s c => HistCand m s.cfg c) :=
  runInv_of_hooks _ (hooksOf_ok fl u m) (hooksOf_traceOK fl u m) fl m u hwf hi hsel hd

/-- the initial entry and the eventless settling, under the hooks `h` either engine starts with -/
theorem startSettled_runP {m : Machine} (h : Hooks) (hok : HooksOK h) (htr : HooksTraceOK h) (hh : HooksPerm m h) (fl : Flavor)
    (u : UEnv) (ev : Option String) (hwf : WF m.root) (hi : InitOK m.root) (hk : m.root.kind ≠ .history)
    (hsel : SelSoundH m) (hd : MDot m) {s1 : St}
    (hs1 : (startEntries m).1.foldl (enterOne h fl m ev) { ({} : St) with status := "running", ctx := m.ctx0 } = s1)
    (h1 : s1.err = none) : RunP m (transientLoop h fl m u m.maxIterations s1) := by
  have hl : RunP m s1 := by
    refine ⟨?_, ?_⟩
    · rw [← hs1]
      exact initialEntry_legal _ hok fl m _ hwf hi hk _ rfl (by rw [hs1]; exact h1)
    · rw [← hs1, enterFold_hist _ htr]; exact histAll_nil m
  exact (transientLoop_equiv_run hok hh (runInv_of_hooks _ hok htr fl m u hwf hi hsel hd) m.maxIterations
    (St.equiv.refl m s1) hl).2

/-- **`start()` establishes the invariant**: unless the library refused to start the machine -/
theorem start_runP (fl : Flavor) (m : Machine) (u : UEnv) (hwf : WF m.root) (hi : InitOK m.root)
    (hk : m.root.kind ≠ .history) (hsel : SelSoundH m) (hd : MDot m) :
    (start fl m u {}).err ≠ none ∨ RunP m (start fl m u {}) := by
  cases fl with
  | sync =>
    refine start_phases_or (P := RunP m) (Q := RunP m) (settle := transientLoop (hooksFlagged u m) .sync m u m.maxIterations)
      (stop := id) (drain := drainFlagged m u) (fun _ => rfl)
      (startSettled_runP _ (hooksFlagged_ok u m) (hooksFlagged_traceOK u m) (hooksFlagged_perm u m) .sync u none hwf hi
        hk hsel hd rfl)
      (fun ht => (drainLoop_equiv (runInv_legal .sync m u hwf hi hsel hd) _ _ (St.equiv.refl m _) ht).2) _ ?_
    show syncStart m u {} = _
    unfold syncStart
    simp only [(startEntries_eq m hwf hi).1]
    rfl
  | async =>
    refine start_phases_or (P := RunP m) (Q := RunP m)
      (settle := transientLoop (hooksAsyncStart u m) .async m u m.maxIterations)
      (stop := fun s => { s with status := "stopped" }) (fun _ => rfl) (fun h1 => ?_)
      (fun ht => (asyncDrain_equiv (runInv_legal .async m u hwf hi hsel hd) _ (St.equiv.refl m _) ht).2) _
      (asyncStart_phases m u {})
    simp only [asyncStartEntered, (startEntries_eq m hwf hi).1] at h1 ⊢
    exact startSettled_runP _ (hooksAsyncStart_ok u m) (hooksAsyncStart_traceOK u m) (hooksAsyncStart_perm u m)
      .async u _ hwf hi hk hsel hd rfl h1

/-! Any property of the history that `recordHistory` preserves is an invariant of every run of either
engine, from `start()` on, unconditionally. -/
section histinv
variable {m : Machine} {Q : List (Path × List Path) → Prop}

/-- `Q` is kept by `_record_history` -/
def RecClosed (m : Machine) (Q : List (Path × List Path) → Prop) : Prop :=
  ∀ (ex : List Path) (s : St), Q s.hist → Q (recordHistory m ex s).hist

theorem execute_histQ (hQ : RecClosed m Q) (h : Hooks) (htr : HooksTraceOK h) (fl : Flavor) (ev : Ev) (pl : Plan)
    (s : St) (hs : Q s.hist) : Q (execute h fl m ev pl s).hist := by
  rcases execute_hist_cases h htr fl m ev pl s with hh | ⟨_, hh⟩
  · rw [hh]; exact hs
  · rw [hh]; exact hQ _ s hs

theorem stepSel_histQ (hQ : RecClosed m Q) (h : Hooks) (htr : HooksTraceOK h) (fl : Flavor) (ev : Ev) (b : Bool)
    (s : St) (c : Cand) (hs : Q s.hist) : Q (stepSel h fl m ev b s c).hist := by
  unfold stepSel
  by_cases h1 : s.err.isSome = true
  · rw [if_pos h1]; exact hs
  by_cases h2 : finished s.status = true
  · rw [if_neg h1, if_pos h2]; exact hs
  by_cases h3 : (b && !(s.cfg.contains c.src)) = true
  · rw [if_neg h1, if_neg h2, if_pos h3]; exact hs
  rw [if_neg h1, if_neg h2, if_neg h3]
  exact execute_histQ hQ h htr fl ev _ s hs

theorem processEvent_histQ (hQ : RecClosed m Q) (h : Hooks) (htr : HooksTraceOK h) (fl : Flavor) (u : UEnv) (ev : Ev)
    (s : St) (hs : Q s.hist) : Q (processEvent h fl m u ev s).hist := by
  rw [processEvent_eq]
  split
  · rw [fail_hist]; exact hs
  · exact foldl_inv _ (fun s c hs => stepSel_histQ hQ h htr fl ev _ s c hs) _ s hs

theorem transientLoop_histQ (hQ : RecClosed m Q) (h : Hooks) (htr : HooksTraceOK h) (fl : Flavor) (u : UEnv) :
    ∀ (fuel : Nat) (s : St), Q s.hist → Q (transientLoop h fl m u fuel s).hist := by
  intro fuel
  induction fuel with
  | zero => intro s hs; exact hs
  | succ f ih =>
    intro s hs
    unfold transientLoop
    split
    · exact hs
    · split
      · rw [fail_hist]; exact hs
      · split
        · exact ih _ (processEvent_histQ hQ h htr fl u _ s hs)
        · exact hs

theorem drainLoop_histQ (hQ : RecClosed m Q) (u : UEnv) :
    ∀ (fuel c : Nat) (s : St), Q s.hist → Q (drainLoop m u fuel c s).hist := by
  apply drainLoop_ind m u (fun s => Q s.hist)
  · intro s q hs; exact hs
  · intro s e hs
    have h1 : Q (emit ("#recv:" ++ e.type) s).hist := hs
    have h2 := processEvent_histQ hQ (hooksFlagged u m) (hooksFlagged_traceOK u m) .sync u e _ h1
    exact transientLoop_histQ hQ (hooksFlagged u m) (hooksFlagged_traceOK u m) .sync u m.maxIterations _ h2

theorem syncSend_histQ (hQ : RecClosed m Q) (u : UEnv) (e : Ev) (s : St) (hs : Q s.hist) :
    Q (syncSend m u e s).hist := by
  unfold syncSend sndUnflagged drainFlagged
  split
  · exact drainLoop_histQ hQ u _ _ _ hs
  · exact hs

theorem asyncProcess_histQ (hQ : RecClosed m Q) (u : UEnv) (e : Ev) (s : St) (hs : Q s.hist) :
    Q (asyncProcess m u e s).hist := by
  unfold asyncProcess
  have h1 : Q (emit ("#recv:" ++ e.type) s).hist := hs
  have h2 := processEvent_histQ hQ (hooksAsync u m) (hooksAsync_traceOK u m) .async u e _ h1
  have h3 := transientLoop_histQ hQ (hooksAsync u m) (hooksAsync_traceOK u m) .async u m.maxIterations _ h2
  simp only
  unfold asyncChainEnd
  split
  · split <;> exact h3
  · split <;> exact h3

theorem asyncStep_histQ (hQ : RecClosed m Q) (u : UEnv) (q : QEv) (s : St) (hs : Q s.hist) :
    Q (asyncStep m u q s).hist := by
  unfold asyncStep
  split
  · split
    · exact hs
    · exact asyncProcess_histQ hQ u q.ev (asyncPurge s) hs
  · exact asyncProcess_histQ hQ u q.ev s hs

theorem asyncDrain_histQ (hQ : RecClosed m Q) (u : UEnv) :
    ∀ (fuel : Nat) (s : St), Q s.hist → Q (asyncDrain m u fuel s).hist := by
  intro fuel
  induction fuel with
  | zero => intro s hs; simp only [asyncDrain]; split <;> exact hs
  | succ f ih =>
    intro s hs
    unfold asyncDrain
    split
    · exact hs
    · split
      · exact hs
      · exact ih _ (asyncStep_histQ hQ u _ _ hs)

theorem asyncSend_histQ (hQ : RecClosed m Q) (u : UEnv) (e : Ev) (s : St) (hs : Q s.hist) :
    Q (asyncSend m u e s).hist := by
  unfold asyncSend
  split
  · exact asyncDrain_histQ hQ u _ _ hs
  · exact hs

theorem cmdO_histQ (hQ : RecClosed m Q) (fl : Flavor) (u : UEnv) (s : St) (e : Ev) (hs : Q s.hist) :
    Q (cmdO fl m u s e).hist := by
  unfold cmdO send
  cases fl with
  | sync => exact syncSend_histQ hQ u e _ hs
  | async => exact asyncSend_histQ hQ u e _ hs

/-- the shape of both `start()`s after the initial entry: settle, then run the queue, giving up as soon as an error is
    pending -/
theorem startTail_histQ {settle stop drain : St → St} (hstop : ∀ s, (stop s).hist = s.hist)
    (hsettle : ∀ s, Q s.hist → Q (settle s).hist) (hdrain : ∀ s, Q s.hist → Q (drain s).hist) (x : St) (hx : Q x.hist) :
    Q (if x.err.isSome then stop x else if (settle x).err.isSome then stop (settle x) else drain (settle x)).hist := by
  split
  · rw [hstop]; exact hx
  · split
    · rw [hstop]; exact hsettle x hx
    · exact hdrain _ (hsettle x hx)

theorem start_histQ (hQ : RecClosed m Q) (fl : Flavor) (u : UEnv) (s : St) (hs : Q s.hist) :
    Q (start fl m u s).hist := by
  cases fl with
  | sync =>
    show Q (syncStart m u s).hist
    have h1 : Q ((startEntries m).1.foldl (enterOne (hooksFlagged u m) .sync m none)
        { s with status := "running", ctx := m.ctx0 }).hist := by
      rw [enterFold_hist _ (hooksFlagged_traceOK u m)]; exact hs
    have tail := startTail_histQ (Q := Q) (stop := id) (drain := drainFlagged m u) (fun _ => rfl)
      (transientLoop_histQ hQ (hooksFlagged u m) (hooksFlagged_traceOK u m) .sync u m.maxIterations)
      (fun s => drainLoop_histQ hQ u _ _ s)
    unfold syncStart
    simp only
    cases (startEntries m).2 with
    | none => exact tail _ h1
    | some e => exact tail _ (by rw [fail_hist]; exact h1)
  | async =>
    show Q (asyncStart m u s).hist
    have h1 : Q ((startEntries m).1.foldl (enterOne (hooksAsyncStart u m) .async m (some "___xstate_statemachine_init___"))
        { s with status := "running", ctx := m.ctx0 }).hist := by
      rw [enterFold_hist _ (hooksAsyncStart_traceOK u m)]; exact hs
    have tail := startTail_histQ (Q := Q) (stop := fun s => { s with status := "stopped" }) (fun _ => rfl)
      (transientLoop_histQ hQ (hooksAsyncStart u m) (hooksAsyncStart_traceOK u m) .async u m.maxIterations)
      (asyncDrain_histQ hQ u (asyncFuel m))
    rw [asyncStart_phases]
    unfold asyncStartSettled asyncStartEntered
    simp only
    cases (startEntries m).2 with
    | none => exact tail _ h1
    | some e => exact tail _ (by rw [fail_hist]; exact h1)

theorem run_histQ (hQ : RecClosed m Q) (hnil : Q []) (fl : Flavor) (u : UEnv) (evs : List Ev) :
    Q (evs.foldl (cmdO fl m u) (start fl m u {})).hist :=
  foldl_inv _ (fun s e hs => cmdO_histQ hQ fl u s e hs) evs _ (start_histQ hQ fl u {} hnil)
end histinv

/-- every remembered list is in the (depth, id) order `_record_history` produces -/
def DISorted (m : Machine) (h : List (Path × List Path)) : Prop :=
  ∀ kv ∈ h, kv.2.Pairwise (fun a b => depthIdLe m a b = true)

theorem recStep_diSorted (m : Machine) (cfg : List Path) (hist : List (Path × List Path)) (st : Path)
    (h : DISorted m hist) : DISorted m (recStep m cfg hist st) := by
  unfold recStep
  split
  · exact h
  · split
    · split
      · exact h
      · intro kv hkv
        rcases List.mem_append.1 hkv with h1 | h1
        · exact h kv (List.mem_filter.1 h1).1
        · simp only [List.mem_singleton] at h1
          rw [h1]; exact recRem_sorted m cfg st
    · exact h

/-- `_record_history` only ever stores lists in (depth, id) order -/
theorem diSorted_recClosed (m : Machine) : RecClosed m (DISorted m) := by
  intro ex s hs
  rw [recordHistory_hist]
  exact foldl_inv _ (fun hist c hs => recStep_diSorted m s.cfg hist c hs) _ _ hs

end Snap
end XSM

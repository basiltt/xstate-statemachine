import Xsm.Proofs.Termination
import Xsm.Proofs.SyncDrain
import Xsm.Proofs.Fifo
/-
The runs of the witness machines of C13 (`Xsm/Properties/C13.lean`). The facts about the runs of one machine stand
together, in one declaration or in one per engine (`fanM`), because the kernel shares the work of evaluating a run only
inside one declaration. Within a theorem: sync engine first, then async; the groups follow the examples' order.
-/
namespace XSM.Term.Ex
open XSM XSM.Done.Ex XSM.Term

/-- `pingPongM`: the settling loop (twins) from `running`, and `start()` on both engines -/
theorem pingPongM_runs :
    (transientSteps (hooksFlagged u0 pingPongM) .sync pingPongM u0 4 running,
      transientCut (hooksFlagged u0 pingPongM) .sync pingPongM u0 4 running) = (4, true) ∧
    (let s := syncStart pingPongM u0 {};
      (s.status, s.cfg, s.err.isSome, count "toB@" s, count "toA@" s) = ("running", [[], ["a"]], false, 2, 2)) ∧
    (let s := asyncStart pingPongM u0 {};
      (s.status, s.cfg, s.err.isSome, count "toB@" s, count "toA@" s) = ("running", [[], ["a"]], false, 2, 2)) := by
  decide +kernel

theorem settleM_runs :
    (transientSteps (hooksFlagged u0 settleM) .sync settleM u0 4 running,
      transientCut (hooksFlagged u0 settleM) .sync settleM u0 2 running) = (1, false) ∧
    (syncStart settleM u0 {}).cfg = [[], ["b"]] := by decide +kernel

/-- `fanM`, sync engine (`one` is the state the drain of `send(E)` to `running` starts from) -/
theorem fanM_sync :
    let e : QEv := ⟨.user "E", false⟩
    let x : QEv := ⟨.user "X", false⟩
    let l : QEv := ⟨.user "E", true⟩
    let one : St := { running with queue := [e] }
    let xs : St := { running with queue := [x, x, x, x, x] }
    let xex : St := { running with queue := [x, e, x] }
    let lx : St := { running with queue := [l, l, l, l, l, x, x] }
    let s := syncSend fanM u0 (.user "E") running
    -- .1: `send(E)` to `running`, then `send(X)`
    ((drainSteps fanM u0 (drainFuel fanM one) 0 one, drainTrips fanM u0 (drainFuel fanM one) 0 one,
       drainCut fanM u0 (drainFuel fanM one) 0 one) = (4, 1, true) ∧
     (s.status, s.cfg, evTypes s, s.err.isSome, count "sawE@E" s) = ("running", [[], ["a"]], [], false, 4) ∧
     count "sawX@X" (syncSend fanM u0 (.user "X") s) = 1 ∧
     ((drainRaised fanM u0 (drainFuel fanM one) 0 one).length, drainCut fanM u0 (drainFuel fanM one) 0 one) =
       (8, true)) ∧
    -- .2.1: a burst of five `X`
    (count "sawX@X" (drainFlagged fanM u0 xs) = 5 ∧ drainTrips fanM u0 (drainFuel fanM xs) 0 xs = 0 ∧
     drainCut fanM u0 (drainFuel fanM xs) 0 xs = false) ∧
    -- .2.2.1: `X E X`
    (drainLog fanM u0 (drainFuel fanM xex) 0 xex, drainCut fanM u0 (drainFuel fanM xex) 0 xex,
      count "sawX@X" (drainFlagged fanM u0 xex)) =
     ([.user "X", .user "E", .user "X", .user "E", .user "E", .user "E"], true, 2) ∧
    -- .2.2.2: five marked `E` in front of `X X`
    (drainLog fanM u0 (drainFuel fanM lx) 0 lx, drainTrips fanM u0 (drainFuel fanM lx) 0 lx,
      evTypes (drainFlagged fanM u0 lx)) = ([.user "E", .user "E", .user "E", .user "X", .user "X"], 1, []) := by
  decide +kernel

/-- `fanM`, async engine -/
theorem fanM_async :
    let l : QEv := ⟨.user "E", true⟩
    let one : St := { running with queue := [⟨.user "E", false⟩] }
    let a := asyncSend fanM u0 (.user "E") running
    let a' := asyncSend fanM u0 (.user "E") (asyncStart fanM u0 {})
    let t : St := { running with queue := [l, l], raiseDepth := 2 }
    -- `send(E)` to `running`, then `send(X)`
    (a.status, evTypes a, a.raiseDepth, a.cfg, a.err.isSome, count "sawE@E" a) =
      ("running", [], 0, [[], ["a"]], false, 2) ∧
    count "sawX@X" (asyncSend fanM u0 (.user "X") a) = 1 ∧
    -- the same after `start()`
    cntExt (asyncStartSettled fanM u0 {}).queue = 0 ∧
    (a'.status, evTypes a') = ("running", []) ∧
    -- one iteration from the state `t` of that run in which two raised `E` are pending; the twins
    (decide (cntSelf t.queue ≤ t.raiseDepth), potential 3 t,
      potential 3 (asyncStep fanM u0 l { t with queue := [l] })) = (true, 6, 5) ∧
    (asyncSelfSends fanM u0 (asyncFuel fanM) one, asyncTrips fanM u0 (asyncFuel fanM) one) = (4, 1) := by
  decide +kernel

/-- `shortM`: one `E` queued (`one`; `send(E)` to `running` is its drain) and a burst of four (`s0`) or five -/
theorem shortM_runs :
    let e : QEv := ⟨.user "E", false⟩
    let one : St := { running with queue := [e] }
    let s0 : St := { running with queue := [e, e, e, e] }
    let a := asyncSend shortM u0 (.user "E") running
    -- .1.1: sync, one `E`
    (((drainSteps shortM u0 (drainFuel shortM one) 0 one, drainCut shortM u0 (drainFuel shortM one) 0 one) =
        (2, false) ∧
      count "sawR@R" (syncSend shortM u0 (.user "E") running) = 1 ∧
      ((drainRaised shortM u0 (drainFuel shortM one) 0 one).length,
        drainCut shortM u0 (drainFuel shortM one) 0 one) = (1, false)) ∧
     -- .1.2: sync, one `E` against the bound; the burst of four
     ((shortM.maxIterations, (drainRaised shortM u0 (drainFuel shortM one) 0 one).length,
        drainCut shortM u0 (drainFuel shortM one) 0 one, count "sawR@R" (drainFlagged shortM u0 one)) =
        (3, 1, false, 1) ∧
      (drainLog shortM u0 (drainFuel shortM s0) 0 s0).map (·.type) = ["E", "E", "E", "E", "R", "R", "R"] ∧
      count "sawR@R" (drainFlagged shortM u0 s0) = 3 ∧
      drainCut shortM u0 (drainFuel shortM s0) 0 s0 = true ∧
      ((drainFlagged shortM u0 s0).status, evTypes (drainFlagged shortM u0 s0)) = ("running", []) ∧
      (drainRaised shortM u0 (drainFuel shortM s0) 0 s0).length = 4)) ∧
    -- .2.1: async, one `E`; the burst of five
    (((a.status, evTypes a, a.raiseDepth, count "sawR@R" a) = ("running", [], 0, 1) ∧
      (asyncSelfSends shortM u0 (asyncFuel shortM) one, asyncTrips shortM u0 (asyncFuel shortM) one) = (1, 0) ∧
      count "sawR@R" (asyncDrain shortM u0 (asyncFuel shortM) { running with queue := [e, e, e, e, e] }) = 1) ∧
     -- .2.2: async, one `E` against the bound; the burst of four
     ((shortM.maxIterations, asyncSelfSends shortM u0 (asyncFuel shortM) one,
        asyncTrips shortM u0 (asyncFuel shortM) one, count "sawR@R" (asyncDrain shortM u0 (asyncFuel shortM) one)) =
        (3, 1, 0, 1) ∧
      (asyncLogQ shortM u0 (asyncFuel shortM) s0).map (·.ev.type) = ["E", "E", "E", "E"] ∧
      count "sawR@R" (asyncDrain shortM u0 (asyncFuel shortM) s0) = 0 ∧
      asyncTrips shortM u0 (asyncFuel shortM) s0 = 1 ∧
      ((asyncDrain shortM u0 (asyncFuel shortM) s0).status, evTypes (asyncDrain shortM u0 (asyncFuel shortM) s0)) =
        ("running", []) ∧
      asyncSelfSends shortM u0 (asyncFuel shortM) s0 = 4)) := by decide +kernel

/-- `reDoneM`: `start()` on both engines -/
theorem reDoneM_runs :
    let s := syncStart reDoneM u0 {}
    let a := asyncStart reDoneM u0 {}
    (s.status, s.cfg, evTypes s, count "again@done.state.m.p" s) = ("running", [[], ["p"], ["p", "f"]], [], 3) ∧
    (a.status, a.cfg, evTypes a, a.raiseDepth, count "again@done.state.m.p" a) =
      ("running", [[], ["p"], ["p", "f"]], [], 0, 4) ∧
    cntExt (asyncStartSettled reDoneM u0 {}).queue = 1 := by decide +kernel

/-- `manyM`: async `start()` with the model's fuel, and the same run loop with fuel 61 -/
theorem manyM_runs :
    let s := asyncDrain manyM u0 61 (asyncStartSettled manyM u0 {})
    (cntExt (asyncStartSettled manyM u0 {}).queue, (asyncStart manyM u0 {}).status) = (60, "HANG") ∧
    (s.status, evTypes s, count "sawR@R" s) = ("running", [], 60) := by decide +kernel

end XSM.Term.Ex

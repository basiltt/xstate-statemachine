import Xsm.Proofs.Run
/-
Helper lemmas for C03 (action order, event identity, accounting).

* `Adds P s s'` — `s'.trace` is `s.trace` with some records satisfying `P` prepended; every step
  function of the executor only prepends (the `…_adds` lemmas, `execActionsF_adds` to `processEvent_adds`);
* `St.chron` — the trace oldest first; `delta s s'` — what was appended between `s` and `s'`;
  `actRecords`, `exitRecords`, `entryRecords`, `exitsRecords`, `entriesRecords` — what an action
  list / one exit / one entry / a list of exits / a list of entries appends; the last two are
  `foldRecords` of `exitOne` / `enterOne`, and what is proved about them is proved about `foldRecords`;
* entry order: `extraAt_parents_first` (one state and what entering it adds below), from it `enterDefault`, and
  `enterStates` of a parents-first, convex list;
* the plan of a plain-target transition (`plain_plan`, from `planTransition_plain` of Bridge);
* accounting for one transition and, through the fold step `peStep` of `processEvent`, for a whole event.
-/
namespace XSM
open Spec

/-- the send hooks leave the trace and the recorded history alone (they only enqueue / count) -/
structure HooksTraceOK (h : Hooks) : Prop where
  snd_trace : ∀ e s, (h.snd e s).trace = s.trace
  raise_trace : ∀ e s, (h.sndRaise e s).trace = s.trace
  snd_hist : ∀ e s, (h.snd e s).hist = s.hist
  raise_hist : ∀ e s, (h.sndRaise e s).hist = s.hist

theorem enqueueQ_trace (b : Bool) (e : Ev) (s : St) : (enqueueQ b e s).trace = s.trace := by
  unfold enqueueQ; split <;> rfl
theorem enqueueQ_hist (b : Bool) (e : Ev) (s : St) : (enqueueQ b e s).hist = s.hist := by
  unfold enqueueQ; split <;> rfl

theorem hooksFlagged_traceOK (u : UEnv) (m : Machine) : HooksTraceOK (hooksFlagged u m) :=
  ⟨enqueueQ_trace true, enqueueQ_trace true, enqueueQ_hist true, enqueueQ_hist true⟩
theorem hooksAsyncStart_traceOK (u : UEnv) (m : Machine) : HooksTraceOK (hooksAsyncStart u m) :=
  ⟨enqueueQ_trace false, enqueueQ_trace false, enqueueQ_hist false, enqueueQ_hist false⟩
theorem hooksAsync_traceOK (u : UEnv) (m : Machine) : HooksTraceOK (hooksAsync u m) :=
  ⟨fun e s => by simp [hooksAsync, mkHooks, enqueueQ_trace],
   fun e s => by simp [hooksAsync, mkHooks, enqueueQ_trace],
   fun e s => by simp [hooksAsync, mkHooks, enqueueQ_hist],
   fun e s => by simp [hooksAsync, mkHooks, enqueueQ_hist]⟩

def Adds (P : String → Prop) (s s' : St) : Prop := ∃ t, s'.trace = t ++ s.trace ∧ ∀ r ∈ t, P r

theorem Adds.refl (P : String → Prop) (s : St) : Adds P s s := ⟨[], rfl, by simp⟩
theorem Adds.of_eq {P : String → Prop} {s s' : St} (h : s'.trace = s.trace) : Adds P s s' :=
  ⟨[], by simpa using h, by simp⟩
theorem Adds.trans {P : String → Prop} {s1 s2 s3 : St} (h12 : Adds P s1 s2) (h23 : Adds P s2 s3) :
    Adds P s1 s3 := by
  obtain ⟨t1, e1, p1⟩ := h12
  obtain ⟨t2, e2, p2⟩ := h23
  refine ⟨t2 ++ t1, by rw [e2, e1, List.append_assoc], ?_⟩
  intro r hr
  rcases List.mem_append.1 hr with h | h
  · exact p2 r h
  · exact p1 r h
theorem Adds.emit {P : String → Prop} {s s' : St} (r : String) (hr : P r) (h : Adds P s s') :
    Adds P s (emit r s') := by
  obtain ⟨t, e, p⟩ := h
  refine ⟨r :: t, by simp [XSM.emit, e], ?_⟩
  intro x hx
  rcases List.mem_cons.1 hx with rfl | hx
  · exact hr
  · exact p x hx
theorem Adds.mono {P Q : String → Prop} {s s' : St} (hpq : ∀ r, P r → Q r) (h : Adds P s s') :
    Adds Q s s' := by
  obtain ⟨t, e, p⟩ := h
  exact ⟨t, e, fun r hr => hpq r (p r hr)⟩
theorem Adds.suffix {P : String → Prop} {s s' : St} (h : Adds P s s') : s.trace <:+ s'.trace := by
  obtain ⟨t, e, _⟩ := h
  exact ⟨t, e.symm⟩

theorem fail_trace (s : St) (e : EErr) : (s.fail e).trace = s.trace := by
  unfold St.fail; split <;> rfl

/-- the shape of a record written by the action executor when called with event name `evType`:
    `name@evType` for an action that was run, `#aerr:name` for one that raised (and was contained) -/
def ActRec (evType : String) (r : String) : Prop :=
  (∃ a, r = a ++ "@" ++ evType) ∨ (∃ a, r = "#aerr:" ++ a)

theorem assignStep_trace (canon : String) (cut : Bool) (a : ActionRef) (s : St) :
    (assignStep canon cut a s).trace = s.trace := by
  unfold assignStep; (repeat' split) <;> rfl

theorem finishBuiltin_adds (h : Hooks) (htr : HooksTraceOK h) (evType canon : String) (a : ActionRef)
    (s2 : St) : Adds (ActRec evType) s2 (finishBuiltin h canon a s2).1 := by
  unfold finishBuiltin
  split
  · exact Adds.emit _ (Or.inr ⟨a.type, rfl⟩) (Adds.of_eq rfl)
  · split
    · split
      · exact Adds.of_eq (htr.raise_trace _ _)
      · exact Adds.refl _ _
    · exact Adds.refl _ _

theorem builtinStep_adds (h : Hooks) (htr : HooksTraceOK h) (nested : List ActionRef → String → St → St)
    (evType : String) (hn : ∀ as s, Adds (ActRec evType) s (nested as evType s)) (cut : Bool)
    (canon : String) (a : ActionRef) (s : St) :
    Adds (ActRec evType) s (builtinStep h nested cut evType canon a s).1 := by
  unfold builtinStep
  simp only
  split
  · exact Adds.emit _ (Or.inr ⟨a.type, rfl⟩) (Adds.refl _ _)
  · refine Adds.trans ?_ (finishBuiltin_adds h htr evType canon a _)
    split
    · exact Adds.of_eq (assignStep_trace _ _ _ _)
    · exact Adds.trans (Adds.of_eq (assignStep_trace _ _ _ _)) (hn _ _)

theorem actStep_adds (h : Hooks) (htr : HooksTraceOK h) (nested : List ActionRef → String → St → St)
    (evType : String) (hn : ∀ as s, Adds (ActRec evType) s (nested as evType s)) (cut : Bool)
    (acc : St × Bool) (a : ActionRef) :
    Adds (ActRec evType) acc.1 (actStep h nested cut evType acc a).1 := by
  unfold actStep
  split
  · exact Adds.refl _ _
  · split
    · exact Adds.emit _ (Or.inl ⟨a.type, rfl⟩) (Adds.of_eq rfl)
    · split
      · exact Adds.of_eq (fail_trace _ _)
      · exact Adds.emit _ (Or.inl ⟨a.type, rfl⟩) (Adds.of_eq rfl)
    · exact Adds.emit _ (Or.inr ⟨a.type, rfl⟩) (Adds.emit _ (Or.inl ⟨a.type, rfl⟩) (Adds.refl _ _))
    · split
      · exact Adds.of_eq (fail_trace _ _)
      · exact builtinStep_adds h htr nested evType hn cut _ a acc.1

theorem foldl_actStep_adds (h : Hooks) (htr : HooksTraceOK h) (nested : List ActionRef → String → St → St)
    (evType : String) (hn : ∀ as s, Adds (ActRec evType) s (nested as evType s)) (cut : Bool) :
    ∀ (as : List ActionRef) (acc : St × Bool),
      Adds (ActRec evType) acc.1 (as.foldl (actStep h nested cut evType) acc).1 := by
  intro as
  induction as with
  | nil => intro acc; exact Adds.refl _ _
  | cons a as ih =>
    intro acc
    simp only [List.foldl_cons]
    exact Adds.trans (actStep_adds h htr nested evType hn cut acc a) (ih _)

theorem execActionsF_adds (h : Hooks) (htr : HooksTraceOK h) :
    ∀ (fuel : Nat) (as : List ActionRef) (evType : String) (s : St),
      Adds (ActRec evType) s (execActionsF h fuel as evType s) := by
  intro fuel
  induction fuel with
  | zero =>
    intro as evType s
    unfold execActionsF
    exact foldl_actStep_adds h htr _ evType (fun _ s => Adds.refl _ s) true as (s, false)
  | succ f ih =>
    intro as evType s
    unfold execActionsF
    exact foldl_actStep_adds h htr _ evType (fun as s => Adds.trans (ih as evType s) (Adds.of_eq (endExpansion_trace _ _))) false as (s, false)

theorem execActions_adds (h : Hooks) (htr : HooksTraceOK h) (as : List ActionRef) (evType : String) (s : St) :
    Adds (ActRec evType) s (execActions h as evType s) := execActionsF_adds h htr _ as evType s

def St.chron (s : St) : List String := s.trace.reverse

/-- the records appended between `s` and a later state `s'`, oldest first -/
def delta (s s' : St) : List String := (s'.trace.take (s'.trace.length - s.trace.length)).reverse

theorem chron_of_trace {s s' : St} {t : List String} (h : s'.trace = t ++ s.trace) :
    s'.chron = s.chron ++ t.reverse ∧ delta s s' = t.reverse := by
  unfold St.chron delta
  rw [h]
  simp

theorem Adds.chron {P : String → Prop} {s s' : St} (h : Adds P s s') :
    s'.chron = s.chron ++ delta s s' ∧ ∀ r ∈ delta s s', P r := by
  obtain ⟨t, e, p⟩ := h
  obtain ⟨h1, h2⟩ := chron_of_trace e
  rw [h2]
  exact ⟨h1, fun r hr => p r (List.mem_reverse.1 hr)⟩

theorem delta_of_trace_eq {s s' : St} (h : s'.trace = s.trace) : delta s s' = [] := by simp [delta, h]
theorem chron_of_trace_eq {s s' : St} (h : s'.trace = s.trace) : s'.chron = s.chron := by simp [St.chron, h]
theorem chron_emit (r : String) (s : St) : (emit r s).chron = s.chron ++ [r] := by
  simp [St.chron, emit]

/-- **what an action list appends to the trace** when run from state `s` with event name `evType`
    (it depends on the state: `choose` looks at the context, user actions may raise or be missing) -/
def actRecords (h : Hooks) (as : List ActionRef) (evType : String) (s : St) : List String :=
  delta s (execActions h as evType s)

theorem execActions_chron (h : Hooks) (htr : HooksTraceOK h) (as : List ActionRef) (evType : String) (s : St) :
    (execActions h as evType s).chron = s.chron ++ actRecords h as evType s :=
  (execActions_adds h htr as evType s).chron.1

theorem actRecords_event (h : Hooks) (htr : HooksTraceOK h) (as : List ActionRef) (evType : String) (s : St) :
    ∀ r ∈ actRecords h as evType s, ActRec evType r :=
  (execActions_adds h htr as evType s).chron.2

theorem actRecords_sticky (h : Hooks) (as : List ActionRef) (evType : String) (s : St)
    (he : s.err.isSome = true) : actRecords h as evType s = [] := by
  unfold actRecords
  rw [execActions_sticky h evType as s he]
  exact delta_of_trace_eq rfl

/-- an exit action is handed the triggering event's name, in both engines -/
theorem exitEvName_some (fl : Flavor) (m : Machine) (p : Path) (t : String) :
    exitEvName fl m p (some t) = t := by
  cases fl <;> rfl
/-- an entry action is handed the triggering event's name, in both engines, whether the state is on
    the explicit path or reached by default descent (`e.nested`) -/
theorem entryEvName_some (fl : Flavor) (m : Machine) (e : Entry) (t : String) :
    entryEvName fl m e (some t) = t := by
  cases fl <;> rfl

/-- what exiting `p` from state `s` appends: the records of `p`'s exit actions under event `evn` -/
def exitRecords (h : Hooks) (m : Machine) (evn : String) (p : Path) (s : St) : List String :=
  if s.err.isSome then [] else
  match m.defAt p with
  | none => []
  | some d => actRecords h d.exit evn s

/-- what entering `e` from state `s` appends: the records of its entry actions under event `evn` -/
def entryRecords (h : Hooks) (m : Machine) (evn : String) (e : Entry) (s : St) : List String :=
  if s.err.isSome then [] else
  match m.defAt e.path with
  | none => []
  | some d => actRecords h d.entry evn (addActive e.path s)

theorem addActive_trace (p : Path) (s : St) : (addActive p s).trace = s.trace := by
  unfold addActive; split <;> rfl
theorem delActive_trace (p : Path) (s : St) : (delActive p s).trace = s.trace := rfl
theorem complete_trace (s : St) : (complete s).trace = s.trace := by
  unfold complete; split <;> rfl
theorem checkDone_trace (h : Hooks) (htr : HooksTraceOK h) (m : Machine) (fin : Path) (s : St) :
    (checkAndFireOnDone h m fin s).trace = s.trace := by
  unfold checkAndFireOnDone
  simp only
  split
  · exact htr.snd_trace _ _
  · split
    · exact complete_trace s
    · rfl

theorem exitOne_chron (h : Hooks) (htr : HooksTraceOK h) (fl : Flavor) (m : Machine) (evn : String)
    (s : St) (p : Path) :
    (exitOne h fl m (some evn) s p).chron = s.chron ++ exitRecords h m evn p s := by
  unfold exitOne exitRecords
  split
  · simp
  · cases hd : m.defAt p with
    | none => simp
    | some d =>
      simp only [exitEvName_some]
      rw [chron_of_trace_eq (delActive_trace p _)]
      exact execActions_chron h htr _ _ _

theorem enterOne_chron (h : Hooks) (htr : HooksTraceOK h) (fl : Flavor) (m : Machine) (evn : String)
    (s : St) (e : Entry) :
    (enterOne h fl m (some evn) s e).chron = s.chron ++ entryRecords h m evn e s := by
  unfold enterOne entryRecords
  by_cases hs : s.err.isSome = true
  · rw [if_pos hs, if_pos hs, List.append_nil]
  · rw [if_neg hs, if_neg hs]
    cases m.defAt e.path with
    | none => exact (List.append_nil _).symm
    | some d =>
      have hc := execActions_chron h htr d.entry evn (addActive e.path s)
      rw [chron_of_trace_eq (addActive_trace e.path s)] at hc
      dsimp only
      rw [entryEvName_some]
      refine ite_elim (fun x : St => x.chron = _) (fun _ => hc) fun _ =>
        ite_elim (fun x : St => x.chron = _) (fun _ => ?_) fun _ => hc
      rw [chron_of_trace_eq (checkDone_trace h htr m e.path _)]; exact hc

theorem exitRecords_event (h : Hooks) (htr : HooksTraceOK h) (m : Machine) (evn : String) (p : Path) (s : St) :
    ∀ r ∈ exitRecords h m evn p s, ActRec evn r := by
  unfold exitRecords
  split
  · simp
  · split
    · simp
    · exact actRecords_event h htr _ _ _
theorem entryRecords_event (h : Hooks) (htr : HooksTraceOK h) (m : Machine) (evn : String) (e : Entry) (s : St) :
    ∀ r ∈ entryRecords h m evn e s, ActRec evn r := by
  unfold entryRecords
  split
  · simp
  · split
    · simp
    · exact actRecords_event h htr _ _ _

section foldRecords
variable {α : Type} (step : St → α → St) (one : α → St → List String)

/-- what folding `step` over a list appends to the trace, when one `step` on `a` from `s` appends `one a s` -/
def foldRecords : List α → St → List String
  | [], _ => []
  | a :: l, s => one a s ++ foldRecords l (step s a)

theorem foldRecords_chron (h1 : ∀ s a, (step s a).chron = s.chron ++ one a s) (l : List α) (s : St) :
    (l.foldl step s).chron = s.chron ++ foldRecords step one l s := by
  induction l generalizing s with
  | nil => exact (List.append_nil _).symm
  | cons a l ih => rw [List.foldl_cons, ih, h1, foldRecords, List.append_assoc]

theorem foldRecords_forall {P : String → Prop} (h1 : ∀ a s, ∀ r ∈ one a s, P r) (l : List α) (s : St) :
    ∀ r ∈ foldRecords step one l s, P r := by
  induction l generalizing s with
  | nil => nofun
  | cons a l ih => exact fun r hr => (List.mem_append.1 hr).elim (h1 a s r) (ih _ r)

theorem foldRecords_segments (l : List α) (s : St) : ∃ segs : List (α × List String),
    segs.map (·.1) = l ∧ foldRecords step one l s = segs.flatMap (·.2) ∧ ∀ x ∈ segs, ∃ s0, x.2 = one x.1 s0 := by
  induction l generalizing s with
  | nil => exact ⟨[], rfl, rfl, nofun⟩
  | cons a l ih =>
    obtain ⟨segs, h1, h2, h3⟩ := ih (step s a)
    exact ⟨(a, one a s) :: segs, congrArg (a :: ·) h1, congrArg (one a s ++ ·) h2,
      List.forall_mem_cons.2 ⟨⟨s, rfl⟩, h3⟩⟩

theorem foldRecords_flatMap {I : St → Prop} {names : α → List String}
    (h1 : ∀ s a, I s → I (step s a) ∧ one a s = names a) (l : List α) (s : St) (hs : I s) :
    I (l.foldl step s) ∧ foldRecords step one l s = l.flatMap names := by
  induction l generalizing s with
  | nil => exact ⟨hs, rfl⟩
  | cons a l ih =>
    obtain ⟨h2, h3⟩ := h1 s a hs
    obtain ⟨h4, h5⟩ := ih _ h2
    exact ⟨h4, by rw [foldRecords, h3, h5, List.flatMap_cons]⟩
end foldRecords

def exitsRecords (h : Hooks) (fl : Flavor) (m : Machine) (evn : String) : List Path → St → List String
  | [], _ => []
  | p :: ps, s => exitRecords h m evn p s ++ exitsRecords h fl m evn ps (exitOne h fl m (some evn) s p)

def entriesRecords (h : Hooks) (fl : Flavor) (m : Machine) (evn : String) : List Entry → St → List String
  | [], _ => []
  | e :: es, s => entryRecords h m evn e s ++ entriesRecords h fl m evn es (enterOne h fl m (some evn) s e)

theorem exitsRecords_eq (h : Hooks) (fl : Flavor) (m : Machine) (evn : String) : ∀ (ps : List Path) (s : St),
    exitsRecords h fl m evn ps s = foldRecords (exitOne h fl m (some evn)) (exitRecords h m evn) ps s
  | [], _ => rfl
  | _ :: ps, _ => congrArg _ (exitsRecords_eq h fl m evn ps _)
theorem entriesRecords_eq (h : Hooks) (fl : Flavor) (m : Machine) (evn : String) : ∀ (es : List Entry) (s : St),
    entriesRecords h fl m evn es s = foldRecords (enterOne h fl m (some evn)) (entryRecords h m evn) es s
  | [], _ => rfl
  | _ :: es, _ => congrArg _ (entriesRecords_eq h fl m evn es _)

def afterExits (h : Hooks) (fl : Flavor) (m : Machine) (ev : Ev) (pl : Plan) (s : St) : St :=
  pl.exits.foldl (exitOne h fl m (some ev.type)) (recordHistory m pl.exits s)
def afterActions (h : Hooks) (fl : Flavor) (m : Machine) (ev : Ev) (pl : Plan) (s : St) : St :=
  let s2 := afterExits h fl m ev pl s
  if s2.err.isSome then s2 else execActions h pl.actions ev.type s2

def exitPhase (h : Hooks) (fl : Flavor) (m : Machine) (ev : Ev) (pl : Plan) (s : St) : List String :=
  exitsRecords h fl m ev.type pl.exits (recordHistory m pl.exits s)
def actionPhase (h : Hooks) (fl : Flavor) (m : Machine) (ev : Ev) (pl : Plan) (s : St) : List String :=
  actRecords h pl.actions ev.type (afterExits h fl m ev pl s)
def entryPhase (h : Hooks) (fl : Flavor) (m : Machine) (ev : Ev) (pl : Plan) (s : St) : List String :=
  entriesRecords h fl m ev.type pl.entries (afterActions h fl m ev pl s)

theorem runPlan_eq (h : Hooks) (fl : Flavor) (m : Machine) (ev : Ev) (pl : Plan) (s : St) :
    runPlan h fl m ev pl s =
      match pl.err with
      | some e => (pl.entries.foldl (enterOne h fl m (some ev.type)) (afterActions h fl m ev pl s)).fail e
      | none => pl.entries.foldl (enterOne h fl m (some ev.type)) (afterActions h fl m ev pl s) := rfl

theorem afterExits_chron (h : Hooks) (htr : HooksTraceOK h) (fl : Flavor) (m : Machine) (ev : Ev) (pl : Plan)
    (s : St) : (afterExits h fl m ev pl s).chron = s.chron ++ exitPhase h fl m ev pl s := by
  unfold afterExits exitPhase
  rw [exitsRecords_eq]
  exact foldRecords_chron _ _ (fun s p => exitOne_chron h htr fl m _ s p) _ _

theorem afterActions_chron (h : Hooks) (htr : HooksTraceOK h) (fl : Flavor) (m : Machine) (ev : Ev) (pl : Plan)
    (s : St) : (afterActions h fl m ev pl s).chron = (afterExits h fl m ev pl s).chron ++ actionPhase h fl m ev pl s := by
  unfold afterActions actionPhase
  simp only
  split
  · rename_i he; rw [actRecords_sticky h _ _ _ he, List.append_nil]
  · exact execActions_chron h htr _ _ _

theorem runPlan_chron (h : Hooks) (htr : HooksTraceOK h) (fl : Flavor) (m : Machine) (ev : Ev) (pl : Plan)
    (s : St) :
    (runPlan h fl m ev pl s).chron =
      s.chron ++ exitPhase h fl m ev pl s ++ actionPhase h fl m ev pl s ++ entryPhase h fl m ev pl s := by
  have h4 : (runPlan h fl m ev pl s).trace =
      (pl.entries.foldl (enterOne h fl m (some ev.type)) (afterActions h fl m ev pl s)).trace := by
    unfold runPlan afterActions afterExits
    split
    · exact fail_trace _ _
    · rfl
  rw [chron_of_trace_eq h4, foldRecords_chron _ _ (fun s e => enterOne_chron h htr fl m _ s e),
    afterActions_chron h htr, afterExits_chron h htr, entryPhase, entriesRecords_eq]

/-- every action name has a (non-coroutine) implementation that returns normally -/
def AllActionsOK (h : Hooks) : Prop := ∀ n c e, ∃ c', h.act n c e = .ok c'

def recOf (evn : String) (a : ActionRef) : String := a.type ++ "@" ++ evn

theorem foldl_actStep_ok (h : Hooks) (hall : AllActionsOK h) (nested : List ActionRef → String → St → St)
    (cut : Bool) (evType : String) :
    ∀ (as : List ActionRef) (acc : St × Bool), acc.2 = false → acc.1.err = none →
      (as.foldl (actStep h nested cut evType) acc).2 = false ∧
      (as.foldl (actStep h nested cut evType) acc).1.err = none ∧
      (as.foldl (actStep h nested cut evType) acc).1.trace = (as.map (recOf evType)).reverse ++ acc.1.trace := by
  intro as
  induction as with
  | nil => intro acc h2 he; exact ⟨h2, he, by simp⟩
  | cons a as ih =>
    intro acc h2 he
    simp only [List.foldl_cons]
    obtain ⟨c', hc'⟩ := hall a.type acc.1.ctx evType
    have hstep : actStep h nested cut evType acc a = (emit (recOf evType a) { acc.1 with ctx := c' }, false) := by
      unfold actStep
      simp only [h2, he, Option.isSome_none, Bool.or_self, Bool.false_eq_true, if_false, hc']
      rfl
    rw [hstep]
    obtain ⟨r1, r2, r3⟩ := ih (emit (recOf evType a) { acc.1 with ctx := c' }, false) rfl he
    refine ⟨r1, r2, ?_⟩
    rw [r3]
    simp [emit]

theorem execActions_ok (h : Hooks) (hall : AllActionsOK h) (as : List ActionRef) (evType : String) (s : St)
    (he : s.err = none) :
    (execActions h as evType s).err = none ∧
      (execActions h as evType s).trace = (as.map (recOf evType)).reverse ++ s.trace := by
  unfold execActions execActionsF
  obtain ⟨_, r2, r3⟩ := foldl_actStep_ok h hall _ false evType as (s, false) rfl he
  exact ⟨r2, r3⟩

theorem actRecords_ok (h : Hooks) (hall : AllActionsOK h) (as : List ActionRef) (evType : String) (s : St)
    (he : s.err = none) : actRecords h as evType s = as.map (recOf evType) := by
  unfold actRecords
  rw [(chron_of_trace (execActions_ok h hall as evType s he).2).2]
  simp

/-- the exit (entry) records of a state when every action succeeds: one per declared action, in order -/
def exitNames (m : Machine) (evn : String) (p : Path) : List String :=
  match m.defAt p with
  | some d => d.exit.map (recOf evn)
  | none => []
def entryNames (m : Machine) (evn : String) (p : Path) : List String :=
  match m.defAt p with
  | some d => d.entry.map (recOf evn)
  | none => []

theorem exitOne_ok (h : Hooks) (hall : AllActionsOK h) (fl : Flavor) (m : Machine) (evn : String)
    (s : St) (p : Path) (he : s.err = none) :
    (exitOne h fl m (some evn) s p).err = none ∧ exitRecords h m evn p s = exitNames m evn p := by
  unfold exitOne exitRecords exitNames
  simp only [he, Option.isSome_none, Bool.false_eq_true, if_false]
  cases hd : m.defAt p with
  | none => exact ⟨he, rfl⟩
  | some d =>
    simp only
    exact ⟨by rw [delActive_err]; exact (execActions_ok h hall _ _ s he).1, actRecords_ok h hall _ _ s he⟩

theorem enterOne_ok (h : Hooks) (hok : HooksOK h) (hall : AllActionsOK h) (fl : Flavor) (m : Machine)
    (evn : String) (s : St) (e : Entry) (he : s.err = none) :
    (enterOne h fl m (some evn) s e).err = none ∧ entryRecords h m evn e s = entryNames m evn e.path := by
  unfold enterOne entryRecords entryNames
  simp only [he, Option.isSome_none, Bool.false_eq_true, if_false]
  cases hd : m.defAt e.path with
  | none => exact ⟨he, rfl⟩
  | some d =>
    simp only
    have ha : (addActive e.path s).err = none := by rw [addActive_err]; exact he
    have hx := execActions_ok h hall d.entry (entryEvName fl m e (some evn)) (addActive e.path s) ha
    refine ⟨?_, actRecords_ok h hall _ _ _ ha⟩
    simp only [hx.1, Option.isSome_none, Bool.false_eq_true, if_false]
    split
    · rw [(checkDone_cfg_err h hok m e.path _).2]; exact hx.1
    · exact hx.1

theorem execActions_hist (h : Hooks) (htr : HooksTraceOK h) (evType : String) (as : List ActionRef) (s : St) :
    (execActions h as evType s).hist = s.hist :=
  execActions_rel histEq_act h ⟨htr.snd_hist, htr.raise_hist⟩ as evType s

theorem execute_hist_eq (h : Hooks) (fl : Flavor) (m : Machine) (ev : Ev) (pl : Plan) (s : St) :
    (execute h fl m ev pl s).hist = (executeCore h fl m ev pl s).hist := by
  unfold execute; simp only; split <;> rfl

theorem execute_internal_hist (h : Hooks) (htr : HooksTraceOK h) (fl : Flavor) (m : Machine) (ev : Ev)
    (pl : Plan) (s : St) (hint : pl.internal = true) : (execute h fl m ev pl s).hist = s.hist := by
  rw [execute_hist_eq]
  unfold executeCore
  simp only [hint, if_true]
  split
  · exact fail_hist _ _
  · exact execActions_hist h htr _ _ _

def obsPart (h : Hooks) (fl : Flavor) (m : Machine) (ev : Ev) (pl : Plan) (s : St) : List String :=
  if (execute h fl m ev pl s).err.isSome then [] else [obsRecord m (execute h fl m ev pl s)]

theorem execute_chron_core (h : Hooks) (fl : Flavor) (m : Machine) (ev : Ev) (pl : Plan) (s : St) :
    (execute h fl m ev pl s).chron = (executeCore h fl m ev pl s).chron ++ obsPart h fl m ev pl s := by
  have he := execute_err_eq h fl m ev pl s
  have hc := execute_cfg_eq h fl m ev pl s
  unfold obsPart obsRecord
  rw [he, hc]
  unfold execute
  simp only
  split
  · simp
  · exact chron_emit _ _

theorem execute_internal_chron (h : Hooks) (htr : HooksTraceOK h) (fl : Flavor) (m : Machine) (ev : Ev)
    (pl : Plan) (s : St) (hint : pl.internal = true) :
    (execute h fl m ev pl s).chron =
      s.chron ++ (match pl.err with | some _ => [] | none => actRecords h pl.actions ev.type s)
        ++ obsPart h fl m ev pl s := by
  rw [execute_chron_core]
  congr 1
  unfold executeCore
  simp only [hint, if_true]
  cases hp : pl.err with
  | some e => simp only; rw [chron_of_trace_eq (fail_trace _ _)]; simp
  | none => exact execActions_chron h htr _ _ _

theorem execute_external_chron (h : Hooks) (htr : HooksTraceOK h) (fl : Flavor) (m : Machine) (ev : Ev)
    (pl : Plan) (s : St) (hint : pl.internal = false) :
    (execute h fl m ev pl s).chron =
      s.chron ++ exitPhase h fl m ev pl s ++ actionPhase h fl m ev pl s ++ entryPhase h fl m ev pl s
        ++ obsPart h fl m ev pl s := by
  rw [execute_chron_core]
  congr 1
  rw [← runPlan_chron h htr]
  unfold executeCore
  simp only [hint, Bool.false_eq_true, if_false]
  split
  · rfl
  · rfl

theorem sortExit_perm_self (m : Machine) (xs : List Path) : (sortExit m xs).Perm xs := by
  unfold sortExit
  exact (List.reverse_perm _).trans (sortBy_perm _ xs)

theorem sortExit_nodup (m : Machine) (xs : List Path) (h : xs.Nodup) : (sortExit m xs).Nodup :=
  (sortExit_perm_self m xs).nodup_iff.2 h

theorem pairwise_split {α} {R : α → α → Prop} {l l1 l2 : List α} {a b : α} (h : l.Pairwise R)
    (hl : l = l1 ++ a :: l2) (hb : b ∈ l2) : R a b := by
  subst hl
  have h2 := (List.pairwise_append.1 h).2.1
  exact (List.pairwise_cons.1 h2).1 b hb

/-- "later is not an ancestor-or-self of earlier": gives both parents-first and no duplicates -/
def NoLaterPrefix (l : List Path) : Prop := l.Pairwise (fun x y => ¬ y <+: x)

theorem NoLaterPrefix.nodup {l : List Path} (h : NoLaterPrefix l) : l.Nodup :=
  List.Pairwise.imp (fun {a b} hab heq => hab (by rw [heq]; exact List.prefix_refl _)) h

theorem noLaterPrefix_append_regions {p : Path} {k : String} {l1 l2 : List Path} (h1 : NoLaterPrefix l1)
    (h2 : NoLaterPrefix l2) (hb1 : ∀ x ∈ l1, (p ++ [k]) <+: x) (hb2 : ∀ y ∈ l2, ∃ k', k' ≠ k ∧ (p ++ [k']) <+: y) :
    NoLaterPrefix (l1 ++ l2) :=
  List.pairwise_append.2 ⟨h1, h2, fun x hx y hy hyx => by
    obtain ⟨k', hne, hk'⟩ := hb2 y hy
    exact hne (snoc_prefix_inj (hk'.trans hyx) (hb1 x hx))⟩

theorem noLaterPrefix_cons_below {p : Path} {l : List Path} (h : NoLaterPrefix l)
    (hb : ∀ q ∈ l, ∃ k, (p ++ [k]) <+: q) : NoLaterPrefix (p :: l) :=
  List.pairwise_cons.2 ⟨fun q hq hqp => by
    obtain ⟨k, hk⟩ := hb q hq
    exact not_snoc_prefix_self p k (hk.trans hqp), h⟩

theorem regionsNotIn_parents_first (L : List Path) (p : Path) (ks : List (String × SNode))
    (hnd : (ks.map (·.1)).Nodup) (hc : ∀ k c, (k, c) ∈ ks → NoLaterPrefix (enterDefault (p ++ [k]) c)) :
    NoLaterPrefix (regionsNotIn L p ks) := by
  induction ks with
  | nil => exact List.Pairwise.nil
  | cons hd rest ih =>
    obtain ⟨k', c⟩ := hd
    simp only [List.map_cons, List.nodup_cons] at hnd
    simp only [regionsNotIn]
    refine noLaterPrefix_append_regions (p := p) (k := k') ?_
      (ih hnd.2 fun k c hm => hc k c (List.mem_cons_of_mem _ hm)) ?_ ?_
    · exact ite_elim NoLaterPrefix (fun _ => List.Pairwise.nil) fun _ => hc k' c List.mem_cons_self
    · exact ite_elim (fun l : List Path => ∀ x ∈ l, (p ++ [k']) <+: x) (fun _ => nofun) fun _ => enterDefault_prefix _ _
    · intro y hy
      obtain ⟨k2, c2, hm, _, _, hq⟩ := mem_regionsNotIn.1 hy
      exact ⟨k2, fun e => hnd.1 (e ▸ List.mem_map_of_mem (f := (·.1)) hm), enterDefault_prefix _ _ y hq⟩

theorem extraAt_parents_first (L : List Path) (p : Path) (d : StateDef) (kids : List (String × SNode))
    (hnd : (kids.map (·.1)).Nodup) (hc : ∀ k c, (k, c) ∈ kids → NoLaterPrefix (enterDefault (p ++ [k]) c)) :
    NoLaterPrefix (p :: extraAt L p (.mk d kids)) := by
  rw [extraAt]
  cases d.kind with
  | compound =>
    refine ite_elim (fun l => NoLaterPrefix (p :: l)) (fun _ => List.pairwise_singleton _ _) fun _ => ?_
    cases d.initial with
    | none => exact List.pairwise_singleton _ _
    | some k =>
      dsimp only
      rw [enterInit_eq]
      cases hf : findKid k kids with
      | none => exact List.pairwise_singleton _ _
      | some c =>
        exact noLaterPrefix_cons_below (hc k c (findKid_some_mem hf)) fun q hq => ⟨k, enterDefault_prefix _ c q hq⟩
  | parallel =>
    refine noLaterPrefix_cons_below (regionsNotIn_parents_first L p kids hnd hc) fun q hq => ?_
    obtain ⟨k, c, _, _, _, hq⟩ := mem_regionsNotIn.1 hq
    exact ⟨k, enterDefault_prefix _ c q hq⟩
  | _ => exact List.pairwise_singleton _ _

theorem enterDefault_parents_first (p : Path) (n : SNode) (hwf : WF n) : NoLaterPrefix (enterDefault p n) := by
  induction n using SNode.ind generalizing p with
  | h d kids ih =>
    rw [enterDefault_eq_extraAt]
    exact extraAt_parents_first [] p d kids (wf_nodup hwf) fun k c hm => ih k c hm _ (wf_kid hwf hm)

theorem extra_parents_first (root : SNode) (hwf : WF root) (L : List Path) (p : Path) :
    NoLaterPrefix (p :: extra root L p) := by
  cases hat : root.at p with
  | none => unfold extra; rw [hat]; exact List.pairwise_singleton _ _
  | some n =>
    rw [extra_eq_extraAt hat]
    match n, hat with
    | .mk d kids, hat =>
      have hwfn := wf_at hwf p _ hat
      exact extraAt_parents_first L p d kids (wf_nodup hwfn) fun k c hm =>
        enterDefault_parents_first _ c (wf_kid hwfn hm)

theorem extra_strictly_below {root : SNode} {L : List Path} {p q : Path} (h : q ∈ extra root L p) :
    p <+: q ∧ p ≠ q := by
  obtain ⟨k, hk, _⟩ := extra_below_nonmember h
  refine ⟨prefix_of_snoc_prefix hk, ?_⟩
  intro heq
  subst heq
  exact not_snoc_prefix_self p k hk

theorem pathToEnter_parents_first (dom tgt : Path) : NoLaterPrefix (pathToEnter dom tgt) := by
  unfold NoLaterPrefix pathToEnter
  rw [List.pairwise_map]
  refine List.Pairwise.imp_of_mem ?_ (List.pairwise_lt_range (n := tgt.length - dom.length))
  intro i j _ hj hij hp
  have hjl : dom.length + 1 + j ≤ tgt.length := by
    rw [Nat.add_right_comm]; exact Nat.add_lt_of_lt_sub' (List.mem_range.1 hj)
  have := hp.length_le
  rw [List.length_take, List.length_take, Nat.min_eq_left hjl] at this
  exact absurd (Nat.le_trans this (Nat.min_le_left _ _)) (Nat.not_le.2 (Nat.add_lt_add_left hij _))

/-- **entry order, general form**: if the explicit list `L` is itself parents-first and convex (with two
    comparable members it contains everything between them) then so is everything `_enter_states(L)` enters -/
theorem enterStates_parents_first (root : SNode) (hwf : WF root) (L : List Path) (hL : NoLaterPrefix L)
    (hconv : ∀ a ∈ L, ∀ q ∈ L, a <+: q → ∀ p', a <+: p' → p' <+: q → p' ∈ L) :
    NoLaterPrefix (enterStates root L) := by
  unfold NoLaterPrefix enterStates
  rw [List.pairwise_flatMap]
  constructor
  · exact fun p _ => extra_parents_first root hwf L p
  · refine List.Pairwise.imp_of_mem ?_ hL
    intro a1 a2 ha1 ha2 hnot x hx y hy hyx
    have ha2y : a2 <+: y := by
      rcases List.mem_cons.1 hy with rfl | hy
      · exact List.prefix_refl _
      · exact (extra_strictly_below hy).1
    have ha2x : a2 <+: x := List.IsPrefix.trans ha2y hyx
    have ha1x : a1 <+: x := by
      rcases List.mem_cons.1 hx with rfl | hx
      · exact List.prefix_refl _
      · exact (extra_strictly_below hx).1
    -- a1 and a2 are comparable; a2 is not above a1, so a1 is strictly above a2
    have h12 : a1 <+: a2 := by
      rcases List.prefix_or_prefix_of_prefix ha1x ha2x with h | h
      · exact h
      · exact absurd h hnot
    have hne : a1 ≠ a2 := fun e => hnot (by rw [e]; exact List.prefix_refl _)
    rcases List.mem_cons.1 hx with rfl | hx
    · exact hne (h12.eq_of_length (Nat.le_antisymm h12.length_le ha2x.length_le))
    · obtain ⟨k, hk, hkL⟩ := extra_below_nonmember hx
      obtain ⟨k', hk'⟩ := strict_prefix_snoc h12 hne
      have hk'L : (a1 ++ [k']) ∈ L := hconv a1 ha1 a2 ha2 h12 _ (List.prefix_append _ _) hk'
      have : k = k' := snoc_prefix_inj hk (List.IsPrefix.trans hk' ha2x)
      subst this
      exact hkL hk'L

theorem enterStates_chain_parents_first (root : SNode) (hwf : WF root) (dom tgt : Path) (hd : dom <+: tgt) :
    NoLaterPrefix (enterStates root (pathToEnter dom tgt)) := by
  refine enterStates_parents_first root hwf _ (pathToEnter_parents_first dom tgt) ?_
  intro a ha q hq _ p' hap' hp'q
  obtain ⟨ha1, ha2, _⟩ := (mem_pathToEnter hd).1 ha
  obtain ⟨_, _, hq3⟩ := (mem_pathToEnter hd).1 hq
  refine (mem_pathToEnter hd).2 ⟨List.IsPrefix.trans ha1 hap', ?_, List.IsPrefix.trans hp'q hq3⟩
  intro h
  subst h
  exact ha2 (hap'.eq_of_length (Nat.le_antisymm hap'.length_le ha1.length_le))

theorem plain_plan (m : Machine) (cfg : List Path) (hist : List (Path × List Path)) (c : Cand) (tgt : Path)
    (hwf : WF m.root) (hi : InitOK m.root) (hp : PlainTarget m c tgt) :
    (planTransition m cfg hist c).internal = false ∧
    (planTransition m cfg hist c).err = none ∧
    (planTransition m cfg hist c).actions = c.t.actions ∧
    (planTransition m cfg hist c).exits = sortExit m (Spec.exitSet m.root cfg (Spec.domain c.src tgt) tgt) ∧
    (planTransition m cfg hist c).entries.map (·.path) =
      enterStates m.root (pathToEnter (Spec.domain c.src tgt) tgt) := by
  obtain ⟨h1, h2⟩ := planEnter_eq m _ hwf hi (plain_chain_valid m c tgt hp)
  rw [planTransition_plain m cfg hist c tgt hp]
  exact ⟨rfl, h1, rfl, rfl, h2⟩

/-- the child of the domain on the way to the target -/
def regionOf (dom tgt : Path) : Path := tgt.take (dom.length + 1)

theorem exited_below {root : SNode} {c : List Path} {dom tgt q : Path} (h : q ∈ Spec.exitSet root c dom tgt) :
    q ∈ c ∧ dom <+: q ∧ q ≠ dom := by
  obtain ⟨h1, h2, h3, _⟩ := mem_exitSet.1 h
  exact ⟨h1, h2, h3⟩

theorem entered_below {root : SNode} {dom tgt q : Path} (hd : dom <+: tgt)
    (h : q ∈ enterStates root (pathToEnter dom tgt)) : regionOf dom tgt <+: q ∧ dom <+: q ∧ q ≠ dom := by
  obtain ⟨p, hp, hor⟩ := mem_enterStates.1 h
  obtain ⟨h1, h2, h3⟩ := (mem_pathToEnter hd).1 hp
  have hpq : p <+: q := by
    rcases hor with rfl | hex
    · exact List.prefix_refl _
    · exact (extra_strictly_below hex).1
  have hlen : dom.length < p.length := strict_prefix_length h1 (fun e => h2 e.symm)
  have hrp : regionOf dom tgt <+: p := by
    refine List.prefix_of_prefix_length_le (List.take_prefix _ _) h3 ?_
    simp only [regionOf, List.length_take]
    omega
  refine ⟨List.IsPrefix.trans hrp hpq, List.IsPrefix.trans h1 hpq, ?_⟩
  intro heq
  have := hpq.length_le
  rw [heq] at this
  omega

/-- **a state is never entered while active**: an entered state that is active is in the exit set -/
theorem entered_active_is_exited {root : SNode} {c : List Path} {dom tgt q : Path} (hd : dom <+: tgt)
    (h : q ∈ enterStates root (pathToEnter dom tgt)) (hq : q ∈ c) : q ∈ Spec.exitSet root c dom tgt := by
  obtain ⟨h1, h2, h3⟩ := entered_below hd h
  exact mem_exitSet.2 ⟨hq, h2, h3, fun _ => h1⟩

theorem lcp_of_prefix_right : ∀ (a b : Path), b <+: a → lcp a b = b
  | _, [], _ => by cases ‹Path› <;> simp [lcp]
  | [], y :: bs, h => by simp at h
  | x :: as, y :: bs, h => by
    have hxy : y = x ∧ bs <+: as := by
      obtain ⟨t, ht⟩ := h
      simp only [List.cons_append, List.cons.injEq] at ht
      exact ⟨ht.1, ⟨t, ht.2⟩⟩
    obtain ⟨rfl, hbs⟩ := hxy
    simp only [lcp, if_true]
    rw [lcp_of_prefix_right as bs hbs]

theorem lcp_self (a : Path) : lcp a a = a := lcp_of_prefix_right a a (List.prefix_refl _)

theorem domain_cases (src tgt : Path) :
    (tgt <+: src ∧ Spec.domain src tgt = tgt.dropLast ∧ lcp src tgt = tgt) ∨
    (¬ tgt <+: src ∧ Spec.domain src tgt = lcp src tgt) := by
  by_cases h : tgt <+: src
  · left
    refine ⟨h, ?_, lcp_of_prefix_right _ _ h⟩
    unfold Spec.domain
    split
    · rename_i he; rw [he]
    · simp
  · right
    refine ⟨h, ?_⟩
    unfold Spec.domain
    have : tgt ≠ src := fun e => h (by rw [e]; exact List.prefix_refl _)
    simp [this, h]

theorem regionOf_snoc (dom tgt : Path) (hd : dom <+: tgt) (hne : dom ≠ tgt) :
    ∃ k, regionOf dom tgt = dom ++ [k] := by
  obtain ⟨t, rfl⟩ := hd
  cases t with
  | nil => simp at hne
  | cons k t => exact ⟨k, by rw [regionOf, List.append_cons, List.take_left' (by simp)]⟩

def activity (c : List Path) (q : Path) : Int := if q ∈ c then 1 else 0

/-- the counting form of "`cfg' = (cfg \ X) ∪ E`": for every state, entries minus exits is the change in
    activity, provided nothing is exited that is not active, nothing is exited or entered twice, and
    nothing active is entered without being exited -/
theorem accounting_count (cfg cfg' X E : List Path)
    (hmem : ∀ q, q ∈ cfg' ↔ (q ∈ cfg ∧ q ∉ X) ∨ q ∈ E)
    (hX : ∀ q ∈ X, q ∈ cfg) (hXn : X.Nodup) (hEn : E.Nodup) (hnea : ∀ q ∈ E, q ∈ cfg → q ∈ X) (q : Path) :
    activity cfg' q - activity cfg q = (E.count q : Int) - (X.count q : Int) := by
  unfold activity
  rw [hXn.count, hEn.count]
  by_cases h2 : q ∈ X
  · -- exited, hence active before; active afterwards iff entered
    have : q ∈ cfg' ↔ q ∈ E := by rw [hmem]; exact ⟨fun h => h.elim (fun h => absurd h2 h.2) id, .inr⟩
    rw [if_pos (hX q h2), if_pos h2]
    simp only [this]
    split <;> rfl
  · by_cases h3 : q ∈ E
    · -- entered and not exited, hence not active before
      rw [if_pos ((hmem q).2 (.inr h3)), if_neg fun h => h2 (hnea q h3 h), if_pos h3, if_neg h2]
      rfl
    · have : q ∈ cfg' ↔ q ∈ cfg := by
        rw [hmem]; exact ⟨fun h => h.elim (·.1) (absurd · h3), fun h => .inl ⟨h, h2⟩⟩
      rw [if_neg h3, if_neg h2]
      simp only [this]
      exact Int.sub_self _

theorem exitSet_nodup (root : SNode) (c : List Path) (dom tgt : Path) (h : c.Nodup) :
    (Spec.exitSet root c dom tgt).Nodup := by
  unfold Spec.exitSet
  simp only
  split
  · exact List.Pairwise.filter _ (List.Pairwise.filter _ h)
  · exact List.Pairwise.filter _ h

theorem addActive_nodup (p : Path) (s : St) (h : s.cfg.Nodup) : (addActive p s).cfg.Nodup := by
  unfold addActive
  split
  · exact h
  · rename_i hc
    have hp : p ∉ s.cfg := by simpa using hc
    simp only
    refine List.nodup_append.2 ⟨h, by simp, ?_⟩
    intro a ha b hb
    simp only [List.mem_singleton] at hb
    subst hb
    intro e; subst e; exact hp ha
theorem delActive_nodup (p : Path) (s : St) (h : s.cfg.Nodup) : (delActive p s).cfg.Nodup :=
  List.Pairwise.filter _ h

theorem enterOne_nodup (h : Hooks) (hok : HooksOK h) (fl : Flavor) (m : Machine) (ev : Option String)
    (s : St) (e : Entry) (hn : s.cfg.Nodup) : (enterOne h fl m ev s e).cfg.Nodup := by
  unfold enterOne
  refine ite_elim (fun x : St => x.cfg.Nodup) (fun _ => hn) fun _ => ?_
  cases m.defAt e.path with
  | none => exact hn
  | some d =>
    have hn' : (execActions h d.entry (entryEvName fl m e ev) (addActive e.path s)).cfg.Nodup := by
      rw [execActions_cfg h hok]; exact addActive_nodup e.path s hn
    refine ite_elim (fun x : St => x.cfg.Nodup) (fun _ => hn') fun _ => ite_elim (fun x : St => x.cfg.Nodup) (fun _ => ?_) fun _ => hn'
    rw [(checkDone_cfg_err h hok m e.path _).1]; exact hn'
theorem exitOne_nodup (h : Hooks) (hok : HooksOK h) (fl : Flavor) (m : Machine) (ev : Option String)
    (s : St) (p : Path) (hn : s.cfg.Nodup) : (exitOne h fl m ev s p).cfg.Nodup := by
  unfold exitOne
  refine ite_elim (fun x : St => x.cfg.Nodup) (fun _ => hn) fun _ => ?_
  cases m.defAt p with
  | none => exact hn
  | some d => exact delActive_nodup p _ (by rw [execActions_cfg h hok]; exact hn)

theorem runPlan_nodup (h : Hooks) (hok : HooksOK h) (fl : Flavor) (m : Machine) (ev : Ev) (pl : Plan) (s : St)
    (hn : s.cfg.Nodup) : (runPlan h fl m ev pl s).cfg.Nodup := by
  have h2 : (afterExits h fl m ev pl s).cfg.Nodup :=
    foldl_inv (P := fun s => s.cfg.Nodup) _ (fun s p => exitOne_nodup h hok fl m _ s p) _ (recordHistory m pl.exits s) hn
  have h3 : (afterActions h fl m ev pl s).cfg.Nodup :=
    ite_elim (fun x : St => x.cfg.Nodup) (fun _ => h2) fun _ => by rw [execActions_cfg h hok]; exact h2
  have h4 := foldl_inv (P := fun s => s.cfg.Nodup) _ (fun s e => enterOne_nodup h hok fl m (some ev.type) s e)
    pl.entries _ h3
  rw [runPlan_eq]
  cases pl.err with
  | some e => rw [fail_cfg]; exact h4
  | none => exact h4

theorem execute_nodup (h : Hooks) (hok : HooksOK h) (fl : Flavor) (m : Machine) (ev : Ev) (pl : Plan) (s : St)
    (hn : s.cfg.Nodup) : (execute h fl m ev pl s).cfg.Nodup := by
  rw [execute_cfg_eq]
  unfold executeCore
  refine ite_elim (fun x : St => x.cfg.Nodup) (fun _ => ?_) fun _ =>
    ite_elim (fun x : St => x.cfg.Nodup) (fun _ => hn) fun _ => runPlan_nodup h hok fl m ev pl s hn
  cases pl.err with
  | some e => rw [fail_cfg]; exact hn
  | none => rw [execActions_cfg h hok]; exact hn

/-- **never entered while active, dynamically**: in a successful external transition whose entry list
    has no duplicates and enters nothing active that it does not exit, every `enterOne` is applied in a
    state where the entered path is not in the configuration -/
theorem enter_fresh (h : Hooks) (hok : HooksOK h) (fl : Flavor) (m : Machine) (ev : Ev) (pl : Plan) (s : St)
    (hint : pl.internal = false)
    (hvx : ∀ p ∈ pl.exits, (m.defAt p).isSome) (hve : ∀ e ∈ pl.entries, (m.defAt e.path).isSome)
    (hr : (execute h fl m ev pl s).err = none)
    (hEn : (pl.entries.map (·.path)).Nodup)
    (hnea : ∀ e ∈ pl.entries, e.path ∈ s.cfg → e.path ∈ pl.exits)
    (l1 l2 : List Entry) (e : Entry) (hsplit : pl.entries = l1 ++ e :: l2) :
    e.path ∉ (l1.foldl (enterOne h fl m (some ev.type)) (afterActions h fl m ev pl s)).cfg := by
  rw [execute_err_eq, executeCore_external h fl m ev pl s hint] at hr
  have hrun : (runPlan h fl m ev pl s).err = none := by split at hr <;> exact hr
  have hperr := (runPlan_cfg h hok fl m ev pl s hvx hve hrun).1
  rw [runPlan_eq, hperr, hsplit, List.foldl_append] at hrun
  rw [hsplit] at hve hnea hEn
  have hmid := (enterFold_spec h hok fl m (some ev.type) (e :: l2) _
    (fun e' he' => hve e' (List.mem_append_right _ he')) hrun).1
  -- the state in which `e` is entered is the result of the plan that stops before `e`
  have hcfg := (runPlan_cfg h hok fl m ev { pl with entries := l1, err := none } s hvx
    (fun e' he' => hve e' (List.mem_append_left _ he')) hmid).2 e.path
  intro hin
  rcases hcfg.1 hin with ⟨hc, hx⟩ | h1
  · exact hx (hnea e (List.mem_append_right _ List.mem_cons_self) hc)
  · rw [List.map_append, List.map_cons] at hEn
    exact (List.nodup_append.1 hEn).2.2 e.path h1 e.path List.mem_cons_self rfl

theorem Adds.of_chron {P : String → Prop} {s s' : St} {T : List String} (h : s'.chron = s.chron ++ T)
    (hP : ∀ r ∈ T, P r) : Adds P s s' := by
  refine ⟨T.reverse, ?_, fun r hr => hP r (List.mem_reverse.1 hr)⟩
  have := congrArg List.reverse h
  simpa [St.chron] using this

/-- a record written while a transition for event `evn` executes: an action record carrying `evn`, a
    contained-failure marker, or the observer record `#t:…` -/
def TransRec (evn : String) (r : String) : Prop := ActRec evn r ∨ ∃ x, r = "#t:" ++ x

theorem phases_event (h : Hooks) (htr : HooksTraceOK h) (fl : Flavor) (m : Machine) (ev : Ev) (pl : Plan) (s : St) :
    (∀ r ∈ exitPhase h fl m ev pl s, ActRec ev.type r) ∧ (∀ r ∈ actionPhase h fl m ev pl s, ActRec ev.type r) ∧
    (∀ r ∈ entryPhase h fl m ev pl s, ActRec ev.type r) := by
  unfold exitPhase entryPhase
  rw [exitsRecords_eq, entriesRecords_eq]
  exact ⟨foldRecords_forall _ _ (exitRecords_event h htr m _) _ _, actRecords_event h htr _ _ _,
    foldRecords_forall _ _ (entryRecords_event h htr m _) _ _⟩

theorem obsPart_rec (h : Hooks) (fl : Flavor) (m : Machine) (ev : Ev) (pl : Plan) (s : St) :
    ∀ r ∈ obsPart h fl m ev pl s, ∃ x, r = "#t:" ++ x := by
  unfold obsPart
  split
  · simp
  · intro r hr
    simp only [List.mem_singleton] at hr
    exact ⟨_, hr⟩

theorem execute_adds (h : Hooks) (htr : HooksTraceOK h) (fl : Flavor) (m : Machine) (ev : Ev) (pl : Plan) (s : St) :
    Adds (TransRec ev.type) s (execute h fl m ev pl s) := by
  cases hint : pl.internal with
  | true =>
    refine Adds.of_chron (by rw [execute_internal_chron h htr fl m ev pl s hint, List.append_assoc]) ?_
    intro r hr
    rcases List.mem_append.1 hr with hr | hr
    · left
      cases hp : pl.err with
      | some e => simp [hp] at hr
      | none => simp only [hp] at hr; exact actRecords_event h htr _ _ _ r hr
    · exact Or.inr (obsPart_rec h fl m ev pl s r hr)
  | false =>
    obtain ⟨p1, p2, p3⟩ := phases_event h htr fl m ev pl s
    refine Adds.of_chron (T := exitPhase h fl m ev pl s ++ (actionPhase h fl m ev pl s ++
        (entryPhase h fl m ev pl s ++ obsPart h fl m ev pl s))) (by
      rw [execute_external_chron h htr fl m ev pl s hint]
      simp only [List.append_assoc]) ?_
    intro r hr
    simp only [List.mem_append] at hr
    rcases hr with hr | hr | hr | hr
    · exact Or.inl (p1 r hr)
    · exact Or.inl (p2 r hr)
    · exact Or.inl (p3 r hr)
    · exact Or.inr (obsPart_rec h fl m ev pl s r hr)

theorem processEvent_adds (h : Hooks) (htr : HooksTraceOK h) (fl : Flavor) (m : Machine) (u : UEnv) (ev : Ev)
    (s : St) : Adds (TransRec ev.type) s (processEvent h fl m u ev s) := by
  cases hs : selectTransitions m s.cfg (u.genv s.ctx ev.type) ev with
  | error e => unfold processEvent; rw [hs]; exact Adds.of_eq (fail_trace _ _)
  | ok sel =>
    rw [processEvent_peFold h fl m u ev s hs]
    refine foldl_rel (Adds.refl _) Adds.trans _ (fun s c => ?_) sel s
    rcases peStep_cases h fl m ev sel.length s c with hst | ⟨_, _, _, hst⟩
    · rw [hst]; exact .refl _ _
    · rw [hst]; exact execute_adds h htr fl m ev _ s

section plain
variable (m : Machine) (cfg : List Path) (hist : List (Path × List Path)) (c : Cand) (tgt : Path)

theorem plain_exits_active (hp : PlainTarget m c tgt) : ∀ p ∈ (planTransition m cfg hist c).exits, p ∈ cfg := by
  intro p hpm
  rw [planTransition_plain m cfg hist c tgt hp] at hpm
  exact (exited_below ((mem_sortExit m p _).1 hpm)).1

theorem plain_exits_nodup (hp : PlainTarget m c tgt) (hn : cfg.Nodup) : (planTransition m cfg hist c).exits.Nodup := by
  rw [planTransition_plain m cfg hist c tgt hp]
  exact sortExit_nodup m _ (exitSet_nodup _ _ _ _ hn)

theorem plain_entries_order (hwf : WF m.root) (hi : InitOK m.root) (hp : PlainTarget m c tgt) :
    NoLaterPrefix ((planTransition m cfg hist c).entries.map (·.path)) := by
  rw [(plain_plan m cfg hist c tgt hwf hi hp).2.2.2.2]
  exact enterStates_chain_parents_first m.root hwf _ _ (domain_prefix_tgt c.src tgt)

theorem plain_never_enter_active (hwf : WF m.root) (hi : InitOK m.root) (hp : PlainTarget m c tgt) :
    ∀ e ∈ (planTransition m cfg hist c).entries, e.path ∈ cfg → e.path ∈ (planTransition m cfg hist c).exits := by
  intro e he hc
  obtain ⟨_, _, _, hx, hE⟩ := plain_plan m cfg hist c tgt hwf hi hp
  rw [hx, mem_sortExit]
  refine entered_active_is_exited (domain_prefix_tgt c.src tgt) ?_ hc
  rw [← hE]; exact List.mem_map_of_mem he

theorem plain_valid (hwf : WF m.root) (hi : InitOK m.root) (hp : PlainTarget m c tgt)
    (hst : ∀ q ∈ cfg, ∃ n, m.root.at q = some n) :
    (∀ p ∈ (planTransition m cfg hist c).exits, (m.defAt p).isSome) ∧
    (∀ e ∈ (planTransition m cfg hist c).entries, (m.defAt e.path).isSome) := by
  obtain ⟨_, _, _, _, hE⟩ := plain_plan m cfg hist c tgt hwf hi hp
  constructor
  · intro p hpm
    obtain ⟨n, hn⟩ := hst p (plain_exits_active m cfg hist c tgt hp p hpm)
    exact defAt_isSome_of_at hn
  · intro e he
    have : e.path ∈ enterStates m.root (pathToEnter (Spec.domain c.src tgt) tgt) := by
      rw [← hE]; exact List.mem_map_of_mem he
    obtain ⟨n, hn⟩ := enterStates_at m.root hwf _ (plain_chain_valid m c tgt hp) e.path this
    exact defAt_isSome_of_at hn

end plain

theorem plain_accounting (h : Hooks) (hok : HooksOK h) (fl : Flavor) (m : Machine) (ev : Ev) (c : Cand) (s : St)
    (tgt : Path) (hwf : WF m.root) (hi : InitOK m.root) (hp : PlainTarget m c tgt)
    (hst : ∀ q ∈ s.cfg, ∃ n, m.root.at q = some n) (hn : s.cfg.Nodup)
    (hr : (execute h fl m ev (planTransition m s.cfg s.hist c) s).err = none) (q : Path) :
    activity (execute h fl m ev (planTransition m s.cfg s.hist c) s).cfg q - activity s.cfg q =
      (((planTransition m s.cfg s.hist c).entries.map (·.path)).count q : Int) -
        ((planTransition m s.cfg s.hist c).exits.count q : Int) := by
  obtain ⟨hvx, hve⟩ := plain_valid m s.cfg s.hist c tgt hwf hi hp hst
  obtain ⟨_, hmem⟩ := execute_cfg h hok fl m ev _ s (plain_plan m s.cfg s.hist c tgt hwf hi hp).1 hvx hve hr
  refine accounting_count s.cfg _ _ _ hmem (plain_exits_active m s.cfg s.hist c tgt hp)
    (plain_exits_nodup m s.cfg s.hist c tgt hp hn)
    (plain_entries_order m s.cfg s.hist c tgt hwf hi hp).nodup ?_ q
  intro q' hq' hc
  obtain ⟨e, he, rfl⟩ := List.mem_map.1 hq'
  exact plain_never_enter_active m s.cfg s.hist c tgt hwf hi hp e he hc

/-- over the transitions an event really fires, from state `s`: (times `q` is in an entry list) minus
    (times it is in an exit list) -/
def evNet (h : Hooks) (fl : Flavor) (m : Machine) (ev : Ev) (multi : Bool) : List Cand → St → Path → Int
  | [], _, _ => 0
  | c :: cs, s, q =>
    if s.err.isSome then 0
    -- the machine has completed: the remaining selected transitions do not fire (`break`)
    else if finished s.status then 0
    else if multi && !(s.cfg.contains c.src) then evNet h fl m ev multi cs s q
    else
      (((planTransition m s.cfg s.hist c).entries.map (·.path)).count q : Int)
        - ((planTransition m s.cfg s.hist c).exits.count q : Int)
        + evNet h fl m ev multi cs (execute h fl m ev (planTransition m s.cfg s.hist c) s) q

/-- nothing fires from a state that carries an error or has finished -/
def Stopped (s : St) : Prop := s.err.isSome = true ∨ finished s.status = true

theorem peFold_stopped (h : Hooks) (fl : Flavor) (m : Machine) (ev : Ev) (n : Nat) (cs : List Cand)
    (s : St) (hs : Stopped s) : cs.foldl (peStep h fl m ev n) s = s :=
  hs.elim (peFold_err h fl m ev n cs s) (peFold_finished h fl m ev n cs s)

theorem evNet_stopped (h : Hooks) (fl : Flavor) (m : Machine) (ev : Ev) (multi : Bool) (cs : List Cand)
    (s : St) (q : Path) (hs : Stopped s) : evNet h fl m ev multi cs s q = 0 := by
  cases cs with
  | nil => rfl
  | cons c cs =>
    unfold evNet
    refine ite_elim (· = 0) (fun _ => rfl) fun he => ?_
    rw [if_pos (hs.resolve_left he)]

theorem cand_accounting (h : Hooks) (hok : HooksOK h) (fl : Flavor) (m : Machine) (ev : Ev) (c : Cand) (s : St)
    (hwf : WF m.root) (hi : InitOK m.root) (hc : CandPlain m c)
    (hst : ∀ q ∈ s.cfg, ∃ n, m.root.at q = some n) (hn : s.cfg.Nodup)
    (hr : (execute h fl m ev (planTransition m s.cfg s.hist c) s).err = none) (q : Path) :
    activity (execute h fl m ev (planTransition m s.cfg s.hist c) s).cfg q - activity s.cfg q =
      (((planTransition m s.cfg s.hist c).entries.map (·.path)).count q : Int) -
        ((planTransition m s.cfg s.hist c).exits.count q : Int) := by
  rcases candPlain_cases m s.cfg s.hist c hc with hint | ⟨tgt, hp⟩
  · rw [hint, execute_internal_cfg h hok fl m ev _ s rfl]
    simp
  · exact plain_accounting h hok fl m ev c s tgt hwf hi hp hst hn hr q

/-- `event_accounting` along the fold of `processEvent`, from any state, `n` being the number of selected
    candidates. A stopped state contributes 0 to both sides; a stale candidate (tested for only when `n > 1`) is
    skipped on both sides; otherwise one `cand_accounting` step plus the induction hypothesis. With a single
    candidate no staleness test is made, so its source has to be active: `hsrc`, `hlen`. -/
theorem event_accounting_fold (h : Hooks) (hok : HooksOK h) (fl : Flavor) (m : Machine) (ev : Ev)
    (hwf : WF m.root) (hi : InitOK m.root) (n : Nat) (q : Path) :
    ∀ (cs : List Cand) (s' : St), Legal m.root s'.cfg → s'.cfg.Nodup →
      (∀ c ∈ cs, CandPlain m c) →
      (∀ c ∈ cs, ¬ n > 1 → c.src ∈ s'.cfg) →
      (¬ n > 1 → cs.length ≤ 1) →
      (cs.foldl (peStep h fl m ev n) s').err = none →
      activity (cs.foldl (peStep h fl m ev n) s').cfg q - activity s'.cfg q =
        evNet h fl m ev (decide (n > 1)) cs s' q := by
  intro cs
  induction cs with
  | nil => intro s' _ _ _ _ _ _; exact Int.sub_self _
  | cons c cs ih =>
    intro s' hl hn hok' hsrc hlen hre
    by_cases hstop : Stopped s'
    · rw [peFold_stopped h fl m ev n _ s' hstop, evNet_stopped h fl m ev _ _ s' q hstop]
      exact Int.sub_self _
    have he : ¬ s'.err.isSome = true := fun x => hstop (.inl x)
    have hfin : ¬ finished s'.status = true := fun x => hstop (.inr x)
    have htail : ¬ n > 1 → cs = [] := fun hm =>
      List.eq_nil_of_length_eq_zero (Nat.le_zero.1 (Nat.le_of_succ_le_succ (hlen hm)))
    have hstep : peStep h fl m ev n s' c = if (decide (n > 1) && !(s'.cfg.contains c.src)) = true then s'
        else execute h fl m ev (planTransition m s'.cfg s'.hist c) s' := by
      unfold peStep; rw [if_neg he, if_neg hfin]
    rw [List.foldl_cons, hstep] at hre ⊢
    rw [evNet, if_neg he, if_neg hfin]
    by_cases hstale : (decide (n > 1) && !(s'.cfg.contains c.src)) = true
    · -- a stale candidate is skipped; only possible when several were selected
      have hm : n > 1 := of_decide_eq_true (Bool.and_eq_true_iff.1 hstale).1
      rw [if_pos hstale] at hre ⊢
      rw [if_pos hstale]
      exact ih s' hl hn (fun c' hc' => hok' c' (List.mem_cons_of_mem _ hc'))
        (fun _ _ hf' => absurd hm hf') (fun hf' => absurd hm hf') hre
    · rw [if_neg hstale] at hre ⊢
      rw [if_neg hstale]
      have hmem : c.src ∈ s'.cfg := by
        by_cases hm : n > 1
        · simpa [hm] using hstale
        · exact hsrc c List.mem_cons_self hm
      have hexe : (execute h fl m ev (planTransition m s'.cfg s'.hist c) s').err = none := by
        cases hx : (execute h fl m ev (planTransition m s'.cfg s'.hist c) s').err with
        | none => rfl
        | some e =>
          rw [peFold_stopped h fl m ev n cs _ (.inl (by rw [hx]; rfl)), hx] at hre
          cases hre
      have hst : ∀ q ∈ s'.cfg, ∃ n, m.root.at q = some n := fun q hq => by
        obtain ⟨n, hn, _⟩ := hl.states q hq; exact ⟨n, hn⟩
      have hacc := cand_accounting h hok fl m ev c s' hwf hi (hok' c List.mem_cons_self) hst hn hexe q
      have hrest := ih _ (legal_microstep h hok fl m ev c s' hwf hi hl (Or.inl (hok' c List.mem_cons_self)) hmem)
        (execute_nodup h hok fl m ev (planTransition m s'.cfg s'.hist c) s' hn)
        (fun c' hc' => hok' c' (List.mem_cons_of_mem _ hc'))
        (fun c' hc' hm => by rw [htail hm] at hc'; cases hc')
        (fun hm => by rw [htail hm]; exact Nat.zero_le _) hre
      omega

/-- **accounting over a processed event**: if the event was processed without error, then for every
    state the change in activity is the number of times it was entered minus the number of times it was
    exited, summed over the transitions the event fired -/
theorem event_accounting (h : Hooks) (hok : HooksOK h) (fl : Flavor) (m : Machine) (u : UEnv) (ev : Ev)
    (hwf : WF m.root) (hi : InitOK m.root) (hsel : SelSoundPlain m) (s : St) (hl0 : Legal m.root s.cfg)
    (hn0 : s.cfg.Nodup) (sel : List Cand)
    (hs : selectTransitions m s.cfg (u.genv s.ctx ev.type) ev = .ok sel)
    (hr : (processEvent h fl m u ev s).err = none) (q : Path) :
    activity (processEvent h fl m u ev s).cfg q - activity s.cfg q =
      evNet h fl m ev (decide (sel.length > 1)) sel s q := by
  rw [processEvent_peFold h fl m u ev s hs] at hr ⊢
  have hall := hsel s.cfg (u.genv s.ctx ev.type) ev sel hl0 hs
  refine event_accounting_fold h hok fl m ev hwf hi _ q sel s hl0 hn0 (fun c hc => (hall c hc).1)
    (fun c hc _ => ?_) (fun hm => Nat.le_of_not_gt hm) hr
  obtain ⟨q', hq', hp⟩ := (hall c hc).2
  exact legal_prefix_mem hl0 hq' hp

end XSM

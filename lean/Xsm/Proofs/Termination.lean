import Xsm.Proofs.Done
import Xsm.Proofs.Faults
/-
Helper definitions and lemmas for C13 (bounded self-feeding chains; `start()` / `send()` return), about the
executable model (`Xsm/Model/Engine.lean`).

The async run loop `asyncDrain` recurses on a fuel the code does not have. Three facts make the fuel
irrelevant: every step of the engine only APPENDS to the queue and counts what it appends in `raiseDepth`
(`Grow b`, an `EngRel` of `Xsm/Proofs/EngRel.lean`); hence `AInv` (every queued self-raised
event was counted) is kept; hence `potential` strictly decreases in every iteration of the loop.
The instrumented twins of the sync drain `drainLoop` are in `Xsm/Proofs/SyncDrain.lean`.
-/
namespace XSM.Term
open XSM XSM.Done

/-! ## 1. append-only steps -/

/-- number of queued events the interpreter raised at itself -/
def cntSelf (l : List QEv) : Nat := l.countP (fun q => q.self)
/-- number of queued events that came from outside (`send`) -/
def cntExt (l : List QEv) : Nat := l.countP (fun q => !q.self)

theorem cntSelf_append (a b : List QEv) : cntSelf (a ++ b) = cntSelf a + cntSelf b := List.countP_append
theorem cntExt_append (a b : List QEv) : cntExt (a ++ b) = cntExt a + cntExt b := List.countP_append
theorem cntSelf_cons (q : QEv) (l : List QEv) : cntSelf (q :: l) = (if q.self then 1 else 0) + cntSelf l := by
  simp only [cntSelf, List.countP_cons]; omega
theorem cntExt_cons (q : QEv) (l : List QEv) : cntExt (q :: l) = (if q.self then 0 else 1) + cntExt l := by
  simp only [cntExt, List.countP_cons]
  cases q.self <;> simp <;> omega
theorem cntSelf_all_true {l : List QEv} (h : ∀ q ∈ l, q.self = true) : cntSelf l = l.length ∧ cntExt l = 0 :=
  ⟨List.countP_eq_length.2 h, List.countP_eq_zero.2 (fun q hq => by simp [h q hq])⟩
theorem cntSelf_all_false {l : List QEv} (h : ∀ q ∈ l, q.self = false) : cntSelf l = 0 ∧ cntExt l = l.length :=
  ⟨List.countP_eq_zero.2 (fun q hq => by simp [h q hq]), List.countP_eq_length.2 (fun q hq => by simp [h q hq])⟩
theorem cnt_total (l : List QEv) : cntSelf l + cntExt l = l.length := by
  induction l with
  | nil => rfl
  | cons q l ih =>
    rw [cntSelf_cons, cntExt_cons, List.length_cons]
    cases q.self <;> simp <;> omega
/-- the purge of the chain breaker keeps exactly the external events -/
theorem cnt_purge (l : List QEv) :
    cntSelf (l.filter (fun q => !q.self)) = 0 ∧ cntExt (l.filter (fun q => !q.self)) = cntExt l := by
  unfold cntSelf cntExt
  rw [List.countP_filter, List.countP_filter, List.countP_eq_zero]
  exact ⟨fun q _ => by simp, by simp⟩
theorem cntSelf_eq_zero {l : List QEv} : cntSelf l = 0 ↔ l.any (fun q => q.self) = false := by
  rw [cntSelf, List.countP_eq_zero, List.any_eq_false]

/-- `Grow b s s'`: from `s` to `s'` the queue was only appended to, by entries flagged `b`; every
    appended self-flagged entry was counted in `raiseDepth` — exactly those if the machine is still
    running afterwards (a raise refused by a machine that is not running is still counted, so in
    general only `≤`); `status` is unchanged or became "done". -/
def Grow (b : Bool) (s s' : St) : Prop :=
  (∃ l, s'.queue = s.queue ++ l ∧ (∀ q ∈ l, q.self = b) ∧ s.raiseDepth + cntSelf l ≤ s'.raiseDepth ∧
    (s'.status = "running" → s'.raiseDepth = s.raiseDepth + cntSelf l)) ∧
  (s'.status = s.status ∨ s'.status = "done")

theorem Grow.refl (b : Bool) (s : St) : Grow b s s :=
  ⟨⟨[], by simp, by simp, by simp [cntSelf], by simp [cntSelf]⟩, Or.inl rfl⟩

theorem Grow.same {b : Bool} {s s' : St} (hq : s'.queue = s.queue) (hd : s'.raiseDepth = s.raiseDepth)
    (hs : s'.status = s.status) : Grow b s s' :=
  ⟨⟨[], by simp [hq], by simp, by simp [cntSelf, hd], by simp [cntSelf, hd]⟩, Or.inl hs⟩

theorem Grow.trans {b : Bool} {s s' s'' : St} (h1 : Grow b s s') (h2 : Grow b s' s'') : Grow b s s'' := by
  obtain ⟨⟨l1, q1, f1, d1, x1⟩, st1⟩ := h1
  obtain ⟨⟨l2, q2, f2, d2, x2⟩, st2⟩ := h2
  refine ⟨⟨l1 ++ l2, by rw [q2, q1, List.append_assoc], ?_, ?_, ?_⟩, ?_⟩
  · intro q hq
    rcases List.mem_append.1 hq with h | h
    · exact f1 q h
    · exact f2 q h
  · rw [cntSelf_append]; omega
  · intro hr
    have hr' : s'.status = "running" := by
      rcases st2 with h | h
      · rw [← h]; exact hr
      · rw [h] at hr; exact absurd hr (by decide)
    rw [cntSelf_append, x2 hr, x1 hr']; omega
  · rcases st2 with h | h
    · rcases st1 with h' | h'
      · exact Or.inl (h.trans h')
      · exact Or.inr (h.trans h')
    · exact Or.inr h

theorem growRel_eng (b : Bool) : EngRel (Grow b) where
  refl := Grow.refl b
  trans := Grow.trans
  ctx _ _ := Grow.same rfl rfl rfl
  trace _ _ := Grow.same rfl rfl rfl
  err _ _ := Grow.same rfl rfl rfl
  expCut _ _ := Grow.same rfl rfl rfl
  cfg _ _ := Grow.same rfl rfl rfl
  hist _ _ := Grow.same rfl rfl rfl
  complete s := by
    unfold complete; split
    · exact ⟨⟨[], by simp, by simp, by simp [cntSelf], fun h => absurd (show ("done" : String) = "running" from h) (by decide)⟩, Or.inr rfl⟩
    · exact Grow.refl _ _

structure HooksGrow (b : Bool) (h : Hooks) : Prop where
  snd : ∀ e s, Grow b s (h.snd e s)
  raise : ∀ e s, Grow b s (h.sndRaise e s)

theorem HooksGrow.rel {b : Bool} {h : Hooks} (hg : HooksGrow b h) : HooksRel (Grow b) h := ⟨hg.snd, hg.raise⟩

theorem enqueue_grow (e : Ev) (s : St) : Grow false s (enqueue e s) := by
  unfold enqueue enqueueQ
  split
  · exact ⟨⟨[⟨e, false⟩], rfl, by simp, by simp [cntSelf], by simp [cntSelf]⟩, Or.inl rfl⟩
  · exact Grow.refl _ _

theorem countedEnqueue_grow (e : Ev) (s : St) :
    Grow true s (enqueueQ true e { s with raiseDepth := s.raiseDepth + 1 }) := by
  unfold enqueueQ
  split
  · exact ⟨⟨[⟨e, true⟩], rfl, by simp, by simp [cntSelf], by simp [cntSelf]⟩, Or.inl rfl⟩
  · rename_i hr
    exact ⟨⟨[], by simp, by simp, by simp [cntSelf], fun h => absurd h hr⟩, Or.inl rfl⟩

theorem hooksAsyncStart_grow (u : UEnv) (m : Machine) : HooksGrow false (hooksAsyncStart u m) :=
  ⟨enqueue_grow, enqueue_grow⟩
theorem hooksAsync_grow (u : UEnv) (m : Machine) : HooksGrow true (hooksAsync u m) :=
  ⟨countedEnqueue_grow, countedEnqueue_grow⟩

theorem processEvent_grow {b : Bool} (h : Hooks) (hg : HooksGrow b h) (fl : Flavor) (m : Machine) (u : UEnv)
    (ev : Ev) (s : St) : Grow b s (processEvent h fl m u ev s) := processEvent_rel (growRel_eng b) h hg.rel fl m u ev s

theorem transientLoop_grow {b : Bool} (h : Hooks) (hg : HooksGrow b h) (fl : Flavor) (m : Machine) (u : UEnv)
    (n : Nat) (s : St) : Grow b s (transientLoop h fl m u n s) := transientLoop_rel (growRel_eng b) h hg.rel fl m u n s

/-! ## 2. the async run loop -/

/-- every self-raised event still queued was counted since the last reset of `raiseDepth` -/
def AInv (s : St) : Prop := cntSelf s.queue ≤ s.raiseDepth

/-- chain part of the measure: `0` when no self-raised event is pending; otherwise one more than the
    room left for `raiseDepth - pending` (the self-raised events already consumed since the last
    reset) below `L + 2` -/
def chainPot (L cs d : Nat) : Nat := if cs = 0 then 0 else 1 + (L + 2 - (d - cs))

/-- the measure: `(L + 4)` per pending external event, plus the chain part -/
def potential (L : Nat) (s : St) : Nat := cntExt s.queue * (L + 4) + chainPot L (cntSelf s.queue) s.raiseDepth

theorem chainPot_le (L cs d : Nat) : chainPot L cs d ≤ L + 3 := by
  unfold chainPot; split <;> omega

/-- processing appends `k` self-raised events and counts them: the consumed part `d - cs` does not shrink -/
theorem chainPot_processed (L cs d k d' : Nat) (hI : cs ≤ d) (hd : d + k ≤ d') :
    chainPot L (cs + k) d' ≤ 1 + (L + 2 - (d - cs)) := by
  unfold chainPot; split <;> omega

/-- taking a self-raised event off the queue below the bound consumes it -/
theorem chainPot_popped (L cs d : Nat) (hI : 1 + cs ≤ d) (hd : d ≤ L) :
    1 + (L + 2 - (d - cs)) < chainPot L (1 + cs) d := by
  unfold chainPot; rw [if_neg (by omega)]; omega

theorem potential_le (L : Nat) (s : St) : potential L s ≤ (cntExt s.queue + 1) * (L + 4) := by
  unfold potential
  have := chainPot_le L (cntSelf s.queue) s.raiseDepth
  rw [Nat.add_mul, Nat.one_mul]; omega

theorem queue_nil_of_weight_zero {q : List QEv} {k r : Nat}
    (h : cntExt q * k + (if cntSelf q = 0 then 0 else r) = 0) (hk : 0 < k) (hr : 0 < r) : q = [] := by
  have h1 : cntExt q = 0 :=
    (Nat.mul_eq_zero.1 (Nat.eq_zero_of_add_eq_zero_right h)).resolve_right (Nat.ne_of_gt hk)
  have h2 : cntSelf q = 0 := by
    split at h
    · assumption
    · omega
  exact List.length_eq_zero_iff.1 (by rw [← cnt_total, h1, h2])

/-! ### one event processed -/

theorem asyncProcessed_grow (m : Machine) (u : UEnv) (e : Ev) (s : St) : Grow true s (asyncProcessed m u e s) :=
  processed_rel (growRel_eng true) _ (hooksAsync_grow u m).rel .async m u e s

theorem asyncChainEnd_depth (b : Nat) (x : St) :
    (asyncChainEnd b x).raiseDepth = if x.raiseDepth = b ∧ cntSelf x.queue = 0 then 0 else x.raiseDepth := by
  unfold asyncChainEnd
  simp only [cntSelf_eq_zero, Bool.and_eq_true, decide_eq_true_eq, Bool.not_eq_true']
  split <;> rfl

/-- `asyncProcess` by the macrostep with settling, `asyncProcessed`: the failure handler touches neither
    queue, status nor counter, the end-of-chain test only the counter -/
theorem asyncProcess_fields (m : Machine) (u : UEnv) (e : Ev) (s : St) :
    (asyncProcess m u e s).queue = (asyncProcessed m u e s).queue ∧
    (asyncProcess m u e s).status = (asyncProcessed m u e s).status ∧
    (asyncProcess m u e s).raiseDepth =
      if (asyncProcessed m u e s).raiseDepth = s.raiseDepth ∧ cntSelf (asyncProcessed m u e s).queue = 0 then 0
      else (asyncProcessed m u e s).raiseDepth := by
  rw [asyncProcess_eq, asyncChainEnd_depth, asyncChainEnd_queue, asyncChainEnd_status]
  split <;> exact ⟨rfl, rfl, rfl⟩

/-- **what processing one event does to queue, counter and status** (`asyncProcess`: macrostep,
    settling, error logging, end-of-chain test): self-flagged entries `l` are appended, each counted —
    unless the counter is reset, which happens only when no self-raised event is queued any more. -/
theorem asyncProcess_spec (m : Machine) (u : UEnv) (e : Ev) (s : St) :
    ∃ l, (∀ q ∈ l, q.self = true) ∧ (asyncProcess m u e s).queue = s.queue ++ l ∧
      ((asyncProcess m u e s).status = s.status ∨ (asyncProcess m u e s).status = "done") ∧
      (s.raiseDepth + l.length ≤ (asyncProcess m u e s).raiseDepth ∨
        (cntSelf (asyncProcess m u e s).queue = 0 ∧ (asyncProcess m u e s).raiseDepth = 0)) := by
  obtain ⟨hq, hs, hd⟩ := asyncProcess_fields m u e s
  obtain ⟨⟨l, gq, gl, gd, _⟩, gs⟩ := asyncProcessed_grow m u e s
  rw [(cntSelf_all_true gl).1] at gd
  refine ⟨l, gl, hq.trans gq, hs ▸ gs, ?_⟩
  rw [hd, hq]
  split
  · exact Or.inr ⟨‹_ ∧ _›.2, rfl⟩
  · exact Or.inl gd

/-- **the chain counter does not leak.** Once an event has been processed (successfully or not) and the
    machine is still running with no self-raised event queued, the counter is 0. -/
theorem asyncProcess_counter_zero (m : Machine) (u : UEnv) (e : Ev) (s0 : St)
    (hr : (asyncProcess m u e s0).status = "running") (hq : cntSelf (asyncProcess m u e s0).queue = 0) :
    (asyncProcess m u e s0).raiseDepth = 0 := by
  obtain ⟨eq, es, ed⟩ := asyncProcess_fields m u e s0
  obtain ⟨⟨l, gq, _, _, gx⟩, _⟩ := asyncProcessed_grow m u e s0
  rw [eq] at hq
  -- nothing self-raised is queued, so nothing was appended, and the count is exact while running
  have hl : cntSelf l = 0 := by rw [gq, cntSelf_append] at hq; omega
  rw [ed, if_pos ⟨by rw [gx (es ▸ hr), hl]; rfl, hq⟩]

/-- the number of events the machine sends ITSELF while `e` is processed in `s` (every zero-delay
    delivery to itself made while `_processing` is set increments `_raise_depth`) -/
def selfSendsOf (m : Machine) (u : UEnv) (e : Ev) (s : St) : Nat := (asyncProcessed m u e s).raiseDepth - s.raiseDepth

theorem asyncProcess_depth_le (m : Machine) (u : UEnv) (e : Ev) (s : St) :
    (asyncProcess m u e s).raiseDepth ≤ s.raiseDepth + selfSendsOf m u e s := by
  obtain ⟨⟨l, _, _, gd, _⟩, _⟩ := asyncProcessed_grow m u e s
  rw [(asyncProcess_fields m u e s).2.2]
  unfold selfSendsOf
  split <;> omega

/-! ### one iteration -/

theorem asyncStep_above_bound_self (m : Machine) (u : UEnv) (q : QEv) (s : St) (h : m.maxIterations < s.raiseDepth)
    (hq : q.self = true) :
    asyncStep m u q s = { s with raiseDepth := 0, queue := s.queue.filter (fun q => !q.self) } := by
  unfold asyncStep
  rw [if_pos h, if_pos hq]; rfl

theorem asyncStep_above_bound_ext (m : Machine) (u : UEnv) (q : QEv) (s : St) (h : m.maxIterations < s.raiseDepth)
    (hq : q.self = false) :
    asyncStep m u q s =
      asyncProcess m u q.ev { s with raiseDepth := 0, queue := s.queue.filter (fun q => !q.self) } := by
  unfold asyncStep
  rw [if_pos h, if_neg (by simp [hq])]; rfl

/-- the state the run loop processes the dequeued event in, if it does: purged when the breaker fired -/
def asyncBase (m : Machine) (s : St) : St := if s.raiseDepth > m.maxIterations then asyncPurge s else s

/-- **an externally sent event is never dropped**: whatever the counter says, the iteration that dequeues
    it processes it (`on_event_received`, macrostep, settling) -/
theorem asyncStep_external (m : Machine) (u : UEnv) (q : QEv) (s : St) (hq : q.self = false) :
    asyncStep m u q s = asyncProcess m u q.ev (asyncBase m s) := by
  unfold asyncStep asyncBase
  split
  · rw [if_neg (by simp [hq])]
  · rfl

theorem asyncBase_inv (m : Machine) {s : St} (hI : AInv s) :
    AInv (asyncBase m s) ∧ cntExt (asyncBase m s).queue = cntExt s.queue ∧ (asyncBase m s).status = s.status := by
  unfold asyncBase; split
  · exact ⟨Nat.le_of_eq (cnt_purge s.queue).1, (cnt_purge s.queue).2, rfl⟩
  · exact ⟨hI, rfl, rfl⟩

/-- the external events of a queue, in order -/
def extOf (l : List QEv) : List QEv := l.filter (fun q => !q.self)

theorem extOf_append (a b : List QEv) : extOf (a ++ b) = extOf a ++ extOf b := List.filter_append ..
theorem extOf_marked {l : List QEv} (h : ∀ q ∈ l, q.self = true) : extOf l = [] := by
  unfold extOf; rw [List.filter_eq_nil_iff]; intro q hq; simp [h q hq]
theorem extOf_extOf (l : List QEv) : extOf (extOf l) = extOf l := by
  unfold extOf; rw [List.filter_filter]; simp

/-- **queued external events are never discarded by the run loop**: one iteration — tripping or not —
    leaves the external events that were queued exactly as they were, in order (what it appends is
    self-raised). -/
theorem asyncStep_keeps_queued_external (m : Machine) (u : UEnv) (q : QEv) (s0 : St) :
    extOf (asyncStep m u q s0).queue = extOf s0.queue := by
  have hp : ∀ s, extOf (asyncProcess m u q.ev s).queue = extOf s.queue := fun s => by
    obtain ⟨l, hl, hq, _⟩ := asyncProcess_spec m u q.ev s
    rw [hq, extOf_append, extOf_marked hl, List.append_nil]
  unfold asyncStep
  split
  · split
    · exact extOf_extOf _
    · exact (hp _).trans (extOf_extOf _)
  · exact hp _

theorem asyncStep_counter_zero (m : Machine) (u : UEnv) (q : QEv) (s0 : St)
    (hr : (asyncStep m u q s0).status = "running") (hq : cntSelf (asyncStep m u q s0).queue = 0) :
    (asyncStep m u q s0).raiseDepth = 0 := by
  unfold asyncStep at hr hq ⊢
  split
  · split
    · rfl
    · rename_i h1 h2
      rw [if_pos h1, if_neg h2] at hr hq
      exact asyncProcess_counter_zero m u q.ev _ hr hq
  · rename_i h1
    rw [if_neg h1] at hr hq
    exact asyncProcess_counter_zero m u q.ev _ hr hq

/-- processing keeps the invariant and the external events; the chain part of the measure is bounded by
    what was consumed before -/
theorem asyncProcess_measure (m : Machine) (u : UEnv) (e : Ev) (L : Nat) {b : St} (hI : AInv b) :
    AInv (asyncProcess m u e b) ∧ cntExt (asyncProcess m u e b).queue = cntExt b.queue ∧
    ((asyncProcess m u e b).status = b.status ∨ (asyncProcess m u e b).status = "done") ∧
    chainPot L (cntSelf (asyncProcess m u e b).queue) (asyncProcess m u e b).raiseDepth ≤
      1 + (L + 2 - (b.raiseDepth - cntSelf b.queue)) := by
  obtain ⟨l, hl, hq, hs, hd⟩ := asyncProcess_spec m u e b
  obtain ⟨c1, c2⟩ := cntSelf_all_true hl
  have hcs : cntSelf (asyncProcess m u e b).queue = cntSelf b.queue + l.length := by rw [hq, cntSelf_append, c1]
  refine ⟨?_, by rw [hq, cntExt_append, c2]; rfl, hs, ?_⟩
  · unfold AInv at hI ⊢; omega
  · rcases hd with hd | ⟨h0, hd⟩
    · rw [hcs]; exact chainPot_processed L _ _ _ _ hI hd
    · rw [h0, hd]; exact Nat.zero_le _

/-- **one iteration keeps the invariant and strictly decreases the measure**; the status
    is unchanged or became "done". `s` is the state before the event `q` is taken off the queue. -/
theorem asyncStep_measure (m : Machine) (u : UEnv) (s : St) (q : QEv) (rest : List QEv)
    (hq : s.queue = q :: rest) (hI : AInv s) :
    AInv (asyncStep m u q { s with queue := rest }) ∧
    potential m.maxIterations (asyncStep m u q { s with queue := rest }) < potential m.maxIterations s ∧
    ((asyncStep m u q { s with queue := rest }).status = s.status ∨
      (asyncStep m u q { s with queue := rest }).status = "done") := by
  unfold AInv at hI
  rw [hq, cntSelf_cons] at hI
  have hI0 : AInv { s with queue := rest } := by unfold AInv; show cntSelf rest ≤ s.raiseDepth; omega
  unfold potential
  rw [hq, cntSelf_cons, cntExt_cons]
  cases hs : q.self with
  | false =>
    -- an external event pays `L + 4`, more than any chain part
    rw [asyncStep_external m u q _ hs]
    obtain ⟨hb, hbe, hbs⟩ := asyncBase_inv m hI0
    obtain ⟨a1, a2, a3, _⟩ := asyncProcess_measure m u q.ev m.maxIterations hb
    refine ⟨a1, ?_, a3.imp (fun h => h.trans hbs) id⟩
    simp only [Bool.false_eq_true, if_false, Nat.zero_add]
    have := chainPot_le m.maxIterations (cntSelf (asyncProcess m u q.ev (asyncBase m { s with queue := rest })).queue)
      (asyncProcess m u q.ev (asyncBase m { s with queue := rest })).raiseDepth
    rw [a2, hbe, Nat.add_mul, Nat.one_mul]
    show cntExt rest * _ + _ < _
    omega
  | true =>
    simp only [hs, if_true, Nat.zero_add] at hI ⊢
    by_cases hd : m.maxIterations < s.raiseDepth
    · -- the breaker trips: the chain part drops to 0
      rw [asyncStep_above_bound_self m u q { s with queue := rest } hd hs]
      refine ⟨Nat.le_of_eq (cnt_purge rest).1, ?_, Or.inl rfl⟩
      show cntExt (rest.filter _) * _ + chainPot _ (cntSelf (rest.filter _)) 0 < _
      rw [(cnt_purge rest).1, (cnt_purge rest).2]
      exact Nat.add_lt_add_left (by unfold chainPot; rw [if_pos rfl, if_neg (by omega)]; omega) _
    · rw [asyncStep_below_bound m u q { s with queue := rest } (Nat.le_of_not_lt hd)]
      obtain ⟨a1, a2, a3, a4⟩ := asyncProcess_measure m u q.ev m.maxIterations hI0
      refine ⟨a1, ?_, a3⟩
      rw [a2]
      exact Nat.add_lt_add_left (Nat.lt_of_le_of_lt a4
        (chainPot_popped m.maxIterations (cntSelf rest) s.raiseDepth hI (Nat.le_of_not_lt hd))) _

/-! ### the loop: the model fuel is irrelevant -/

/-- **fuel irrelevance, and no hang.** Under the invariant, with fuel at least `potential` the run ends with
    the status it started with, or "done" — never the model's "HANG" marker — and any larger fuel gives the
    same run. -/
theorem asyncDrain_enough (m : Machine) (u : UEnv) :
    ∀ (F : Nat) (s : St), AInv s → potential m.maxIterations s ≤ F →
      ((asyncDrain m u F s).status = s.status ∨ (asyncDrain m u F s).status = "done") ∧
      ∀ F', F ≤ F' → asyncDrain m u F' s = asyncDrain m u F s := by
  apply asyncDrain_cases m u (fun F s => AInv s → potential m.maxIterations s ≤ F →
      ((asyncDrain m u F s).status = s.status ∨ (asyncDrain m u F s).status = "done") ∧
      ∀ F', F ≤ F' → asyncDrain m u F' s = asyncDrain m u F s)
  · intro F s hr _ _
    rw [asyncDrain_not_running m u F hr]
    exact ⟨Or.inl rfl, fun F' _ => asyncDrain_not_running m u F' hr⟩
  · intro F s hq _ _
    rw [asyncDrain_queue_nil m u F hq]
    exact ⟨Or.inl rfl, fun F' _ => asyncDrain_queue_nil m u F' hq⟩
  · intro s q rest _ hq _ hp
    rw [queue_nil_of_weight_zero (Nat.le_zero.1 hp) (Nat.succ_pos _) (by omega)] at hq
    exact absurd hq (by simp)
  · intro F s q rest hr hq ih hI hp
    obtain ⟨i1, i2, i3⟩ := asyncStep_measure m u s q rest hq hI
    obtain ⟨j1, j2⟩ := ih i1 (by omega)
    rw [asyncDrain_step m u F hr hq]
    refine ⟨?_, fun F' hF' => ?_⟩
    · rcases j1 with h | h
      · exact i3.imp h.trans h.trans
      · exact Or.inr h
    · obtain ⟨F'', rfl⟩ : ∃ F'', F' = F'' + 1 := ⟨F' - 1, by omega⟩
      rw [asyncDrain_step m u F'' hr hq]
      exact j2 F'' (by omega)

/-- the explicit bound: `(n0 + 1) * (L + 4)` with `n0` the number of pending external events -/
theorem asyncDrain_no_hang_aux (m : Machine) (u : UEnv) (s : St) (hI : AInv s) (F : Nat)
    (hF : (cntExt s.queue + 1) * (m.maxIterations + 4) ≤ F) :
    ((asyncDrain m u F s).status = s.status ∨ (asyncDrain m u F s).status = "done") ∧
    ∀ F', F ≤ F' → asyncDrain m u F' s = asyncDrain m u F s :=
  asyncDrain_enough m u F s hI (Nat.le_trans (potential_le _ _) hF)

/-- the interpreter is idle: nothing queued, and the counter is within the bound -/
def Idle (m : Machine) (s : St) : Prop := s.queue = [] ∧ s.raiseDepth ≤ m.maxIterations

/-- nothing pending and the counter at 0: what every digested `send` and `start()` leave behind -/
def Quiet (s : St) : Prop := s.queue = [] ∧ s.raiseDepth = 0

/-- **what the loop leaves behind**, whatever the fuel: a run that returns "running" has emptied the queue (a
    run cut short by the fuel is "HANG"), and the last iteration — or, if there was none, the start — left
    whatever an iteration that ends running with an empty queue leaves -/
theorem asyncDrain_running (m : Machine) (u : UEnv) (P : St → Prop)
    (hstep : ∀ q s0, (asyncStep m u q s0).status = "running" → (asyncStep m u q s0).queue = [] →
      P (asyncStep m u q s0)) :
    ∀ (F : Nat) (s : St), (s.status = "running" → s.queue = [] → P s) →
      (asyncDrain m u F s).status = "running" → (asyncDrain m u F s).queue = [] ∧ P (asyncDrain m u F s) := by
  apply asyncDrain_cases m u (fun F s => (s.status = "running" → s.queue = [] → P s) →
      (asyncDrain m u F s).status = "running" → (asyncDrain m u F s).queue = [] ∧ P (asyncDrain m u F s))
  · intro F s hr _ h
    rw [asyncDrain_not_running m u F hr] at h
    exact absurd h hr
  · intro F s hq h0 h
    rw [asyncDrain_queue_nil m u F hq] at h ⊢
    exact ⟨hq, h0 h hq⟩
  · intro s q rest hr hq _ h
    rw [asyncDrain_hang m u hr hq] at h
    exact absurd (show ("HANG" : String) = "running" from h) (by decide)
  · intro F s q rest hr hq ih _ h
    rw [asyncDrain_step m u F hr hq] at h ⊢
    exact ih (hstep q _) h

theorem asyncDrain_running_queue_nil (m : Machine) (u : UEnv) (F : Nat) (s : St)
    (h : (asyncDrain m u F s).status = "running") : (asyncDrain m u F s).queue = [] :=
  (asyncDrain_running m u (fun _ => True) (fun _ _ _ _ => trivial) F s (fun _ _ => trivial) h).1

/-- … and reset the counter — whatever happened on the way (failed macrosteps included): it is 0, or what it was if
    the queue was empty at the start; so it has every property `P` that 0 and the initial value have -/
theorem asyncDrain_counter (m : Machine) (u : UEnv) (P : Nat → Prop) (hP : P 0) (F : Nat) (s : St)
    (h0 : s.queue = [] → P s.raiseDepth) (hr : (asyncDrain m u F s).status = "running") :
    (asyncDrain m u F s).queue = [] ∧ P (asyncDrain m u F s).raiseDepth :=
  asyncDrain_running m u (fun s => P s.raiseDepth)
    (fun q s0 hr hq => by rw [asyncStep_counter_zero m u q s0 hr (by rw [hq]; rfl)]; exact hP) F s (fun _ => h0) hr

theorem asyncDrain_quiet (m : Machine) (u : UEnv) (F : Nat) (s : St) (h0 : s.queue = [] → s.raiseDepth = 0)
    (hr : (asyncDrain m u F s).status = "running") : Quiet (asyncDrain m u F s) :=
  asyncDrain_counter m u (· = 0) rfl F s h0 hr

theorem asyncDrain_idle (m : Machine) (u : UEnv) (F : Nat) (s : St)
    (h0 : s.queue = [] → s.raiseDepth ≤ m.maxIterations) (hr : (asyncDrain m u F s).status = "running") :
    Idle m (asyncDrain m u F s) :=
  asyncDrain_counter m u (· ≤ m.maxIterations) (Nat.zero_le _) F s h0 hr

/-! ### `send`, `start()`, whole runs -/

/-- where the 9 (and the 8 of `send`, which pushes one event more) comes from: a run with `n` external events
    pending needs at most `(n + 1) * (maxIterations + 4)` iterations (`asyncDrain_no_hang_aux`), and the model's
    `asyncFuel m = 10 * maxIterations + 50` covers that for `n + 1 ≤ 10` -/
theorem asyncFuel_ge (m : Machine) (n : Nat) (hn : n ≤ 9) : (n + 1) * (m.maxIterations + 4) ≤ asyncFuel m := by
  have : (n + 1) * (m.maxIterations + 4) ≤ 10 * (m.maxIterations + 4) := Nat.mul_le_mul_right _ (by omega)
  unfold asyncFuel; omega

theorem asyncSend_eq (m : Machine) (u : UEnv) (e : Ev) (s : St) (hr : s.status = "running") :
    asyncSend m u e s = asyncDrain m u (asyncFuel m) { s with queue := s.queue ++ [⟨e, false⟩] } := by
  simp [asyncSend, hr]

theorem AInv_push_ext {s : St} (hI : AInv s) (e : Ev) : AInv { s with queue := s.queue ++ [⟨e, false⟩] } := by
  unfold AInv at hI ⊢
  show cntSelf (s.queue ++ [⟨e, false⟩]) ≤ s.raiseDepth
  rw [cntSelf_append]
  exact hI

theorem pushed_fuel_ok (m : Machine) (e : Ev) (s : St) (hn : cntExt s.queue ≤ 8) :
    (cntExt ({ s with queue := s.queue ++ [⟨e, false⟩] } : St).queue + 1) * (m.maxIterations + 4)
      ≤ asyncFuel m :=
  asyncFuel_ge m _ (by
    show cntExt (s.queue ++ [⟨e, false⟩]) ≤ 9
    rw [cntExt_append]; exact Nat.succ_le_succ hn)

/-- `send` on the async engine returns (never the "HANG" marker): the status afterwards is the one
    before, or "done" — provided at most 8 external events were already pending -/
theorem asyncSend_status (m : Machine) (u : UEnv) (e : Ev) (s : St) (hI : AInv s) (hn : cntExt s.queue ≤ 8) :
    (asyncSend m u e s).status = s.status ∨ (asyncSend m u e s).status = "done" := by
  by_cases hs : s.status = "running"
  · rw [asyncSend_eq m u e s hs]
    exact (asyncDrain_no_hang_aux m u _ (AInv_push_ext hI e) _ (pushed_fuel_ok m e s hn)).1
  · rw [asyncSend_not_running m u e hs]; exact Or.inl rfl

/-- a `send` that is digested leaves a running interpreter quiet: the queue it starts from is not empty -/
theorem asyncSend_quiet (m : Machine) (u : UEnv) (e : Ev) (s : St) (h : s.status = "running" → Quiet s)
    (hr : (asyncSend m u e s).status = "running") : Quiet (asyncSend m u e s) := by
  by_cases hs : s.status = "running"
  · rw [asyncSend_eq m u e s hs] at hr ⊢
    exact asyncDrain_quiet m u _ _ (fun hq => absurd hq (by simp)) hr
  · rw [asyncSend_not_running m u e hs] at hr ⊢
    exact h hr

theorem asyncStart_running {m : Machine} {u : UEnv} {s : St} (hr : (asyncStart m u s).status = "running") :
    asyncStart m u s = asyncDrain m u (asyncFuel m) (asyncStartSettled m u s) := by
  rw [asyncStart_phases] at hr ⊢
  split at hr
  · exact absurd (show ("stopped" : String) = "running" from hr) (by decide)
  · split at hr
    · exact absurd (show ("stopped" : String) = "running" from hr) (by decide)
    · rename_i h1 h2
      rw [if_neg h1, if_neg h2]

theorem asyncStartSettled_grow (m : Machine) (u : UEnv) (s : St) :
    Grow false { s with status := "running", ctx := m.ctx0 } (asyncStartSettled m u s) :=
  Grow.trans (startEntered_rel (growRel_eng false) _ (hooksAsyncStart_grow u m).rel .async m _ _)
    (transientLoop_grow _ (hooksAsyncStart_grow u m) .async m u _ _)

/-- `start()` runs outside the run loop: what it queues is not counted, the invariant is kept, and the
    status is "running" or "done" -/
theorem asyncStartSettled_facts (m : Machine) (u : UEnv) (s : St) :
    (AInv s → AInv (asyncStartSettled m u s)) ∧
    ((asyncStartSettled m u s).status = "running" → (asyncStartSettled m u s).raiseDepth = s.raiseDepth) ∧
    ((asyncStartSettled m u s).status = "running" ∨ (asyncStartSettled m u s).status = "done") := by
  obtain ⟨⟨l, hq, hl, hd, hx⟩, hs⟩ := asyncStartSettled_grow m u s
  rw [(cntSelf_all_false hl).1] at hd hx
  refine ⟨fun hI => ?_, hx, hs⟩
  unfold AInv at hI ⊢
  rw [hq, cntSelf_append, (cntSelf_all_false hl).1]
  exact Nat.le_trans hI hd

/-- a `start()` that ends running: empty queue, and the counter is 0 or what it was (settling does not count) -/
theorem asyncStart_counter (m : Machine) (u : UEnv) (s : St) (P : Nat → Prop) (hP : P 0) (hd : P s.raiseDepth)
    (hr : (asyncStart m u s).status = "running") : (asyncStart m u s).queue = [] ∧ P (asyncStart m u s).raiseDepth := by
  have hrun := asyncStart_running hr
  rw [hrun] at hr ⊢
  refine asyncDrain_counter m u P hP _ _ (fun _ => ?_) hr
  by_cases hs1 : (asyncStartSettled m u s).status = "running"
  · rw [(asyncStartSettled_facts m u s).2.1 hs1]; exact hd
  · rw [asyncDrain_not_running m u _ hs1] at hr; exact absurd hr hs1

theorem asyncStart_quiet (m : Machine) (u : UEnv) (s : St) (hd : s.raiseDepth = 0)
    (hr : (asyncStart m u s).status = "running") : Quiet (asyncStart m u s) :=
  asyncStart_counter m u s (· = 0) rfl hd hr

theorem asyncStart_idle (m : Machine) (u : UEnv) (s : St) (hd : s.raiseDepth ≤ m.maxIterations)
    (hr : (asyncStart m u s).status = "running") : Idle m (asyncStart m u s) :=
  asyncStart_counter m u s (· ≤ m.maxIterations) (Nat.zero_le _) hd hr

/-- `start()` on the async engine returns, provided at most 9 events are pending once the initial
    entry and settling are over (events already queued in `s` plus those raised by entry actions and
    by the initial `always` transitions) -/
theorem asyncStart_no_hang (m : Machine) (u : UEnv) (s : St) (hI : AInv s)
    (hn : cntExt (asyncStartSettled m u s).queue ≤ 9) :
    (asyncStart m u s).status = "running" ∨ (asyncStart m u s).status = "done" ∨
      (asyncStart m u s).status = "stopped" := by
  rw [asyncStart_phases]
  split
  · exact Or.inr (Or.inr rfl)
  · split
    · exact Or.inr (Or.inr rfl)
    · obtain ⟨hI1, _, hs1⟩ := asyncStartSettled_facts m u s
      rcases (asyncDrain_no_hang_aux m u _ (hI1 hI) _ (asyncFuel_ge m _ hn)).1 with h | h
      · rcases hs1 with h' | h'
        · exact Or.inl (h.trans h')
        · exact Or.inr (Or.inl (h.trans h'))
      · exact Or.inr (Or.inl h)

/-- **whole runs: the counter never leaks from one command into the next.** After `start()` and after
    each of any sequence of events (each sent once the previous `send` has been digested) a running
    interpreter has an empty queue and the counter at 0. -/
theorem async_run_quiet (m : Machine) (u : UEnv) (evs : List Ev) :
    (evs.foldl (cmd .async m u) (asyncStart m u {})).status = "running" →
      Quiet (evs.foldl (cmd .async m u) (asyncStart m u {})) :=
  foldl_inv (P := fun s => s.status = "running" → Quiet s) _
    (fun s e h hr => asyncSend_quiet m u e { s with err := none } h hr) evs _ (asyncStart_quiet m u {} rfl)

/-- what a sequence of commands can rely on between commands: a proper status, and a running
    interpreter is idle -/
def RunOK (m : Machine) (s : St) : Prop :=
  (s.status = "running" ∨ s.status = "done" ∨ s.status = "stopped") ∧ (s.status = "running" → Idle m s)

theorem cmd_runOK (m : Machine) (u : UEnv) (e : Ev) (s : St) (h : RunOK m s) : RunOK m (cmd .async m u s e) := by
  show RunOK m (asyncSend m u e { s with err := none })
  by_cases hs : s.status = "running"
  · have hi : Idle m ({ s with err := none } : St) := h.2 hs
    have hI : AInv ({ s with err := none } : St) := by
      unfold AInv; rw [hi.1]; exact Nat.zero_le _
    have hn : cntExt ({ s with err := none } : St).queue ≤ 8 := by rw [hi.1]; exact Nat.zero_le _
    refine ⟨?_, fun hr => ?_⟩
    · rcases asyncSend_status m u e _ hI hn with h1 | h1
      · exact Or.inl (h1.trans hs)
      · exact Or.inr (Or.inl h1)
    · rw [asyncSend_eq m u e { s with err := none } hs] at hr ⊢
      exact asyncDrain_idle m u _ _ (fun hq => absurd hq (by simp)) hr
  · rw [asyncSend_not_running m u e (s := { s with err := none }) hs]
    exact h

/-- **whole runs of the async engine**: after `start()` and after each of any sequence of events
    (each sent once the previous `send` has been digested) the status is "running", "done" or
    "stopped" — never "HANG" —, and a running interpreter is idle -/
theorem async_run_ok (m : Machine) (u : UEnv) (hn : cntExt (asyncStartSettled m u {}).queue ≤ 9)
    (evs : List Ev) : RunOK m (evs.foldl (cmd .async m u) (asyncStart m u {})) :=
  foldl_inv _ (fun s e h => cmd_runOK m u e s h) evs _
    ⟨asyncStart_no_hang m u {} (Nat.zero_le _) hn, asyncStart_idle m u {} (Nat.zero_le _)⟩

/-! ### a chain no longer than the bound is never cut -/

/-- twin of `asyncDrain`: the number of iterations in which the chain breaker fired -/
def asyncTrips (m : Machine) (u : UEnv) : Nat → St → Nat
  | 0, _ => 0
  | fuel + 1, s =>
    if s.status ≠ "running" then 0 else
    match s.queue with
    | [] => 0
    | q :: rest =>
      (if s.raiseDepth > m.maxIterations then 1 else 0) + asyncTrips m u fuel (asyncStep m u q { s with queue := rest })

/-- twin of `asyncDrain`: the number of events the machine sent itself, over all processed events -/
def asyncSelfSends (m : Machine) (u : UEnv) : Nat → St → Nat
  | 0, _ => 0
  | fuel + 1, s =>
    if s.status ≠ "running" then 0 else
    match s.queue with
    | [] => 0
    | q :: rest =>
      (if s.raiseDepth > m.maxIterations ∧ q.self = true then 0
       else selfSendsOf m u q.ev (asyncBase m { s with queue := rest }))
        + asyncSelfSends m u fuel (asyncStep m u q { s with queue := rest })

/-- **chains shorter than the bound run to their natural end (async).** If the counter at the start plus
    the number of events the machine sends itself during this run of the loop does not exceed
    `maxIterations`, the chain breaker never fires. -/
theorem short_chain_not_cut (m : Machine) (u : UEnv) :
    ∀ (F : Nat) (s : St), s.raiseDepth + asyncSelfSends m u F s ≤ m.maxIterations → asyncTrips m u F s = 0 := by
  intro F
  induction F with
  | zero => intro s _; rfl
  | succ F ih =>
    intro s h
    simp only [asyncSelfSends] at h
    simp only [asyncTrips]
    split
    · rfl
    · rename_i hrun
      simp only [hrun, if_false] at h
      split
      · rfl
      · rename_i q rest hq
        rw [hq] at h
        simp only at h
        have hd : ¬ s.raiseDepth > m.maxIterations := by omega
        have hd' : ¬ (s.raiseDepth > m.maxIterations ∧ q.self = true) := fun hh => hd hh.1
        rw [if_neg hd, Nat.zero_add]
        rw [if_neg hd'] at h
        have hb : asyncBase m { s with queue := rest } = { s with queue := rest } := by
          unfold asyncBase; rw [if_neg hd]
        rw [hb] at h
        have hstep : asyncStep m u q { s with queue := rest } = asyncProcess m u q.ev { s with queue := rest } :=
          asyncStep_below_bound m u q _ (by show s.raiseDepth ≤ _; omega)
        have hle := asyncProcess_depth_le m u q.ev { s with queue := rest }
        rw [← hstep] at hle
        apply ih
        have : ({ s with queue := rest } : St).raiseDepth = s.raiseDepth := rfl
        omega


/-! ## 3. instrumented twins of the settling loop -/

/-- "one more iteration of `_process_transient_transitions` would do something": no error is pending
    and selection either raises or yields an eventless transition -/
def transientPending (m : Machine) (u : UEnv) (s : St) : Bool :=
  !s.err.isSome &&
    match selectTransitions m s.cfg (u.genv s.ctx "") (.user "") with
    | .error _ => true
    | .ok sel => !sel.isEmpty && sel.any (fun c => c.t.event = "")

/-- twin of `transientLoop`: the number of times `processEvent` is called -/
def transientSteps (h : Hooks) (fl : Flavor) (m : Machine) (u : UEnv) : Nat → St → Nat
  | 0, _ => 0
  | fuel + 1, s =>
    if s.err.isSome then 0 else
    match selectTransitions m s.cfg (u.genv s.ctx "") (.user "") with
    | .error _ => 0
    | .ok sel =>
      if !sel.isEmpty && sel.any (fun c => c.t.event = "") then
        1 + transientSteps h fl m u fuel (processEvent h fl m u (.user "") s)
      else 0

/-- twin of `transientLoop`: did the loop stop because the counter ran out while work was pending? -/
def transientCut (h : Hooks) (fl : Flavor) (m : Machine) (u : UEnv) : Nat → St → Bool
  | 0, s => transientPending m u s
  | fuel + 1, s =>
    if s.err.isSome then false else
    match selectTransitions m s.cfg (u.genv s.ctx "") (.user "") with
    | .error _ => false
    | .ok sel =>
      if !sel.isEmpty && sel.any (fun c => c.t.event = "") then
        transientCut h fl m u fuel (processEvent h fl m u (.user "") s)
      else false

theorem transientLoop_not_pending (h : Hooks) (fl : Flavor) (m : Machine) (u : UEnv) (n : Nat) {s : St}
    (hp : transientPending m u s = false) : transientLoop h fl m u n s = s := by
  cases n with
  | zero => rfl
  | succ n =>
    revert hp
    simp only [transientPending, transientLoop]
    cases s.err.isSome with
    | true => intro _; rfl
    | false =>
      simp only [Bool.not_false, Bool.true_and, Bool.false_eq_true, if_false]
      cases selectTransitions m s.cfg (u.genv s.ctx "") (.user "") with
      | error e => intro hp; cases hp
      | ok sel => intro hp; simp only [hp, Bool.false_eq_true, if_false]

/-- the settling loop and its twins, in one induction along their common recursion: the loop runs at most `n`
    iterations; if fewer, it was not cut; and a loop that was not cut is the same loop with any larger budget -/
theorem transient_twins (h : Hooks) (fl : Flavor) (m : Machine) (u : UEnv) : ∀ (n : Nat) (s : St),
    transientSteps h fl m u n s ≤ n ∧
    (transientSteps h fl m u n s < n → transientCut h fl m u n s = false) ∧
    (transientCut h fl m u n s = false → ∀ j, transientLoop h fl m u (n + j) s = transientLoop h fl m u n s) := by
  intro n
  induction n with
  | zero =>
    intro s
    exact ⟨Nat.le_refl _, fun hlt => absurd hlt (Nat.lt_irrefl _), fun hc _ => transientLoop_not_pending h fl m u _ hc⟩
  | succ n ih =>
    intro s
    simp only [transientSteps, transientCut, Nat.add_right_comm n 1, transientLoop]
    cases s.err.isSome with
    | true => exact ⟨Nat.zero_le _, fun _ => rfl, fun _ _ => rfl⟩
    | false =>
      simp only [Bool.false_eq_true, if_false]
      cases selectTransitions m s.cfg (u.genv s.ctx "") (.user "") with
      | error e => exact ⟨Nat.zero_le _, fun _ => rfl, fun _ _ => rfl⟩
      | ok sel =>
        simp only
        cases (!sel.isEmpty && sel.any (fun c => c.t.event = "")) with
        | false => exact ⟨Nat.zero_le _, fun _ => rfl, fun _ _ => rfl⟩
        | true =>
          simp only [if_true]
          obtain ⟨i1, i2, i3⟩ := ih (processEvent h fl m u (.user "") s)
          exact ⟨by omega, fun hlt => i2 (by omega), i3⟩

/-! ## 4. nested action expansion -/

/-- once the depth counter is exhausted (`cut = true`) a built-in produces no follow-ups: the
    function that would run them is never consulted -/
theorem builtinStep_cut_ignores_nested (h : Hooks) (nested nested' : List ActionRef → String → St → St)
    (evType canon : String) (a : ActionRef) (s : St) :
    builtinStep h nested true evType canon a s = builtinStep h nested' true evType canon a s := by
  simp [builtinStep]

theorem actStep_cut_ignores_nested (h : Hooks) (nested nested' : List ActionRef → String → St → St)
    (evType : String) (acc : St × Bool) (a : ActionRef) :
    actStep h nested true evType acc a = actStep h nested' true evType acc a := by
  unfold actStep
  simp only [builtinStep_cut_ignores_nested h nested nested']

/-! ### once the bound tripped, the rest of the expansion produces no follow-ups (`_expansion_cut`) -/

/-- the send hooks never touch `_expansion_cut` -/
structure HooksCutOK (h : Hooks) : Prop where
  snd : ∀ e s, (h.snd e s).expCut = s.expCut
  raise : ∀ e s, (h.sndRaise e s).expCut = s.expCut

theorem enqueueQ_expCut (b : Bool) (e : Ev) (s : St) : (enqueueQ b e s).expCut = s.expCut := by
  unfold enqueueQ; split <;> rfl
theorem hooksFlagged_cutOK (u : UEnv) (m : Machine) : HooksCutOK (hooksFlagged u m) :=
  ⟨enqueueQ_expCut true, enqueueQ_expCut true⟩
theorem hooksAsyncStart_cutOK (u : UEnv) (m : Machine) : HooksCutOK (hooksAsyncStart u m) :=
  ⟨enqueueQ_expCut false, enqueueQ_expCut false⟩
theorem hooksAsync_cutOK (u : UEnv) (m : Machine) : HooksCutOK (hooksAsync u m) :=
  ⟨fun e _ => enqueueQ_expCut true e _, fun e _ => enqueueQ_expCut true e _⟩

/-- what `_collect_builtin_followups` does to the flag: set at the cut level, otherwise left alone -/
theorem assignStep_expCut (canon : String) (cut : Bool) (a : ActionRef) (s : St) :
    (assignStep canon cut a s).expCut = (cut || s.expCut) := by
  unfold assignStep
  cases cut with
  | true => rfl
  | false =>
    simp only [Bool.false_eq_true, if_false, Bool.false_or]
    split <;> rfl

theorem finishBuiltin_expCut (h : Hooks) (hc : HooksCutOK h) (canon : String) (a : ActionRef) (s2 : St) :
    (finishBuiltin h canon a s2).1.expCut = s2.expCut := by
  unfold finishBuiltin
  split
  · rfl
  · split
    · split
      · exact hc.raise _ _
      · rfl
    · rfl

theorem endExpansion_top (s : St) : endExpansion Tables.maxActionDepth s = { s with expCut := false } := by
  unfold endExpansion; rw [if_pos rfl]
theorem endExpansion_below {f : Nat} (hf : f ≠ Tables.maxActionDepth) (s : St) : endExpansion f s = s := by
  unfold endExpansion; rw [if_neg hf]

/-- **once the bound tripped, a `choose` produces no follow-ups**, at any level of the expansion: the
    function that would run them is never consulted -/
theorem builtinStep_tripped_ignores_nested (h : Hooks) (nested nested' : List ActionRef → String → St → St)
    (evType canon : String) (a : ActionRef) (s : St) (ht : s.expCut = true) :
    builtinStep h nested false evType canon a s = builtinStep h nested' false evType canon a s := by
  simp [builtinStep, ht]

theorem actStep_tripped_ignores_nested (h : Hooks) (nested nested' : List ActionRef → String → St → St)
    (evType : String) (acc : St × Bool) (a : ActionRef) (ht : acc.1.expCut = true) :
    actStep h nested false evType acc a = actStep h nested' false evType acc a := by
  unfold actStep
  simp only [builtinStep_tripped_ignores_nested h nested nested' evType _ a acc.1 ht]

theorem builtinStep_expCut (h : Hooks) (hc : HooksCutOK h) (nested : List ActionRef → String → St → St) (v : Bool)
    (hn : ∀ fs e s, s.expCut = v → (nested fs e s).expCut = v) (cut : Bool) (hcut : cut = true → v = true)
    (evType canon : String) (a : ActionRef) (s : St) (hs : s.expCut = v) :
    (builtinStep h nested cut evType canon a s).1.expCut = v := by
  have ha : (assignStep canon cut a s).expCut = v := by
    rw [assignStep_expCut, hs]
    cases cut with
    | true => rw [hcut rfl]; rfl
    | false => rfl
  unfold builtinStep
  simp only
  split
  · exact hs
  · rw [finishBuiltin_expCut h hc]
    split
    · exact ha
    · exact hn _ _ _ ha

theorem fail_expCut (s : St) (e : EErr) : (s.fail e).expCut = s.expCut := by
  unfold St.fail; split <;> rfl

theorem actStep_expCut (h : Hooks) (hc : HooksCutOK h) (nested : List ActionRef → String → St → St) (v : Bool)
    (hn : ∀ fs e s, s.expCut = v → (nested fs e s).expCut = v) (cut : Bool) (hcut : cut = true → v = true)
    (evType : String) (acc : St × Bool) (a : ActionRef) (hs : acc.1.expCut = v) :
    (actStep h nested cut evType acc a).1.expCut = v := by
  unfold actStep
  split
  · exact hs
  · split
    · exact hs
    · split
      · rw [fail_expCut]; exact hs
      · exact hs
    · exact hs
    · split
      · rw [fail_expCut]; exact hs
      · exact builtinStep_expCut h hc nested v hn cut hcut evType _ a acc.1 hs

/-- the flag through one list, for a value `v` the nested executor keeps: it only ever changes at the cut
    level (to `true`) and where the nested executor changes it -/
theorem foldl_actStep_expCut (h : Hooks) (hc : HooksCutOK h) (nested : List ActionRef → String → St → St) (v : Bool)
    (hn : ∀ fs e s, s.expCut = v → (nested fs e s).expCut = v) (cut : Bool) (hcut : cut = true → v = true)
    (evType : String) : ∀ (as : List ActionRef) (acc : St × Bool), acc.1.expCut = v →
      (as.foldl (actStep h nested cut evType) acc).1.expCut = v := by
  intro as
  induction as with
  | nil => intro acc hs; exact hs
  | cons a as ih =>
    intro acc hs
    simp only [List.foldl_cons]
    exact ih _ (actStep_expCut h hc nested v hn cut hcut evType acc a hs)

/-- **a fresh top-level list expands again**: while a top-level list runs the flag is clear before every
    one of its actions (the code's `if depth == 0: self._expansion_cut = False`; the model clears it when
    the expansion of a top-level built-in ends, `endExpansion`), whatever happened inside the expansions
    of the earlier ones -/
theorem foldl_top_expCut (h : Hooks) (hc : HooksCutOK h) (evType : String) (as : List ActionRef) (acc : St × Bool)
    (hs : acc.1.expCut = false) :
    (as.foldl (actStep h (fun fs e s => endExpansion Tables.maxActionDepth (execActionsF h Tables.maxActionDepth fs e s))
      false evType) acc).1.expCut = false :=
  foldl_actStep_expCut h hc (nested := _) (v := false) (hn := fun _ _ _ _ => by rw [endExpansion_top]) (cut := false)
    (hcut := fun hf => by cases hf) evType as acc hs

/-! ## 5. example machines for `Xsm/Properties/C13.lean` -/
namespace Ex
open XSM.Done.Ex

def raiseA (e : String) : ActionRef := { type := "raise", params := some (.obj [("event", .str e)]) }
/-- user code: every guard true; every action a marker that succeeds — except that `raise`, `assign`
    and `choose` are left to the built-ins and `nope` is not implemented at all -/
def u0 : UEnv :=
  { g := fun _ _ _ => .t,
    a := fun n c _ => if n = "raise" ∨ n = "assign" ∨ n = "choose" ∨ n = "nope" then .missing else .ok c }
/-- `assign({x: 1})`, as JSON and as an action -/
def assignJ : J := .obj [("type", .str "assign"), ("params", .obj [("assignment", .obj [("x", .num 1)])])]
def assignA : ActionRef := { type := "assign", params := some (.obj [("assignment", .obj [("x", .num 1)])]) }
/-- `choose([{actions: [assign({x: 1})]}])`: one unguarded branch whose follow-up is the assignment -/
def chooseA : ActionRef :=
  { type := "choose", params := some (.obj [("conditions", .arr [.obj [("actions", .arr [assignJ])]])]) }
def tE (tid : Nat) (ev : String) (acts : List ActionRef) (target : Option String := none) : Trans :=
  { tid, event := ev, target, guard := none, actions := acts, reenter := false, forbidden := false }
def mkM (L : Nat) (on : List (String × List Trans)) : Machine :=
  { id := "m", maxIterations := L, customIds := [],
    root := .mk (mkD .compound (some "a")) [("a", .mk (mkD .atomic none none [] on) [])] }

/-- `E` raises its own trigger twice (fan-out 2); bound 3 -/
def fanM : Machine :=
  mkM 3 [("E", [tE 0 "E" [{ type := "sawE" }, raiseA "E", raiseA "E"]]), ("X", [tE 1 "X" [{ type := "sawX" }]])]
/-- `E` raises `R` once; `R` is handled and raises nothing: a chain of length 1, bound 3 -/
def shortM : Machine :=
  mkM 3 [("E", [tE 0 "E" [raiseA "R"]]), ("R", [tE 1 "R" [{ type := "sawR" }]])]
/-- `E` raises `R` four times in ONE step (more than the bound 3) -/
def burstM : Machine :=
  mkM 3 [("E", [tE 0 "E" [raiseA "R", raiseA "R", raiseA "R", raiseA "R"]]),
         ("R", [tE 1 "R" [{ type := "sawR" }]]), ("X", [tE 2 "X" [{ type := "sawX" }]])]
/-- `E` raises `R`; handling `R` runs `sawR`, then fails (`nope` is not implemented) -/
def errChainM : Machine :=
  mkM 3 [("E", [tE 0 "E" [raiseA "R"]]), ("R", [tE 1 "R" [{ type := "sawR" }, { type := "nope" }]])]
/-- two states whose `always` transitions target each other; bound 4 -/
def pingPongM : Machine :=
  { id := "m", maxIterations := 4, customIds := [],
    root := .mk (mkD .compound (some "a")) [
      ("a", .mk (mkD .atomic none none [] [("", [tE 0 "" [{ type := "toB" }] (some "b")])]) []),
      ("b", .mk (mkD .atomic none none [] [("", [tE 1 "" [{ type := "toA" }] (some "a")])]) [])] }
/-- `a` moves to `b` by an `always` transition, `b` is stable: a chain of length 1; bound 4 -/
def settleM : Machine :=
  { id := "m", maxIterations := 4, customIds := [],
    root := .mk (mkD .compound (some "a")) [
      ("a", .mk (mkD .atomic none none [] [("", [tE 0 "" [{ type := "toB" }] (some "b")])]) []),
      ("b", .mk (mkD .atomic none none [] [("X", [tE 1 "X" [{ type := "sawX" }]])]) [])] }

/-- `p` (initial child: the final state `f`) declares an `onDone` that re-enters `p` itself: every
    entry completes `p` again; bound 3 -/
def reT : Trans :=
  { tid := 0, event := "done.state.m.p", target := some "p", guard := none, actions := [{ type := "again" }],
    reenter := true, forbidden := false }
def reDoneM : Machine :=
  { id := "m", maxIterations := 3, customIds := [],
    root := .mk (mkD .compound (some "p")) [("p", .mk (mkD .compound (some "f") (some reT)) [("f", fin)])] }
/-- the entry actions of the initial state raise `R` sixty times; bound 0 -/
def manyM : Machine :=
  { id := "m", maxIterations := 0, customIds := [],
    root := .mk (mkD .compound (some "a")) [
      ("a", .mk { (mkD .atomic none none [] [("R", [tE 0 "R" [{ type := "sawR" }]])]) with
                  entry := List.replicate 60 (raiseA "R") } [])] }

def count (r : String) (s : St) : Nat := s.trace.count r
def running : St := { cfg := [[], ["a"]], status := "running" }

end Ex

end XSM.Term

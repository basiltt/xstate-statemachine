import Xsm.Model.Select
/-!
The insertion sort of the model (`insertBy`, `sortBy` in `Model/Select.lean`; Python's `sorted` / `list.sort`
with the comparators the code uses): permutation and membership, sortedness for any relation the
comparator decides, independence of the input order, the identity on sorted input.
-/
namespace XSM

theorem insertBy_perm {α} (le : α → α → Bool) (x : α) : ∀ ys : List α, (insertBy le x ys).Perm (x :: ys)
  | [] => .refl _
  | y :: ys => by
    simp only [insertBy]
    split
    · exact .refl _
    · exact ((insertBy_perm le x ys).cons y).trans (.swap x y ys)

theorem sortBy_cons {α} (le : α → α → Bool) (x : α) (xs : List α) :
    sortBy le (x :: xs) = insertBy le x (sortBy le xs) := rfl

theorem sortBy_perm {α} (le : α → α → Bool) : ∀ xs : List α, (sortBy le xs).Perm xs
  | [] => .refl _
  | x :: xs => (insertBy_perm le x _).trans ((sortBy_perm le xs).cons x)

theorem mem_insertBy {α} (le : α → α → Bool) (x y : α) (ys : List α) :
    y ∈ insertBy le x ys ↔ y = x ∨ y ∈ ys := by
  rw [(insertBy_perm le x ys).mem_iff, List.mem_cons]

theorem mem_sortBy {α} (le : α → α → Bool) (y : α) (xs : List α) : y ∈ sortBy le xs ↔ y ∈ xs :=
  (sortBy_perm le xs).mem_iff

theorem sortBy_length {α} (le : α → α → Bool) (xs : List α) : (sortBy le xs).length = xs.length :=
  (sortBy_perm le xs).length_eq

theorem sortBy_eq_nil {α} (le : α → α → Bool) (xs : List α) : sortBy le xs = [] ↔ xs = [] := by
  rw [← List.length_eq_zero_iff, sortBy_length, List.length_eq_zero_iff]

section sorted
variable {α : Type} {le : α → α → Bool} {S : α → α → Prop} {P : α → Prop}

/-- Insertion keeps a list sorted with respect to any relation `S` that the comparator decides on the
    elements at hand (`P`): `le a b` gives `S a b`, its failure gives `S b a`, and `S` is transitive. -/
theorem insertBy_pairwise (hle : ∀ a b, P a → P b → le a b = true → S a b)
    (hnle : ∀ a b, P a → P b → ¬ le a b = true → S b a)
    (htr : ∀ a b c, P a → P b → P c → S a b → S b c → S a c) {x : α} (hx : P x) :
    ∀ ys : List α, (∀ y ∈ ys, P y) → ys.Pairwise S → (insertBy le x ys).Pairwise S
  | [], _, _ => List.pairwise_singleton _ _
  | y :: ys, hP, h => by
    have hy := hP y List.mem_cons_self
    have hPs := fun z hz => hP z (List.mem_cons_of_mem _ hz)
    obtain ⟨hyz, hys⟩ := List.pairwise_cons.1 h
    simp only [insertBy]
    split
    · rename_i hxy
      refine List.pairwise_cons.2 ⟨fun z hz => ?_, h⟩
      rcases List.mem_cons.1 hz with rfl | hz
      · exact hle _ _ hx hy hxy
      · exact htr _ _ _ hx hy (hPs z hz) (hle _ _ hx hy hxy) (hyz z hz)
    · rename_i hxy
      refine List.pairwise_cons.2 ⟨fun z hz => ?_, insertBy_pairwise hle hnle htr hx ys hPs hys⟩
      rcases (mem_insertBy le x z ys).1 hz with rfl | hz
      · exact hnle _ _ hx hy hxy
      · exact hyz z hz

theorem sortBy_pairwise (hle : ∀ a b, P a → P b → le a b = true → S a b)
    (hnle : ∀ a b, P a → P b → ¬ le a b = true → S b a)
    (htr : ∀ a b c, P a → P b → P c → S a b → S b c → S a c) :
    ∀ xs : List α, (∀ x ∈ xs, P x) → (sortBy le xs).Pairwise S
  | [], _ => List.Pairwise.nil
  | x :: xs, hP =>
    insertBy_pairwise hle hnle htr (hP x List.mem_cons_self) _
      (fun y hy => hP y (List.mem_cons_of_mem _ ((mem_sortBy le y xs).1 hy)))
      (sortBy_pairwise hle hnle htr xs (fun z hz => hP z (List.mem_cons_of_mem _ hz)))

end sorted

theorem sortBy_pairwise_le {α : Type} (le : α → α → Bool) (htot : ∀ a b, le a b = true ∨ le b a = true)
    (htr : ∀ a b c, le a b = true → le b c = true → le a c = true) (xs : List α) :
    (sortBy le xs).Pairwise (fun a b => le a b = true) :=
  sortBy_pairwise (P := fun _ => True) (fun _ _ _ _ h => h) (fun a b _ _ h => (htot a b).resolve_left h)
    (fun a b c _ _ _ => htr a b c) xs (fun _ _ => trivial)

section
variable {α : Type}

/-- **the sorting lemma**: when `le` is, on the elements of `xs`, total, transitive and antisymmetric
    (the sort key is injective), sorting any permutation of `xs` gives the same list. -/
theorem sortBy_perm_eq (le : α → α → Bool) {xs ys : List α} (hp : xs.Perm ys)
    (htot : ∀ a ∈ xs, ∀ b ∈ xs, le a b = true ∨ le b a = true)
    (htr : ∀ a ∈ xs, ∀ b ∈ xs, ∀ c ∈ xs, le a b = true → le b c = true → le a c = true)
    (hanti : ∀ a ∈ xs, ∀ b ∈ xs, le a b = true → le b a = true → a = b) :
    sortBy le xs = sortBy le ys := by
  have hs : ∀ zs : List α, (∀ z ∈ zs, z ∈ xs) → (sortBy le zs).Pairwise (fun a b => le a b = true) :=
    sortBy_pairwise (P := (· ∈ xs)) (fun _ _ _ _ h => h)
      (fun a b ha hb h => (htot a ha b hb).resolve_left h)
      (fun a b c ha hb hc => htr a ha b hb c hc)
  refine List.Perm.eq_of_pairwise (le := fun a b => le a b = true) ?_ (hs xs fun _ h => h)
    (hs ys fun _ h => hp.symm.subset h) ((sortBy_perm le xs).trans (hp.trans (sortBy_perm le ys).symm))
  intro a b ha hb
  exact hanti a ((mem_sortBy le a xs).1 ha) b (hp.symm.subset ((mem_sortBy le b ys).1 hb))
end

theorem insertBy_head {α} (le : α → α → Bool) (x : α) (xs : List α) (h : ∀ y ∈ xs, le x y = true) :
    insertBy le x xs = x :: xs := by
  cases xs with
  | nil => rfl
  | cons y ys => simp only [insertBy]; rw [if_pos (h y List.mem_cons_self)]

theorem sortBy_of_pairwise {α} (le : α → α → Bool) :
    ∀ xs : List α, xs.Pairwise (fun a b => le a b = true) → sortBy le xs = xs
  | [], _ => rfl
  | x :: xs, h => by
    have h' := List.pairwise_cons.1 h
    rw [sortBy_cons, sortBy_of_pairwise le xs h'.2, insertBy_head le x xs h'.1]

section comparators
variable {α : Type}

/-- the shapes of the (−depth, id) and (depth, id) lambdas that `leavesSorted`, `sortExit` and
    `recordHistory` hand to `sortBy`; they unfold to them by `rfl` -/
def leDesc (d : α → Nat) (s : α → String) : α → α → Bool :=
  fun a b => d a > d b || (d a == d b && decide (s a ≤ s b))
def leAsc (d : α → Nat) (s : α → String) : α → α → Bool :=
  fun a b => d a < d b || (d a == d b && decide (s a ≤ s b))

theorem leDesc_total (d : α → Nat) (s : α → String) (a b : α) :
    leDesc d s a b = true ∨ leDesc d s b a = true := by
  simp only [leDesc, Bool.or_eq_true, Bool.and_eq_true, decide_eq_true_eq, beq_iff_eq]
  rcases Nat.lt_trichotomy (d a) (d b) with h | h | h
  · exact Or.inr (Or.inl h)
  · rcases String.le_total (s a) (s b) with h1 | h1
    · exact Or.inl (Or.inr ⟨h, h1⟩)
    · exact Or.inr (Or.inr ⟨h.symm, h1⟩)
  · exact Or.inl (Or.inl h)

theorem leDesc_trans (d : α → Nat) (s : α → String) (a b c : α)
    (h1 : leDesc d s a b = true) (h2 : leDesc d s b c = true) : leDesc d s a c = true := by
  simp only [leDesc, Bool.or_eq_true, Bool.and_eq_true, decide_eq_true_eq, beq_iff_eq] at *
  rcases h1 with h1 | ⟨e1, l1⟩ <;> rcases h2 with h2 | ⟨e2, l2⟩
  · exact Or.inl (Nat.lt_trans h2 h1)
  · exact Or.inl (e2 ▸ h1)
  · exact Or.inl (e1 ▸ h2)
  · exact Or.inr ⟨e1.trans e2, String.le_trans l1 l2⟩

theorem leDesc_antisymm (d : α → Nat) (s : α → String) (a b : α)
    (h1 : leDesc d s a b = true) (h2 : leDesc d s b a = true) : d a = d b ∧ s a = s b := by
  simp only [leDesc, Bool.or_eq_true, Bool.and_eq_true, decide_eq_true_eq, beq_iff_eq] at *
  rcases h1 with h1 | ⟨e1, l1⟩ <;> rcases h2 with h2 | ⟨e2, l2⟩
  · exact absurd (Nat.lt_trans h1 h2) (Nat.lt_irrefl _)
  · exact absurd (e2 ▸ h1) (Nat.lt_irrefl _)
  · exact absurd (e1 ▸ h2) (Nat.lt_irrefl _)
  · exact ⟨e1, String.le_antisymm l1 l2⟩

theorem leAsc_total (d : α → Nat) (s : α → String) (a b : α) :
    leAsc d s a b = true ∨ leAsc d s b a = true := by
  simp only [leAsc, Bool.or_eq_true, Bool.and_eq_true, decide_eq_true_eq, beq_iff_eq]
  rcases Nat.lt_trichotomy (d a) (d b) with h | h | h
  · exact Or.inl (Or.inl h)
  · rcases String.le_total (s a) (s b) with h1 | h1
    · exact Or.inl (Or.inr ⟨h, h1⟩)
    · exact Or.inr (Or.inr ⟨h.symm, h1⟩)
  · exact Or.inr (Or.inl h)

theorem leAsc_trans (d : α → Nat) (s : α → String) (a b c : α)
    (h1 : leAsc d s a b = true) (h2 : leAsc d s b c = true) : leAsc d s a c = true := by
  simp only [leAsc, Bool.or_eq_true, Bool.and_eq_true, decide_eq_true_eq, beq_iff_eq] at *
  rcases h1 with h1 | ⟨e1, l1⟩ <;> rcases h2 with h2 | ⟨e2, l2⟩
  · exact Or.inl (Nat.lt_trans h1 h2)
  · exact Or.inl (e2 ▸ h1)
  · exact Or.inl (e1 ▸ h2)
  · exact Or.inr ⟨e1.trans e2, String.le_trans l1 l2⟩

theorem leAsc_antisymm (d : α → Nat) (s : α → String) (a b : α)
    (h1 : leAsc d s a b = true) (h2 : leAsc d s b a = true) : d a = d b ∧ s a = s b := by
  simp only [leAsc, Bool.or_eq_true, Bool.and_eq_true, decide_eq_true_eq, beq_iff_eq] at *
  rcases h1 with h1 | ⟨e1, l1⟩ <;> rcases h2 with h2 | ⟨e2, l2⟩
  · exact absurd (Nat.lt_trans h1 h2) (Nat.lt_irrefl _)
  · exact absurd (e2 ▸ h1) (Nat.lt_irrefl _)
  · exact absurd (e1 ▸ h2) (Nat.lt_irrefl _)
  · exact ⟨e1, String.le_antisymm l1 l2⟩

theorem leAsc_key {d : α → Nat} {s : α → String} {a b : α} (h : leAsc d s a b = true) : d a ≤ d b := by
  simp only [leAsc, Bool.or_eq_true, Bool.and_eq_true, decide_eq_true_eq, beq_iff_eq] at h
  rcases h with h | ⟨h, _⟩
  · exact Nat.le_of_lt h
  · exact Nat.le_of_eq h

theorem leAsc_false_key {d : α → Nat} {s : α → String} {a b : α} (h : ¬ leAsc d s a b = true) : d b ≤ d a :=
  (leAsc_total d s a b).elim (fun h' => absurd h' h) leAsc_key

end comparators

end XSM

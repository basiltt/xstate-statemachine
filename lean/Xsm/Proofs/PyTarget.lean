import Xsm.Model.Resolve
import Xsm.Proofs.Guard
import Xsm.Proofs.Select
import Xsm.Proofs.Legal
import Xsm.Proofs.Pythonic
/-!
C19, targets: `pythonic._compile_config` writes the BARE NAME of the State object a `Transition`
targets.  When that name is borne by exactly one state of the machine, the interpreters' target
resolution (`_resolve_target_state_robustly`: four `resolve_target_state` attempts, then the root
lookups, then the tree walk) finds exactly that state, from every source.
-/
namespace XSM
open XSM.Spec

/-- a non-empty, dot-free name that does not start with `#` -/
def SimpleName (s : String) : Prop :=
  '.' ∉ s.toList ∧ ∃ c rest, s.toList = c :: rest ∧ c ≠ '#'

theorem sStartsWith_char_false {s pre : String} {c x : Char} {rest : List Char}
    (e : s.toList = c :: rest) (hp : pre.toList = [x]) (hc : c ≠ x) : sStartsWith s pre = false := by
  rw [sStartsWith, hp, e, List.isPrefixOf, List.isPrefixOf]
  simp [Ne.symm hc]

namespace SimpleName
variable {s : String} (h : SimpleName s)
include h

theorem ne_empty : s ≠ "" := by
  obtain ⟨_, c, rest, e, _⟩ := h
  intro hs
  rw [hs] at e
  cases e

theorem ne_dot : s ≠ "." := by
  intro e
  apply h.1
  rw [e]
  decide

theorem head_ne_dot {c : Char} {rest : List Char} (e : s.toList = c :: rest) : c ≠ '.' :=
  fun e' => h.1 (by rw [e, e']; exact List.mem_cons_self)

theorem not_hash : sStartsWith s "#" = false := by
  obtain ⟨_, c, rest, e, hc⟩ := h
  exact sStartsWith_char_false e rfl hc

theorem not_dot : sStartsWith s "." = false := by
  obtain ⟨c, rest, e, _⟩ := h.2
  exact sStartsWith_char_false e rfl (h.head_ne_dot e)

end SimpleName

theorem splitDot_qualified {a b : String} (ha : SimpleName a) (hb : SimpleName b) :
    splitDot (a ++ "." ++ b) = [a, b] := by
  have hh : ".".toList = ['.'] := rfl
  simp only [splitDot, String.toList_append, hh, List.append_assoc, List.singleton_append]
  rw [splitDotL_append_dot, splitDotL_dotfree _ ha.1, splitDotL_dotfree _ hb.1]
  simp [String.ofList_toList]

/-- what the bubbling loop of `resolve_target_state` can return -/
theorem resolveTarget_go_spec (m : Machine) (segs : List String) :
    ∀ (fuel : Nat) (cur p : Path), resolveTarget.go m segs fuel cur = some p →
      (∃ c n, m.root.at c = some n ∧ (n.at segs).isSome ∧ p = c ++ segs)
      ∨ (segs.length = 1 ∧ segs.head? = some (m.keyOf p) ∧ (m.root.at p).isSome)
  | 0, _, _, h => by simp [resolveTarget.go] at h
  | fuel + 1, cur, p, h => by
    unfold resolveTarget.go at h
    split at h
    · cases h
    · rename_i n hn
      split at h
      · rename_i p' hd
        cases h
        unfold descend at hd
        split at hd
        · rename_i x hx
          cases hd
          exact Or.inl ⟨cur, n, hn, by simp [hx], rfl⟩
        · cases hd
      · split at h
        · rename_i hc
          cases h
          exact Or.inr ⟨hc.1, hc.2, by simp [hn]⟩
        · split at h
          · cases h
          · exact resolveTarget_go_spec m segs fuel _ p h

theorem resolveTarget_bare_spec (m : Machine) (k : String) (hk : SimpleName k) (ref p : Path)
    (h : resolveTarget m k ref = some p) :
    (∃ c n, m.root.at c = some n ∧ (n.at [k]).isSome ∧ p = c ++ [k]) ∨ (k = m.keyOf p ∧ (m.root.at p).isSome) := by
  unfold resolveTarget at h
  simp only [hk.ne_empty, if_false, hk.not_hash, Bool.false_eq_true, hk.ne_dot, hk.not_dot, splitDot_dotfree hk.1,
    List.any_cons, List.any_nil, Bool.or_false, decide_eq_true_eq] at h
  rcases resolveTarget_go_spec m [k] _ ref p h with h1 | ⟨_, h2, h3⟩
  · exact Or.inl h1
  · right
    simp only [List.head?_cons, Option.some.injEq] at h2
    exact ⟨h2, h3⟩

theorem resolveTarget_qualified_spec (m : Machine) (a k : String) (ha : SimpleName a) (hk : SimpleName k) (ref p : Path)
    (h : resolveTarget m (a ++ "." ++ k) ref = some p) :
    ∃ c n, m.root.at c = some n ∧ (n.at [a, k]).isSome ∧ p = c ++ [a, k] := by
  unfold resolveTarget at h
  obtain ⟨c, rest, ea, hhash⟩ := ha.2
  have hdot := ha.head_ne_dot ea
  obtain ⟨rest', e⟩ : ∃ r, (a ++ "." ++ k).toList = c :: r :=
    ⟨rest ++ ".".toList ++ k.toList, by rw [String.toList_append, String.toList_append, ea]; rfl⟩
  have hne : a ++ "." ++ k ≠ "" := fun e' => by rw [e'] at e; cases e
  have hnd : a ++ "." ++ k ≠ "." := fun e' => by rw [e'] at e; cases e; exact hdot rfl
  simp only [hne, if_false, sStartsWith_char_false (pre := "#") e rfl hhash, Bool.false_eq_true, hnd,
    sStartsWith_char_false (pre := ".") e rfl hdot, splitDot_qualified ha hk, List.any_cons, List.any_nil, Bool.or_false,
    decide_eq_true_eq, ha.ne_empty, hk.ne_empty, Bool.or_self] at h
  rcases resolveTarget_go_spec m [a, k] _ ref p h with h1 | ⟨h2, _, _⟩
  · exact h1
  · simp at h2

theorem mem_allPaths_of_at (root : SNode) (p : Path) (h : (root.at p).isSome) : p ∈ root.allPaths [] := by
  obtain ⟨n, hn⟩ := Option.isSome_iff_exists.mp h
  simpa using at_mem_allPaths root [] p n hn

theorem at_append_isSome (root : SNode) (c segs : Path) (n : SNode) (h : root.at c = some n) (hs : (n.at segs).isSome) :
    (root.at (c ++ segs)).isSome := by
  rw [at_append root c segs n h]
  exact hs

theorem findKid_isSome_of_mem : ∀ {ks : List (String × SNode)} {k : String} {c : SNode}, (k, c) ∈ ks → (findKid k ks).isSome
  | [], _, _, h => by cases h
  | (k', c') :: rest, k, c, h => by
    unfold findKid
    split
    · rfl
    · rename_i hne
      rcases List.mem_cons.mp h with e | hm
      · cases e
        exact absurd rfl hne
      · exact findKid_isSome_of_mem hm

theorem localName_dotfree (m : Machine) (p : Path) (k : String) (hl : p.getLast? = some k) (hd : '.' ∉ k.toList) :
    m.localName p = k := by
  unfold Machine.localName
  rw [hl]
  simp [splitDot_dotfree hd]

theorem localName_root (m : Machine) (hid : SimpleName m.id) : m.localName [] = m.id := by
  unfold Machine.localName
  simp [splitDot_dotfree hid.1]

/-- a bare simple name (not the machine id, not `machine`) resolves, from any source, only to a state
    that bears it: each `resolve_target_state` attempt, the root lookups and the tree walk land on a path
    of the tree whose last key is the name -/
theorem resolveRobust_bare_sound (m : Machine) (k : String) (src p : Path)
    (hid : SimpleName m.id) (hk : SimpleName k) (hkid : k ≠ m.id) (hkm : k ≠ "machine")
    (hdf : ∀ p ∈ m.root.allPaths [], ∀ key ∈ p, '.' ∉ key.toList)
    (h : resolveRobust m src k = some p) : p ∈ m.root.allPaths [] ∧ p.getLast? = some k := by
  have bare : ∀ ref p, resolveTarget m k ref = some p → p ∈ m.root.allPaths [] ∧ p.getLast? = some k := by
    intro ref p h
    rcases resolveTarget_bare_spec m k hk ref p h with ⟨c, n, hc, hn, rfl⟩ | ⟨hkey, hp⟩
    · exact ⟨mem_allPaths_of_at _ _ (at_append_isSome _ _ _ _ hc hn), by simp⟩
    · cases p with
      | nil => exact absurd hkey hkid
      | cons x xs =>
        refine ⟨mem_allPaths_of_at _ _ hp, ?_⟩
        unfold Machine.keyOf at hkey
        cases hl : (x :: xs).getLast? with
        | none => simp at hl
        | some l => rw [hl] at hkey; simp at hkey; rw [hkey]
  have qual : ∀ ref p, resolveTarget m (m.id ++ "." ++ k) ref = some p →
      p ∈ m.root.allPaths [] ∧ p.getLast? = some k := by
    intro ref p h
    obtain ⟨c, n, hc, hn, rfl⟩ := resolveTarget_qualified_spec m m.id k hid hk ref p h
    exact ⟨mem_allPaths_of_at _ _ (at_append_isSome _ _ _ _ hc hn), by simp⟩
  have hroot : ∀ k' c, (k', c) ∈ m.root.kids → [k'] ∈ m.root.allPaths [] := by
    intro k' c hm
    apply mem_allPaths_of_at
    cases hr : m.root with
    | mk d ks =>
      rw [hr] at hm
      simp only [SNode.kids] at hm
      simp only [SNode.at]
      obtain ⟨c', hc'⟩ := Option.isSome_iff_exists.mp (findKid_isSome_of_mem hm)
      simp [hc']
  unfold resolveRobust at h
  simp only at h
  split at h
  · rename_i p' hp
    cases h
    obtain ⟨a, ha, hfa⟩ := List.exists_of_findSome?_eq_some hp
    simp only [List.mem_append, List.mem_cons, List.not_mem_nil, or_false] at ha
    rcases ha with (rfl | ha) | rfl | rfl
    · exact bare _ _ hfa
    · split at ha
      · cases ha
      · simp only [List.mem_cons, List.not_mem_nil, or_false] at ha
        subst ha
        exact bare _ _ hfa
    · exact bare _ _ hfa
    · exact qual _ _ hfa
  · simp only [hkm, if_false] at h
    split at h
    · rename_i c hc
      cases h
      have hm : (k, c) ∈ m.root.kids := by
        cases hr : m.root with
        | mk d ks => rw [hr] at hc; exact findKid_some_mem hc
      exact ⟨hroot k c hm, by simp⟩
    · split at h
      · rename_i k' c' hf
        cases h
        have hin := hroot k' c' (List.mem_of_find?_eq_some hf)
        have hp := List.find?_some hf
        simp only [decide_eq_true_eq] at hp
        rw [localName_dotfree m [k'] k' (by simp) (hdf _ hin k' (by simp))] at hp
        subst hp
        exact ⟨hin, by simp⟩
      · have hm := List.mem_of_find?_eq_some h
        have hp := List.find?_some h
        simp only [decide_eq_true_eq] at hp
        cases hl : p.getLast? with
        | none =>
          have : p = [] := by simpa using hl
          subst this
          rw [localName_root m hid] at hp
          exact absurd hp.symm hkid
        | some l =>
          rw [localName_dotfree m p l hl (hdf p hm l (List.mem_of_getLast? hl))] at hp
          subst hp
          exact ⟨hm, rfl⟩

/-- … and it does resolve as soon as some state bears it (the tree walk finds one at the latest) -/
theorem resolveRobust_bare_complete (m : Machine) (k : String) (src q : Path) (hk : '.' ∉ k.toList)
    (hq : q ∈ m.root.allPaths []) (hql : q.getLast? = some k) : (resolveRobust m src k).isSome := by
  unfold resolveRobust
  simp only
  split
  · rfl
  · split
    · rfl
    · split
      · rfl
      · split
        · rfl
        · rw [List.find?_isSome]
          exact ⟨q, hq, by simpa using localName_dotfree m q k hql hk⟩

end XSM

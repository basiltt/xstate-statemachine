import Xsm.Proofs.Lifecycle
/-
The witness runs of C14 (`Xsm/Properties/C14.lean`): lifecycle calls on `goM` (start in `a`, `GO` reaches the
top-level final state `f`), evaluated once; the examples of C14 §7 project from `goM_run_facts`.
-/
namespace XSM.C14
open XSM XSM.Done XSM.Done.Ex

theorem goM_run_facts :
    -- sync: thirteen calls in a row, every kind among them
    (let ops : List LOp := [.stop, .send (.user "GO"), .start, .start, .send (.user "GO"), .send (.user "GO"),
                            .start, .stop, .stop, .start, .send (.user "GO"), .restore, .start]
     ((lrun .sync goM exU ops (LSt.new goM)).st.status, (lrun .sync goM exU ops (LSt.new goM)).st.cfg) =
       ("stopped", [[], ["f"]])) ∧
    -- sync: the status after each prefix of `stop, send, start, send, stop`
    (([[LOp.stop], [.stop, .send (.user "GO")], [.stop, .send (.user "GO"), .start],
       [.stop, .send (.user "GO"), .start, .send (.user "GO")],
       [.stop, .send (.user "GO"), .start, .send (.user "GO"), .stop]].map
         (fun ops => (lrun .sync goM exU ops (LSt.new goM)).st.status)) =
       ["uninitialized", "uninitialized", "running", "done", "stopped"]) ∧
    -- async: the status after each prefix of `stop, send, start, stop` (the pre-sent `GO` is digested by `start`)
    (([[LOp.stop], [.stop, .send (.user "GO")], [.stop, .send (.user "GO"), .start],
       [.stop, .send (.user "GO"), .start, .stop]].map
         (fun ops => (lrun .async goM exU ops (LSt.new goM)).st.status)) =
       ["uninitialized", "uninitialized", "done", "stopped"]) ∧
    -- async: a restored interpreter has no loop, `send` only queues …
    (((lrun .async goM exU [.start, .restore, .send (.user "GO")] (LSt.new goM)).st.status,
      (lrun .async goM exU [.start, .restore, .send (.user "GO")] (LSt.new goM)).loop,
      (lrun .async goM exU [.start, .restore, .send (.user "GO")] (LSt.new goM)).st.queue.length,
      (lrun .async goM exU [.start, .restore, .send (.user "GO")] (LSt.new goM)).st.cfg) =
       ("running", false, 1, [[], ["a"]])) ∧
    -- … until `start` attaches one
    (((lrun .async goM exU [.start, .restore, .send (.user "GO"), .start] (LSt.new goM)).st.status,
      (lrun .async goM exU [.start, .restore, .send (.user "GO"), .start] (LSt.new goM)).loop,
      (lrun .async goM exU [.start, .restore, .send (.user "GO"), .start] (LSt.new goM)).st.queue.length,
      (lrun .async goM exU [.start, .restore, .send (.user "GO"), .start] (LSt.new goM)).st.cfg) =
       ("done", true, 0, [[], ["f"]])) ∧
    -- async `start`: no loop for a machine that completes during `start` (`finM`), a loop for `goM`
    (let finM : Machine := { goM with root := .mk (mkD .compound (some "f")) [("f", .mk (mkD .final) [])] }
     ((opStart .async finM exU (LSt.new finM)).st.status, (opStart .async finM exU (LSt.new finM)).loop,
      (opStart .async goM exU (LSt.new goM)).st.status, (opStart .async goM exU (LSt.new goM)).loop) =
       ("done", false, "running", true)) := by decide +kernel

end XSM.C14

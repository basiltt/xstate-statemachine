import Xsm.Proofs.Faults
/-
The witness machines and registries of C07 (`Xsm/Properties/C07.lean`); their runs, evaluated together in `machine_runs`.
-/
namespace XSM.C07
open XSM

/-- `inc` adds 1 to `x`; `boom` raises; `co` is a coroutine function; anything else is not
    registered. The guard `nog` of a `choose` branch has no implementation. -/
def exAct : String → Ctx → String → AOut := fun n c _ =>
  if n = "boom" then .raises
  else if n = "inc" then .ok (ctxSet c "x" (ctxGet c "x" + 1))
  else if n = "co" then .isAsync c
  else .missing
def exH (sync : Bool := true) : Hooks :=
  { snd := enqueue, sndRaise := enqueue, syncEngine := sync, act := exAct,
    geval := fun g _ _ => match g with | .named "nog" _ => .error (.missing "nog") | _ => .ok true }
/-- the fault-free registry: `boom` behaves like `inc` -/
def okH : Hooks :=
  { snd := enqueue, sndRaise := enqueue, act := fun n c e => if n = "boom" then exAct "inc" c e else exAct n c e }

def A (n : String) : ActionRef := { type := n }
/-- `choose([{guard: g, actions: acts}])`; without `g` the branch is unconditional -/
def chooseOne (g : Option String) (acts : List J) : ActionRef :=
  { type := "choose",
    params := some (.obj [("conditions", .arr [.obj
      ((match g with | some g => [("guard", J.str g)] | none => []) ++ [("actions", .arr acts)])])]) }

def mkD (kind : Kind) (initial : Option String := none) (entry exit : List String := [])
    (on : List (String × List Trans) := []) : StateDef :=
  { kind, initial, entry := entry.map A, exit := exit.map A, on, onDone := none, after := [], invoke := [],
    deep := false, historyTarget := none, customId := none, tags := [] }
def mkT (tid : Nat) (event target : String) (acts : List String) : Trans :=
  { tid, event, target := some target, guard := none, actions := acts.map A, reenter := false, forbidden := false }

/-- `a --GO [boom, inc]--> b`, `b --BAD [nosuch]--> a`, `b --BACK--> a`; leaving `a` runs
    `[inc, boom, inc]`, entering `b` runs `[inc]` -/
def exM : Machine :=
  { id := "m", maxIterations := 10, customIds := [],
    root := .mk (mkD .compound (some "a")) [
      ("a", .mk (mkD .atomic none [] ["inc", "boom", "inc"] [("GO", [mkT 0 "GO" "b" ["boom", "inc"]])]) []),
      ("b", .mk (mkD .atomic none ["inc"] []
        [("BAD", [mkT 1 "BAD" "a" ["nosuch"]]), ("BACK", [mkT 2 "BACK" "a" []])]) [])] }
def exU : UEnv := { g := fun _ _ _ => .missing, a := exAct }
def sA : St := { cfg := [[], ["a"]], status := "running" }
def sB : St := { cfg := [[], ["b"]], status := "running" }
/-- the plan of `a --GO--> b` -/
def plGO : Plan := { exits := [["a"]], actions := [A "boom", A "inc"], entries := [⟨["b"], false⟩] }

def raiseX : ActionRef := { type := "raise", params := some (.obj [("event", .str "X")]) }

/-- `a`, the top-level final state `f`, and `x`, whose entry action `nosuch` is missing -/
def exMF : Machine :=
  { id := "m", maxIterations := 10, customIds := [],
    root := .mk (mkD .compound (some "a")) [
      ("a", .mk (mkD .atomic) []), ("f", .mk (mkD .final) []), ("x", .mk (mkD .atomic none ["nosuch"]) [])] }
/-- leaves `a`, enters `f`, then `x` -/
def plF : Plan := { exits := [["a"]], entries := [⟨["f"], false⟩, ⟨["x"], false⟩] }

/-- the name a `missingAction` error flag carries -/
def missingName : Option EErr → Option String
  | some (.missingAction n) => some n
  | _ => none

theorem err_of_missingName {e : Option EErr} {n : String} (h : missingName e = some n) :
    e = some (.missingAction n) := by
  unfold missingName at h
  split at h
  · cases h; rfl
  · cases h

/-- the runs of `exM` and of `exMF` (the two machines share the search for a built-in `nosuch`) -/
theorem machine_runs :
    -- `exM` in `a`, the plan of `GO`: the configuration with the raising registry, with the fault-free one, by `planCfg`
    (((((execute exH .sync exM (.user "GO") plGO sA).cfg = [[], ["b"]] ∧
        (execute okH .sync exM (.user "GO") plGO sA).cfg = [[], ["b"]] ∧
        planCfg exM plGO sA.cfg = [[], ["b"]]) ∧
    -- … no error flag, and the two traces
       ((execute exH .sync exM (.user "GO") plGO sA).err.isSome = false ∧
        (execute exH .sync exM (.user "GO") plGO sA).trace =
          ["#t:m,m.b", "inc@GO", "#aerr:boom", "boom@GO", "#aerr:boom", "boom@GO", "inc@GO"] ∧
        (execute okH .sync exM (.user "GO") plGO sA).trace =
          ["#t:m,m.b", "inc@GO", "inc@GO", "boom@GO", "inc@GO", "boom@GO", "inc@GO"]) ∧
    -- … through `send`; with the missing action `nosuch` in place of the transition's actions
       ((syncSend exM exU (.user "GO") sA).cfg = [[], ["b"]] ∧
        (execute exH .sync exM (.user "GO") { plGO with actions := [A "nosuch"] } sA).cfg = [[], ["a"]])) ∧
    -- `exMF` in `a`, the plan `plF`
      ((execute exH .sync exMF (.user "GO") plF sA).status = "done" ∧
       (execute exH .sync exMF (.user "GO") plF sA).cfg = [[], ["a"]] ∧
       (execute exH .sync exMF (.user "GO") plF sA).err.isSome = true))) ∧
    -- `exM` in `b`, `BAD` (its action `nosuch` is missing) on the sync engine: sent alone, then `BACK`
    ((((syncSend exM exU (.user "BAD") sB).cfg = [[], ["b"]] ∧
       missingName (syncSend exM exU (.user "BAD") sB).err = some "nosuch" ∧
       (syncSend exM exU (.user "BAD") sB).status = "running" ∧
       (cmd .sync exM exU (syncSend exM exU (.user "BAD") sB) (.user "BACK")).cfg = [[], ["a"]]) ∧
    -- … queued in front of `BACK`
      (((drainFlagged exM exU { sB with queue := [⟨.user "BAD", false⟩, ⟨.user "BACK", false⟩] }).queue.map
          (·.ev.type)) = ["BACK"] ∧
       (drainFlagged exM exU { sB with queue := [⟨.user "BAD", false⟩, ⟨.user "BACK", false⟩] }).err.isSome = true)) ∧
    -- … on the async engine: one iteration of the run loop; the loop with `BACK` queued behind
     (((asyncStep exM exU ⟨.user "BAD", false⟩ sB).errors = 1 ∧
       (asyncStep exM exU ⟨.user "BAD", false⟩ sB).err.isSome = false ∧
       (asyncStep exM exU ⟨.user "BAD", false⟩ sB).cfg = [[], ["b"]]) ∧
      (asyncDrain exM exU 5 { sB with queue := [⟨.user "BAD", false⟩, ⟨.user "BACK", false⟩] }).cfg =
        [[], ["a"]])) := by decide +kernel

/-- action lists run from `sA`, depth budget 3 -/
theorem list_runs :
    -- `[inc, boom, inc]` with the raising registry; with the fault-free one; `[inc]` leaves the list running
    (((execActionsF exH 3 [A "inc", A "boom", A "inc"] "E" sA).trace = ["#aerr:boom", "boom@E", "inc@E"] ∧
      (execActionsF exH 3 [A "inc", A "boom", A "inc"] "E" sA).ctx = [("x", 1)] ∧
      (execActionsF exH 3 [A "inc", A "boom", A "inc"] "E" sA).err.isSome = false) ∧
     (execActionsF okH 3 [A "inc", A "boom", A "inc"] "E" sA).trace = ["inc@E", "boom@E", "inc@E"] ∧
     ((actsAcc exH 3 [A "inc"] "E" sA).2 = false ∧ (actsAcc exH 3 [A "inc"] "E" sA).1.err = none)) ∧
    -- `choose`: a malformed branch; a missing action in the branch; a raising action in the branch; its canonical name
    (((execActionsF exH 3 [A "inc", chooseOne none [.num 3], A "inc"] "E" sA).trace =
        ["#aerr:choose", "inc@E"] ∧
      (execActionsF exH 3 [A "inc", chooseOne none [.num 3], A "inc"] "E" sA).err.isSome = false) ∧
     ((execActionsF exH 3 [chooseOne none [.str "inc", .str "nosuch", .str "inc"], A "inc"] "E" sA).trace =
        ["#aerr:choose", "inc@E"] ∧
      (execActionsF exH 3 [chooseOne none [.str "inc", .str "nosuch", .str "inc"], A "inc"] "E" sA).err.isSome =
        false) ∧
     (execActionsF exH 3 [chooseOne none [.str "boom", .str "inc"], A "inc"] "E" sA).trace =
       ["inc@E", "#aerr:boom", "boom@E"] ∧
     canonicalBuiltin "choose" = some "xstate.choose") ∧
    -- a `raise` behind `boom`: fault-free registry, raising registry
    ((execActionsF okH 3 [A "boom", raiseX] "E" sA).queue.map (·.ev.type) = ["X"] ∧
     (execActionsF exH 3 [A "boom", raiseX] "E" sA).queue.map (·.ev.type) = []) ∧
    -- a missing action; a coroutine function on the async engine
    ((missingName (execActionsF exH 3 [A "inc", A "nosuch", A "inc"] "E" sA).err = some "nosuch" ∧
      (execActionsF exH 3 [A "inc", A "nosuch", A "inc"] "E" sA).trace = ["inc@E"]) ∧
     (execActionsF (exH false) 3 [A "co", A "inc"] "E" sA).trace = ["inc@E", "co@E"]) := by decide +kernel

/-- `choose` on the guard `nog`, which `exH` does not implement, outside a cut expansion: the one branch is found,
    its guard parses, and evaluating it fails -/
theorem choose_nog_fails (acts : List J) (s : St) (hs : s.expCut = false) :
    builtinOutcome exH false "E" "xstate.choose" (chooseOne (some "nog") acts) s = .failed (.missingGuard "nog") := by
  unfold builtinOutcome
  rw [if_neg Bool.false_ne_true, if_pos ⟨rfl, hs⟩,
    show chooseBranches (chooseOne (some "nog") acts).params = [(some (.str "nog"), some (.arr acts))] from rfl]
  simp only [pickBranch, parseGuard]
  rfl

end XSM.C07

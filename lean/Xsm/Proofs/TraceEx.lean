import Xsm.Proofs.Trace
/-
The witness machine of C03 (`Xsm/Properties/C03.lean`) and the transitions of its state `a1` from the configuration
`exCfg`, evaluated once; the examples of C03 project from `exM_runs`.
-/
namespace XSM.C03
open XSM XSM.Spec

def acts (l : List String) : List ActionRef := l.map (fun a => { type := a })
def mkT (tid : Nat) (event : String) (target : Option String) (as : List String) : Trans :=
  { tid, event, target, guard := none, actions := acts as, reenter := false, forbidden := false }
def mkD (kind : Kind) (initial : Option String) (nm : String) (on : List (String × List Trans) := []) : StateDef :=
  { kind, initial, entry := acts ["en" ++ nm], exit := acts ["ex" ++ nm], on, onDone := none, after := [],
    invoke := [], deep := false, historyTarget := none, customId := none, tags := [] }

def tX := mkT 0 "X" (some "a2") ["tx"]
def tY := mkT 1 "Y" (some "#m.Q") ["ty"]
def tI := mkT 2 "I" none ["ti"]
def tZ := mkT 3 "Z" (some "#m.P.B.b2") ["tz"]
def tW := mkT 4 "W" (some "a2") ["nope"]

def exM : Machine :=
  { id := "m", maxIterations := 10, customIds := [],
    root := .mk (mkD .compound (some "P") "M") [
      ("P", .mk (mkD .parallel none "P") [
        ("A", .mk (mkD .compound (some "a1") "A") [
          ("a1", .mk (mkD .atomic none "a1" [("X", [tX]), ("Y", [tY]), ("I", [tI]), ("Z", [tZ]), ("W", [tW])]) []),
          ("a2", .mk (mkD .atomic none "a2") [])]),
        ("B", .mk (mkD .compound (some "b1") "B") [
          ("b1", .mk (mkD .atomic none "b1") []),
          ("b2", .mk (mkD .atomic none "b2") [])])]),
      ("Q", .mk (mkD .atomic none "Q") [])] }

def exCfg : List Path := [[], ["P"], ["P", "A"], ["P", "A", "a1"], ["P", "B"], ["P", "B", "b1"]]
def exS : St := { cfg := exCfg, status := "running" }
def exU : UEnv := { g := fun _ _ _ => .missing, a := fun _ c _ => .ok c }
def exUMissing : UEnv := { g := fun _ _ _ => .missing, a := fun n c _ => if n = "nope" then .missing else .ok c }
def a1 : Path := ["P", "A", "a1"]
def cX : Cand := ⟨a1, tX⟩
def cY : Cand := ⟨a1, tY⟩
def cI : Cand := ⟨a1, tI⟩
def cZ : Cand := ⟨a1, tZ⟩
def cW : Cand := ⟨a1, tW⟩
def planOf (c : Cand) : Plan := planTransition exM exCfg [] c
/-- run candidate `c` for event `e` from `exS` with the sync engine's hooks -/
def run (u : UEnv) (fl : Flavor) (e : String) (c : Cand) : St :=
  execute (hooksFlagged u exM) fl exM (.user e) (planOf c) exS

/-- the transitions of `a1` from `exS`, one group per event -/
theorem exM_runs :
    -- `Y` (to `Q`, leaving the parallel state): the trace on both engines, its three phases, the plan's exit list; the
    -- state after the first two exits
    ((run exU .sync "Y" cY).chron =
        ["exb1@Y", "exa1@Y", "exB@Y", "exA@Y", "exP@Y", "ty@Y", "enQ@Y", "#t:m,m.Q"] ∧
      (run exU .async "Y" cY).chron = (run exU .sync "Y" cY).chron ∧
      exitPhase (hooksFlagged exU exM) .sync exM (.user "Y") (planOf cY) exS =
        ["exb1@Y", "exa1@Y", "exB@Y", "exA@Y", "exP@Y"] ∧
      actionPhase (hooksFlagged exU exM) .sync exM (.user "Y") (planOf cY) exS = ["ty@Y"] ∧
      entryPhase (hooksFlagged exU exM) .sync exM (.user "Y") (planOf cY) exS = ["enQ@Y"] ∧
      (planOf cY).exits = [["P", "B", "b1"], ["P", "A", "a1"], ["P", "B"], ["P", "A"], ["P"]] ∧
      ((((planOf cY).exits.take 2).foldl (exitOne (hooksFlagged exU exM) .sync exM (some "Y")) exS).cfg =
          [[], ["P"], ["P", "A"], ["P", "B"]] ∧
        (((planOf cY).exits.take 2).foldl (exitOne (hooksFlagged exU exM) .sync exM (some "Y")) exS).err.isNone =
          true ∧
        (∀ p ∈ (planOf cY).exits, (exM.defAt p).isSome = true))) ∧
    -- `W` (its action `nope` is missing): rolled back
    ((run exUMissing .sync "W" cW).chron = ["exa1@W"] ∧ (run exUMissing .sync "W" cW).err.isSome = true ∧
      activity (run exUMissing .sync "W" cW).cfg a1 - activity exCfg a1 = 0) ∧
    -- `Z` (into region `B`): trace, entries; domain, exits, configuration
    ((run exU .sync "Z" cZ).chron =
        ["exb1@Z", "exB@Z", "tz@Z", "enB@Z", "enb2@Z", "#t:m,m.P,m.P.A,m.P.A.a1,m.P.B,m.P.B.b2"] ∧
      (planOf cZ).entries.map (·.path) = [["P", "B"], ["P", "B", "b2"]] ∧
      (Spec.domain a1 ["P", "B", "b2"] = ["P"] ∧ (planOf cZ).exits = [["P", "B", "b1"], ["P", "B"]] ∧
        (run exU .sync "Z" cZ).cfg = [[], ["P"], ["P", "A"], a1, ["P", "B"], ["P", "B", "b2"]])) ∧
    -- `X` (inside region `A`): change of activity of `a1`, `a2`, `B`; the plan
    ((activity (run exU .sync "X" cX).cfg a1 - activity exCfg a1,
        activity (run exU .sync "X" cX).cfg ["P", "A", "a2"] - activity exCfg ["P", "A", "a2"],
        activity (run exU .sync "X" cX).cfg ["P", "B"] - activity exCfg ["P", "B"]) = (-1, 1, 0) ∧
      (lcp a1 ["P", "A", "a2"] = ["P", "A"] ∧ (planOf cX).exits = [a1] ∧
        (planOf cX).entries.map (·.path) = [["P", "A", "a2"]])) ∧
    -- `I` (no target)
    ((planOf cI).internal = true ∧ (run exU .sync "I" cI).cfg = exCfg ∧
      (run exU .sync "I" cI).chron = ["ti@I", "#t:m,m.P,m.P.A,m.P.A.a1,m.P.B,m.P.B.b1"]) ∧
    -- the default descent below `P`: entries and their records
    ((planEnter exM [["P"]]).1.map (fun e => (e.path, e.nested)),
      entriesRecords (hooksFlagged exU exM) .sync exM "GO" (planEnter exM [["P"]]).1 { cfg := [[], ["Q"]] }) =
      ([(["P"], false), (["P", "A"], true), (["P", "A", "a1"], true), (["P", "B"], true), (["P", "B", "b1"], true)],
       ["enP@GO", "enA@GO", "ena1@GO", "enB@GO", "enb1@GO"]) ∧
    -- what the declared targets of `X`, `Y`, `Z` resolve to
    (resolveRobust exM a1 "a2" = some ["P", "A", "a2"] ∧ resolveRobust exM a1 "#m.Q" = some ["Q"] ∧
      resolveRobust exM a1 "#m.P.B.b2" = some ["P", "B", "b2"]) := by decide +kernel

end XSM.C03

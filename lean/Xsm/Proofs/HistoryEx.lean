import Xsm.Proofs.History
/-
The witness machine `hM` of C11 (`Xsm/Properties/C11.lean`) and its runs, evaluated once (`hM_runs`).
-/
namespace XSM.C11.Ex
open XSM XSM.Spec XSM.Hist

/-
m (compound, initial A)        on toB: → #m.B
├─ A (compound, initial a1)
│  ├─ a1
│  ├─ a2 (compound, initial x) ── x, y
│  └─ hist (history, shallow)
├─ Pl (parallel)
│  ├─ r1 (compound, initial u) ── u, v
│  ├─ r2 (compound, initial w) ── w, z
│  └─ hd (history, deep)
└─ B                            on toA: → #m.A.hist    on toP: → #m.Pl.hd
-/
def mkT (tid : Nat) (event : String) (target : Option String) : Trans :=
  { tid, event, target, guard := none, actions := [], reenter := false, forbidden := false }
def mkD (kind : Kind) (initial : Option String := none) (on : List (String × List Trans) := [])
    (deep := false) : StateDef :=
  { kind, initial, entry := [], exit := [], on, onDone := none, after := [], invoke := [], deep,
    historyTarget := none, customId := none, tags := [] }
def leaf : SNode := .mk (mkD .atomic) []

def tA := mkT 0 "toA" (some "#m.A.hist")
def tP := mkT 1 "toP" (some "#m.Pl.hd")
def tB := mkT 2 "toB" (some "#m.B")

def hM : Machine :=
  { id := "m", maxIterations := 10, customIds := [],
    root := .mk (mkD .compound (some "A") [("toB", [tB])]) [
      ("A", .mk (mkD .compound (some "a1")) [
        ("a1", leaf),
        ("a2", .mk (mkD .compound (some "x")) [("x", leaf), ("y", leaf)]),
        ("hist", .mk (mkD .history) [])]),
      ("Pl", .mk (mkD .parallel) [
        ("r1", .mk (mkD .compound (some "u")) [("u", leaf), ("v", leaf)]),
        ("r2", .mk (mkD .compound (some "w")) [("w", leaf), ("z", leaf)]),
        ("hd", .mk (mkD .history none [] true) [])]),
      ("B", .mk (mkD .atomic none [("toA", [tA]), ("toP", [tP])]) [])] }

def exU : UEnv := { g := fun _ _ _ => .missing, a := fun _ c _ => .ok c }
def hk : Hooks := hooksFlagged exU hM

/-- in `A.a2.y`, leaving `A` -/
def sInA : St := { cfg := [[], ["A"], ["A", "a2", "y"], ["A", "a2"]], status := "running" }
/-- in `Pl.r1.v`, `Pl.r2.z`, leaving `Pl` (configuration held in an arbitrary order) -/
def sInP : St :=
  { cfg := [["Pl", "r2", "z"], [], ["Pl", "r1"], ["Pl"], ["Pl", "r1", "v"], ["Pl", "r2"]], status := "running" }

def histA : List (Path × List Path) := [(["A"], [["A", "a2"], ["A", "a2", "y"]])]
def histP : List (Path × List Path) :=
  [(["Pl"], [["Pl", "r1"], ["Pl", "r2"], ["Pl", "r1", "v"], ["Pl", "r2", "z"]])]
/-- in `B`, with history `hist` -/
def sB (hist : List (Path × List Path)) : St := { cfg := [[], ["B"]], hist, status := "running" }

/-- The runs of `hM`, in the order of the examples of C11. -/
theorem hM_runs :
    -- .1: what leaving `A` and leaving `Pl` record
    ((recordHistory hM [["A", "a2", "y"], ["A", "a2"], ["A"]] sInA).hist = histA ∧
      (recordHistory hM [["Pl", "r2", "z"], ["Pl", "r1", "v"], ["Pl", "r2"], ["Pl", "r1"], ["Pl"]] sInP).hist =
        histP ∧
      histGet (recordHistory hM [["A", "a2", "y"], ["A", "a2"], ["A"]] sInA).hist ["Pl"] = none) ∧
    -- .2.1: what the two history nodes resolve to, recorded and unvisited
    (resolveHistoryTarget hM histA ["A", "hist"] = [["A", "a2"]] ∧
      resolveHistoryTarget hM histP ["Pl", "hd"] = [["Pl", "r1", "v"], ["Pl", "r2", "z"]] ∧
      resolveHistoryTarget hM [] ["A", "hist"] = [["A", "a1"]] ∧
      resolveHistoryTarget hM [] ["Pl", "hd"] = [["Pl", "r1"], ["Pl", "r2"]]) ∧
    -- .2.2.1: the restoring transitions `toA` (shallow) and `toP` (deep) from `B`, history recorded: entry plan, configuration
    ((planTransition hM (sB histA).cfg histA ⟨["B"], tA⟩).entries.map (·.path) =
        [["A"], ["A", "a2"], ["A", "a2", "x"]] ∧
      (execute hk .sync hM (.user "toA") (planTransition hM (sB histA).cfg histA ⟨["B"], tA⟩) (sB histA)).cfg =
        [[], ["A"], ["A", "a2"], ["A", "a2", "x"]] ∧
      (planTransition hM (sB histP).cfg histP ⟨["B"], tP⟩).entries.map (·.path) =
        [["Pl"], ["Pl", "r1"], ["Pl", "r1", "v"], ["Pl", "r2"], ["Pl", "r2", "z"]] ∧
      (execute hk .sync hM (.user "toP") (planTransition hM (sB histP).cfg histP ⟨["B"], tP⟩) (sB histP)).cfg =
        [[], ["Pl"], ["Pl", "r1"], ["Pl", "r1", "v"], ["Pl", "r2"], ["Pl", "r2", "z"]]) ∧
    -- .2.2.2: the same transitions, nothing recorded
    ((execute hk .sync hM (.user "toA") (planTransition hM (sB []).cfg [] ⟨["B"], tA⟩) (sB [])).cfg =
        [[], ["A"], ["A", "a1"]] ∧
      (execute hk .sync hM (.user "toP") (planTransition hM (sB []).cfg [] ⟨["B"], tP⟩) (sB [])).cfg =
        [[], ["Pl"], ["Pl", "r1"], ["Pl", "r1", "u"], ["Pl", "r2"], ["Pl", "r2", "w"]]) := by decide +kernel

end XSM.C11.Ex

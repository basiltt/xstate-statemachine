import Xsm.Proofs.Bridge
/-
A transition whose target is the machine root (`#m`, `.` from a top-level state, a re-entering
transition declared on the root): `_find_transition_domain` returns `None` for it (library commit
"a transition targeting the machine root re-enters the machine"), so every active state is exited and the
root is re-entered by default descent (`domainO_root`, `pathFromO_none_nil`).
-/
namespace XSM
open Spec

theorem legal_enterDefault_root (root : SNode) (hwf : WF root) (hk : root.kind ≠ .history)
    (c : List Path) (hc : ∀ q, q ∈ c ↔ q ∈ enterDefault [] root) : Legal root c := by
  apply legal_of_legalAt root hwf c
  · exact LegalAt_congr _ c [] root (fun q _ => (hc q).symm) (enterDefault_legal [] root hwf hk)
  · intro q hq
    exact enterDefault_at root [] root rfl hwf q ((hc q).1 hq)

theorem enterStates_root (root : SNode) : enterStates root [[]] = enterDefault [] root := by
  rw [enterDefault_eq_extraAt, enterStates, List.flatMap_singleton, extra_eq_extraAt rfl,
    extraAt_congr (L' := []) (by simp)]

theorem pathFromO_none_nil : pathFromO none [] = [[]] := by
  simp [pathFromO]

theorem domainO_root (m : Machine) (src : Path) : domainO m src [] = none := by
  unfold domainO
  by_cases h : [] = src
  · subst h; simp
  · simp [h]

/-- **C01, root target**: a transition to the machine root leaves a legal configuration (the full
    default entry of the machine), or — if it fails midway — the configuration it started from. -/
theorem legal_microstep_root (h : Hooks) (hok : HooksOK h) (fl : Flavor) (m : Machine) (ev : Ev)
    (c : Cand) (s : St) (hwf : WF m.root) (hi : InitOK m.root) (hk : m.root.kind ≠ .history)
    (hL : Legal m.root s.cfg)
    (tstr : String) (ht : c.t.target = some tstr) (hne : tstr ≠ "")
    (hres : resolveRobust m c.src tstr = some [])
    (hext : ¬ ([] = c.src ∧ c.t.reenter = false)) :
    Legal m.root (execute h fl m ev (planTransition m s.cfg s.hist c) s).cfg := by
  have hkh : ¬ (m.kindAt [] = some Kind.history) := by
    simp only [Machine.kindAt, SNode.at, Option.map_some, Option.some.injEq]
    exact hk
  rw [planTransition_external m s.cfg s.hist c ht hne hres hext, domainO_root, if_neg hkh, pathFromO_none_nil]
  refine legal_execute_extPlan h hok fl m ev s hwf hi hL (fun _ hp => hp) ?_
    (legal_enterDefault_root m.root hwf hk _ (fun _ => Iff.rfl)) (fun q => ?_)
  · intro p hp
    rw [List.mem_singleton.1 hp]
    exact ⟨m.root, rfl⟩
  · rw [enterStates_root]
    exact ⟨Or.inr, fun hq => hq.elim (fun x => absurd x.1 x.2) id⟩

end XSM

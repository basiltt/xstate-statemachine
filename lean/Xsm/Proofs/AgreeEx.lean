import Xsm.Proofs.Trace
import Xsm.Proofs.Pure
import Xsm.Proofs.Agree
/-
The witness machines of C05 (`Xsm/Properties/C05.lean`) and their runs, evaluated once per machine; the examples
of C05 project from `PureEx.run_facts` ("the pure functions") and `WholeEx.run_facts` ("whole runs").
-/
namespace XSM.C05
open XSM XSM.Pure XSM.Snap XSM.Bisim XSM.Term

/-! ## The witness of the pure functions: a machine with a `raise`, a `choose` (with an `assign`) and a history state

```
m (initial A, context n = 0)
├─ A (initial a1)   on OUT → #m.o          entry en:A
│  ├─ a1            on N → a2              entry en:a1
│  ├─ a2                                   entry en:a2
│  └─ h (history, shallow)
├─ o                on BACK → #m.A.h       entry en:o
│                   on GO: actions tr, choose[ g → yes, assign n := 1, raise NEXT | else → no ], after
│                   on NEXT → #m.f
└─ f (final)                               entry en:f
```
-/
namespace PureEx
def mkT (tid : Nat) (event : String) (target : Option String) (actions : List ActionRef := []) : Trans :=
  { tid, event, target, guard := none, actions, reenter := false, forbidden := false }
def mkD (kind : Kind) (initial : Option String := none) (on : List (String × List Trans) := [])
    (entry : List ActionRef := []) : StateDef :=
  { kind, initial, entry, exit := [], on, onDone := none, after := [], invoke := [], deep := false,
    historyTarget := none, customId := none, tags := [] }
def chooseP : J := .obj [("conditions", .arr [
  .obj [("guard", .str "g"), ("actions", .arr [.str "yes",
      .obj [("type", .str "assign"), ("params", .obj [("assignment", .obj [("n", .num 1)])])],
      .obj [("type", .str "xstate.raise"), ("params", .obj [("event", .str "NEXT")])]])],
  .obj [("actions", .arr [.str "no"])]])]
def pM : Machine :=
  { id := "m", maxIterations := 10, customIds := [], ctx0 := [("n", 0)],
    root := .mk (mkD .compound (some "A")) [
      ("A", .mk (mkD .compound (some "a1") [("OUT", [mkT 0 "OUT" (some "#m.o")])] [⟨"en:A", none⟩]) [
        ("a1", .mk (mkD .atomic none [("N", [mkT 1 "N" (some "a2")])] [⟨"en:a1", none⟩]) []),
        ("a2", .mk (mkD .atomic none [] [⟨"en:a2", none⟩]) []),
        ("h", .mk (mkD .history) [])]),
      ("o", .mk (mkD .atomic none [("BACK", [mkT 2 "BACK" (some "#m.A.h")]),
                                   ("GO", [mkT 3 "GO" none [⟨"tr", none⟩, ⟨"choose", some chooseP⟩, ⟨"after", none⟩]]),
                                   ("NEXT", [mkT 4 "NEXT" (some "#m.f")])] [⟨"en:o", none⟩]) []),
      ("f", .mk (mkD .final none [] [⟨"en:f", none⟩]) [])] }
/-- user code within the API's premise: the guard `g` holds; every non-built-in name is a marker action -/
def pU : UEnv :=
  { g := fun n _ _ => if n = "g" then .t else .missing,
    a := fun n c _ => if (canonicalBuiltin n).isSome then .missing else .ok c }
/-- user code OUTSIDE the premise: `en:o` raises, `tr` rewrites the context, `yes` is a coroutine -/
def pUwild : UEnv :=
  { g := pU.g,
    a := fun n c _ => if (canonicalBuiltin n).isSome then .missing
      else if n = "en:o" then .raises else if n = "tr" then .ok (ctxSet c "n" 7)
      else if n = "yes" then .isAsync c else .ok c }
def pEvs : List Ev := [.user "N", .user "OUT", .user "BACK", .user "OUT", .user "GO", .user "X"]
def snapOf (cfg : List Path) (n : Int) (status : String) (hist : List (Path × List Path)) : PureSnap :=
  { cfg, ctx := [("n", n)], status, hist }
/-- a call's result when it did not raise (`Except` has no decidable equality of its own) -/
def okOf {α} : Except EErr α → Option α
  | .ok r => some r
  | .error _ => none

end PureEx
open PureEx

/-! ## The witness of whole runs: a parallel state, an `always` transition, a `raise`, a final state

```
w (initial P, maxIterations 4)
├─ P (parallel)      entry en:P, raise BOOT          on FIN: fin → f
│  ├─ A (initial a1)
│  │  ├─ a1          entry en:a1                     on GO: go, raise PING → a2
│  │  ├─ a2          entry en:a2                     always: hop → a3
│  │  └─ a3          entry en:a3
│  └─ B (initial b1)
│     ├─ b1          entry en:b1                     on BOOT: boot;  on PING: ping → b2
│     └─ b2          entry en:b2
└─ f (final)         entry en:f
```
-/
namespace WholeEx
def wM : Machine :=
  { id := "w", maxIterations := 4, customIds := [],
    root := .mk (mkD .compound (some "P")) [
      ("P", .mk (mkD .parallel none [("FIN", [mkT 9 "FIN" (some "f") [⟨"fin", none⟩]])]
                  [⟨"en:P", none⟩, XSM.Term.Ex.raiseA "BOOT"]) [
        ("A", .mk (mkD .compound (some "a1")) [
          ("a1", .mk (mkD .atomic none [("GO", [mkT 0 "GO" (some "a2") [⟨"go", none⟩, XSM.Term.Ex.raiseA "PING"]])]
                      [⟨"en:a1", none⟩]) []),
          ("a2", .mk (mkD .atomic none [("", [mkT 1 "" (some "a3") [⟨"hop", none⟩]])] [⟨"en:a2", none⟩]) []),
          ("a3", .mk (mkD .atomic none [] [⟨"en:a3", none⟩]) [])]),
        ("B", .mk (mkD .compound (some "b1")) [
          ("b1", .mk (mkD .atomic none [("BOOT", [mkT 2 "BOOT" none [⟨"boot", none⟩]]),
                                        ("PING", [mkT 3 "PING" (some "b2") [⟨"ping", none⟩]])]
                      [⟨"en:b1", none⟩]) []),
          ("b2", .mk (mkD .atomic none [] [⟨"en:b2", none⟩]) [])])]),
      ("f", .mk (mkD .final none [] [⟨"en:f", none⟩]) [])] }
/-- `GO` (raises `PING`, then the `always` hop), an ignored event, `FIN` (completes the machine), and an
    event sent to the finished machine -/
def wEvs : List Ev := [.user "GO", .user "X", .user "FIN", .user "GO"]
def runA (m : Machine) (u : UEnv) (evs : List Ev) : St := evs.foldl (cmd .async m u) (asyncStart m u {})
def runS (m : Machine) (u : UEnv) (evs : List Ev) : St := evs.foldl (cmd .sync m u) (syncStart m u {})
/-- what the four sends of `wEvs` add to the trace (newest first) -/
def wNew : List String :=
  ["#t:w,w.f", "en:f@FIN", "fin@FIN", "#recv:FIN", "#recv:X",
   "#t:w,w.P,w.P.A,w.P.B,w.P.A.a3,w.P.B.b2", "en:b2@PING", "ping@PING", "#recv:PING",
   "#t:w,w.P,w.P.A,w.P.B,w.P.B.b1,w.P.A.a3", "en:a3@", "hop@",
   "#t:w,w.P,w.P.A,w.P.B,w.P.B.b1,w.P.A.a2", "en:a2@GO", "go@GO", "#recv:GO"]

end WholeEx
open WholeEx

/-- user code that tells the two `start()`s apart: `en:P` looks at the event name it is handed and sets `x`
    under the async engine's init event only -/
def uTag : UEnv :=
  { g := fun _ _ _ => .t,
    a := fun n c e => if n = "raise" then .missing
      else if n = "en:P" ∧ e = initTag then .ok (ctxSet c "x" 1) else .ok c }
/-- `pU` with `yes` (the first action of the `choose` branch taken on `GO`) a coroutine -/
def uCo : UEnv :=
  { g := pU.g,
    a := fun n c _ => if (canonicalBuiltin n).isSome then .missing else if n = "yes" then .isAsync c else .ok c }

/-- the runs of `pM`: the sync engine's run of `pEvs` under `pU` (premise of the pure API met) and under `pUwild`
    (not met), for "the pure functions"; both engines' runs of `OUT`, `GO` under `uCo`, for "`NoCoroutine` is
    necessary" -/
theorem PureEx.run_facts :
    -- sync, `pU`: no call raises; snapshot and reported actions after `start()`; after each `send` of `pEvs`, whole,
    -- and configuration, status and reported actions only
    (((syncStart pM pU {}).err = none ∧
      ∀ x ∈ syncStates pM pU (syncStart pM pU {}) pEvs, x.err = none) ∧
     (capture (syncStart pM pU {}) = snapOf [[], ["A"], ["A", "a1"]] 0 "active" [] ∧
      reported (syncStart pM pU {}) = ["en:A", "en:a1"]) ∧
     (syncStates pM pU (syncStart pM pU {}) pEvs).map (fun x => some (capture x, reported x)) =
       [some (snapOf [[], ["A"], ["A", "a2"]] 0 "active" [(["A"], [["A", "a1"]])], ["en:a2"]),
        some (snapOf [[], ["o"]] 0 "active" [(["A"], [["A", "a2"]])], ["en:o"]),
        some (snapOf [[], ["A"], ["A", "a2"]] 0 "active" [(["A"], [["A", "a2"]])], ["en:A", "en:a2"]),
        some (snapOf [[], ["o"]] 0 "active" [(["A"], [["A", "a2"]])], ["en:o"]),
        some (snapOf [[], ["f"]] 1 "done" [(["A"], [["A", "a2"]])], ["tr", "yes", "after", "en:f"]),
        some (snapOf [[], ["f"]] 1 "done" [(["A"], [["A", "a2"]])], [])] ∧
     (syncStates pM pU (syncStart pM pU {}) pEvs).map (fun x => ((capture x).cfg, (capture x).status, reported x)) =
       [([[], ["A"], ["A", "a2"]], "active", ["en:a2"]), ([[], ["o"]], "active", ["en:o"]),
        ([[], ["A"], ["A", "a2"]], "active", ["en:A", "en:a2"]), ([[], ["o"]], "active", ["en:o"]),
        ([[], ["f"]], "done", ["tr", "yes", "after", "en:f"]), ([[], ["f"]], "done", [])]) ∧
    -- sync, `pUwild`: contexts and failures differ from those under `pU`
    ((syncStates pM pUwild (syncStart pM pUwild {}) pEvs).map (fun x => (x.ctx, x.err.isSome))) ≠
      ((syncStates pM pU (syncStart pM pU {}) pEvs).map (fun x => (x.ctx, x.err.isSome))) ∧
    -- both engines, `uCo`, events `OUT`, `GO`: side conditions, final status and context
    (CutFree pM uCo [.user "OUT", .user "GO"] ∧ NoFail pM uCo [.user "OUT", .user "GO"] ∧
     (runA pM uCo [.user "OUT", .user "GO"]).status = "done" ∧ (runS pM uCo [.user "OUT", .user "GO"]).status = "running" ∧
     (runA pM uCo [.user "OUT", .user "GO"]).ctx = [("n", 1)] ∧ (runS pM uCo [.user "OUT", .user "GO"]).ctx = [("n", 0)]) := by
  decide +kernel

theorem PureEx.pUwild_sameRegistered : SameRegistered pU pUwild := by
  intro n c e
  by_cases h : (canonicalBuiltin n).isSome = true
  · simp only [pU, pUwild, h, if_true]
  · simp only [pU, pUwild, h]
    constructor
    · intro hh; cases hh
    · intro hh
      by_cases h1 : n = "en:o"
      · simp only [h1, if_true] at hh; cases hh
      · by_cases h2 : n = "tr"
        · simp only [h2, if_true] at hh; cases hh
        · by_cases h3 : n = "yes"
          · simp only [h3, if_true] at hh; cases hh
          · simp only [h1, h2, h3, if_false] at hh; cases hh

/-- the async and the sync run of `wEvs` on `wM` under `u0` and under `uTag` ("`StartBlind` is necessary"), and of one
    `E` on `burstM` (C13; "the side condition is necessary") -/
theorem WholeEx.run_facts :
    -- `wM`, `u0`: side conditions of `run_agree_of_short_chains`; final states; the records of the four sends
    -- (`wNew`); the records of `start()`
    ((NoFail wM XSM.Term.Ex.u0 wEvs ∧
      ShortChains wM XSM.Term.Ex.u0 wEvs) ∧
     ((runA wM XSM.Term.Ex.u0 wEvs).cfg = (runS wM XSM.Term.Ex.u0 wEvs).cfg ∧
      (runA wM XSM.Term.Ex.u0 wEvs).status = (runS wM XSM.Term.Ex.u0 wEvs).status ∧
      (runA wM XSM.Term.Ex.u0 wEvs).hist = (runS wM XSM.Term.Ex.u0 wEvs).hist ∧
      (runA wM XSM.Term.Ex.u0 wEvs).ctx = (runS wM XSM.Term.Ex.u0 wEvs).ctx ∧
      (runA wM XSM.Term.Ex.u0 wEvs).errors = (runS wM XSM.Term.Ex.u0 wEvs).errors ∧
      (runS wM XSM.Term.Ex.u0 wEvs).cfg = [[], ["f"]] ∧
      (runS wM XSM.Term.Ex.u0 wEvs).status = "done") ∧
     ((runA wM XSM.Term.Ex.u0 wEvs).trace = wNew ++ (asyncStart wM XSM.Term.Ex.u0 {}).trace ∧
      (runS wM XSM.Term.Ex.u0 wEvs).trace = wNew ++ (syncStart wM XSM.Term.Ex.u0 {}).trace) ∧
     ((asyncStart wM XSM.Term.Ex.u0 {}).trace =
       ["#t:w,w.P,w.P.A,w.P.A.a1,w.P.B,w.P.B.b1", "boot@BOOT", "#recv:BOOT", "en:b1@___xstate_statemachine_init___",
        "en:a1@___xstate_statemachine_init___", "en:P@___xstate_statemachine_init___"] ∧
      (syncStart wM XSM.Term.Ex.u0 {}).trace =
       ["#t:w,w.P,w.P.A,w.P.A.a1,w.P.B,w.P.B.b1", "boot@BOOT", "#recv:BOOT", "en:b1@entry.w.P.B.b1",
        "en:a1@entry.w.P.A.a1", "en:P@entry.w.P"])) ∧
    -- `wM`, `uTag`: side conditions of `run_agree`; the contexts the two `start()`s leave
    (CutFree wM uTag wEvs ∧ NoFail wM uTag wEvs ∧
     (asyncStart wM uTag {}).ctx = [("x", 1)] ∧ (syncStart wM uTag {}).ctx = []) ∧
    -- `burstM`, `u0`, one `E`: side conditions, trips and cut
    (NoFail XSM.Term.Ex.burstM XSM.Term.Ex.u0 [.user "E"] ∧
     ¬ CutFree XSM.Term.Ex.burstM XSM.Term.Ex.u0 [.user "E"] ∧
     sendTrips XSM.Term.Ex.burstM XSM.Term.Ex.u0 (.user "E") (asyncStart XSM.Term.Ex.burstM XSM.Term.Ex.u0 {}) = 1 ∧
     sendCut XSM.Term.Ex.burstM XSM.Term.Ex.u0 (.user "E") (syncStart XSM.Term.Ex.burstM XSM.Term.Ex.u0 {}) = true) ∧
    -- … and the two traces
    ((runA XSM.Term.Ex.burstM XSM.Term.Ex.u0 [.user "E"]).trace = ["#t:m,m.a", "#recv:E"] ∧
     (runS XSM.Term.Ex.burstM XSM.Term.Ex.u0 [.user "E"]).trace =
      ["#t:m,m.a", "sawR@R", "#recv:R", "#t:m,m.a", "sawR@R", "#recv:R", "#t:m,m.a", "sawR@R", "#recv:R",
       "#t:m,m.a", "#recv:E"]) := by
  decide +kernel

end XSM.C05

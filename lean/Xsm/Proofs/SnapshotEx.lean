import Xsm.Proofs.Snapshot
/-
The witness of finding F40 (C12 §4): a machine whose history is remembered in an order that differs from the id order
of the snapshot, the user code, the cut point; its runs, evaluated once (`Ex.run_facts`).
-/
namespace XSM.C12
open XSM XSM.Snap

namespace Ex
/-
m (compound, initial P)
├─ P (parallel)                on OUT: → #m.S
│  ├─ a (compound, initial x)  entry: en:a, set:c:1
│  │  └─ x                     entry: en:x
│  ├─ b (atomic)               entry: en:b, set:c:2
│  └─ hd (history, deep)
└─ S                           on BACK: → #m.P.hd
After OUT the history of `P` is remembered in (depth, id) order: [P.a, P.b, P.a.x]; the snapshot stores
it sorted by id: [m.P.a, m.P.a.x, m.P.b].  BACK restores the leaves in the remembered order: the live
interpreter enters b, then a, x (context c = 1). Before 546b3d4 the restored interpreter kept the id
order and entered a, x, then b (c = 2); now it sorts the list back and does what the live one does.
-/
def mkT (tid : Nat) (event : String) (target : Option String) : Trans :=
  { tid, event, target, guard := none, actions := [], reenter := false, forbidden := false }
def mkD (kind : Kind) (initial : Option String := none) (on : List (String × List Trans) := [])
    (entry : List ActionRef := []) (deep := false) : StateDef :=
  { kind, initial, entry, exit := [], on, onDone := none, after := [], invoke := [], deep,
    historyTarget := none, customId := none, tags := [] }
def tOut := mkT 0 "OUT" (some "#m.S")
def tBack := mkT 1 "BACK" (some "#m.P.hd")
def cxM : Machine :=
  { id := "m", maxIterations := 10, customIds := [],
    root := .mk (mkD .compound (some "P")) [
      ("P", .mk (mkD .parallel none [("OUT", [tOut])]) [
        ("a", .mk (mkD .compound (some "x") [] [⟨"en:a", none⟩, ⟨"set:c:1", none⟩])
          [("x", .mk (mkD .atomic none [] [⟨"en:x", none⟩]) [])]),
        ("b", .mk (mkD .atomic none [] [⟨"en:b", none⟩, ⟨"set:c:2", none⟩]) []),
        ("hd", .mk (mkD .history none [] [] true) [])]),
      ("S", .mk (mkD .atomic none [("BACK", [tBack])]) [])] }
/-- user code: `set:c:n` writes the context, every other action is a marker -/
def cxU : UEnv :=
  { g := fun _ _ _ => .missing,
    a := fun n c _ => if n = "set:c:1" then .ok (ctxSet c "c" 1) else if n = "set:c:2" then .ok (ctxSet c "c" 2) else .ok c }
/-- the cut: after `start()` and `OUT` -/
def cxS : St := cmdO .sync cxM cxU (start .sync cxM cxU {}) (.user "OUT")
/-- what the continuation `f` yields from the restored interpreter (`rst` = `restore` or the pre-fix
    `restoreUnsorted`) -/
def afterRestore {α} (rst : Machine → J → Except RErr St) (dflt : α) (f : St → α) : α :=
  match rst cxM (snap cxM cxS) with
  | .ok s' => f (resume s')
  | .error _ => dflt
/-- what a value of the continuation says about the restored interpreter (nothing, had the restore failed) -/
theorem afterRestore_imp {α} {rst : Machine → J → Except RErr St} {d v : α} {f : St → α} {P : St → Prop}
    (hv : afterRestore rst d f = v) (hP : ∀ s', f s' = v → P s') : afterRestore rst True P := by
  unfold afterRestore at hv ⊢
  generalize rst cxM (snap cxM cxS) = r at hv ⊢
  cases r with
  | ok s' => exact hP _ hv
  | error _ => trivial

/-- The runs of the witness, in the order of C12 §4. -/
theorem run_facts :
    -- .1: the cut
    (cxS.cfg = [[], ["S"]] ∧ cxS.hist = [(["P"], [["P", "a"], ["P", "b"], ["P", "a", "x"]])] ∧
      cxS.queue = [] ∧ cxS.raiseDepth = 0) ∧
    -- .2.1: what either version of `from_snapshot` makes of the remembered list
    (afterRestore restoreUnsorted [] (·.hist) = [(["P"], [["P", "a"], ["P", "a", "x"], ["P", "b"]])] ∧
      afterRestore restore [] (·.hist) = cxS.hist) ∧
    -- .2.2.1: before the fix: the rest of the state agrees; `BACK` from the cut and from the restored state, log and context
    (afterRestore restoreUnsorted false
        (fun s' => s'.cfg == cxS.cfg && s'.ctx == cxS.ctx && s'.status == cxS.status) = true ∧
      (cmdO .sync cxM cxU cxS (.user "BACK")).trace.reverse =
        ["#recv:BACK", "en:b@BACK", "set:c:2@BACK", "en:a@BACK", "set:c:1@BACK", "en:x@BACK",
         "#t:m,m.P,m.P.b,m.P.a,m.P.a.x"] ∧
      afterRestore restoreUnsorted [] (fun s' => (cmdO .sync cxM cxU s' (.user "BACK")).trace.reverse) =
        ["#recv:BACK", "en:a@BACK", "set:c:1@BACK", "en:x@BACK", "en:b@BACK", "set:c:2@BACK",
         "#t:m,m.P,m.P.a,m.P.a.x,m.P.b"] ∧
      (cmdO .sync cxM cxU cxS (.user "BACK")).ctx = [("c", 1)] ∧
      afterRestore restoreUnsorted [] (fun s' => (cmdO .sync cxM cxU s' (.user "BACK")).ctx) = [("c", 2)]) ∧
    -- .2.2.2: with the fix: `BACK` from the restored state, log and context (both engines)
    (afterRestore restore [] (fun s' => (cmdO .sync cxM cxU s' (.user "BACK")).trace.reverse) =
        (cmdO .sync cxM cxU cxS (.user "BACK")).trace.reverse ∧
      afterRestore restore [] (fun s' => (cmdO .sync cxM cxU s' (.user "BACK")).ctx) = [("c", 1)] ∧
      afterRestore restore [] (fun s' => (cmdO .async cxM cxU s' (.user "BACK")).ctx) = [("c", 1)]) := by
  decide +kernel

theorem cxS_cut : cxS.cfg = [[], ["S"]] ∧ cxS.hist = [(["P"], [["P", "a"], ["P", "b"], ["P", "a", "x"]])] ∧
    cxS.queue = [] ∧ cxS.raiseDepth = 0 := run_facts.1
end Ex

end XSM.C12

import Xsm.Model.Engine
import Xsm.Proofs.Basics
/-!
Relations on engine states that every engine function respects.

* `ActRel R`: a preorder "before ↦ after" closed under what an action list does to the state by itself
  (context, trace, error flag, expansion flag); with send hooks that respect it (`HooksRel R h`) it
  holds across `execActions`. `EngRel R` adds what exits, entries, history recording and completion do,
  and holds across `runPlan`, `execute`, `processEvent`, `transientLoop`. A frame fact ("the status is
  untouched", "the queue only grows", …) is proved by giving the instance, not by walking the engine again.
  The atoms let configuration and history change arbitrarily (`cfg`, `hist`), so a fact ABOUT the configuration
  or about the history `recordHistory` keeps is not an instance: those are proved along the engine
  (`Xsm/Proofs/Run.lean`, `Xsm/Proofs/SnapshotRun.lean`).
* A relation between TWO runs passes through the engine's conditionals and folds by `rel_ite`, `foldl_rel₂`
  (`Xsm/Proofs/Basics.lean`).
-/
namespace XSM

/-- what `_collect_builtin_followups` produced (the `let bo` of `builtinStep`) -/
def builtinOutcome (h : Hooks) (cut : Bool) (evType canon : String) (a : ActionRef) (s : St) : BOut :=
  if cut then .followups []
  else if canon = Tables.act_CHOOSE ∧ s.expCut = false then pickBranch h s evType (chooseBranches a.params)
  else .followups []

theorem builtinStep_failed (h : Hooks) (nested : List ActionRef → String → St → St) (cut : Bool)
    (evType canon : String) (a : ActionRef) (s : St) (e : EErr)
    (hb : builtinOutcome h cut evType canon a s = .failed e) :
    builtinStep h nested cut evType canon a s = (emit ("#aerr:" ++ a.type) s, true) := by
  unfold builtinStep
  unfold builtinOutcome at hb
  simp only [hb]

theorem builtinStep_followups (h : Hooks) (nested : List ActionRef → String → St → St) (cut : Bool)
    (evType canon : String) (a : ActionRef) (s : St) (fs : List ActionRef)
    (hb : builtinOutcome h cut evType canon a s = .followups fs) :
    builtinStep h nested cut evType canon a s =
      finishBuiltin h canon a
        (if fs.isEmpty then assignStep canon cut a s else nested fs evType (assignStep canon cut a s)) := by
  unfold builtinStep
  unfold builtinOutcome at hb
  simp only [hb]

/-- a relation "before ↦ after" closed under what actions do to the state by themselves -/
structure ActRel (R : St → St → Prop) : Prop where
  refl : ∀ s, R s s
  trans : ∀ {a b c}, R a b → R b c → R a c
  ctx : ∀ s c, R s { s with ctx := c }
  trace : ∀ s t, R s { s with trace := t }
  err : ∀ s e, R s { s with err := e }
  expCut : ∀ s b, R s { s with expCut := b }

/-- … and under what exits, entries, history recording and completion do -/
structure EngRel (R : St → St → Prop) : Prop extends ActRel R where
  cfg : ∀ s c, R s { s with cfg := c }
  hist : ∀ s x, R s { s with hist := x }
  complete : ∀ s, R s (complete s)

structure HooksRel (R : St → St → Prop) (h : Hooks) : Prop where
  snd : ∀ e s, R s (h.snd e s)
  raise : ∀ e s, R s (h.sndRaise e s)

/-- The three hook sets of the engines all send by `enqueueQ`, the run loop's after counting the raise in
    `raiseDepth`: a transitive relation that holds across both steps holds across every send. -/
theorem hooksRel_of_enqueue (R : St → St → Prop) (tr : ∀ {a b c}, R a b → R b c → R a c)
    (hq : ∀ b e s, R s (enqueueQ b e s)) (hd : ∀ s n, R s { s with raiseDepth := n }) (u : UEnv) (m : Machine) :
    HooksRel R (hooksFlagged u m) ∧ HooksRel R (hooksAsyncStart u m) ∧ HooksRel R (hooksAsync u m) :=
  ⟨⟨hq true, hq true⟩, ⟨hq false, hq false⟩,
   ⟨fun e s => tr (hd s _) (hq true e _), fun e s => tr (hd s _) (hq true e _)⟩⟩

section rel
variable {R : St → St → Prop}

theorem ActRel.emit (hR : ActRel R) (r : String) (s : St) : R s (emit r s) := hR.trace s _
theorem ActRel.fail (hR : ActRel R) (s : St) (e : EErr) : R s (s.fail e) := by
  unfold St.fail; split
  · exact hR.refl s
  · exact hR.err s _

theorem assignStep_rel (hR : ActRel R) (canon : String) (cut : Bool) (a : ActionRef) (s : St) :
    R s (assignStep canon cut a s) := by
  unfold assignStep; split
  · exact hR.expCut s _
  · split
    · exact hR.ctx s _
    · exact hR.refl s

theorem endExpansion_rel (hR : ActRel R) (f : Nat) (s : St) : R s (endExpansion f s) := by
  unfold endExpansion; split
  · exact hR.expCut s _
  · exact hR.refl s

theorem finishBuiltin_rel (hR : ActRel R) (h : Hooks) (hh : HooksRel R h) (canon : String) (a : ActionRef)
    (s2 : St) : R s2 (finishBuiltin h canon a s2).1 := by
  unfold finishBuiltin
  split
  · exact hR.trans (hR.err s2 none) (hR.emit _ _)
  · split
    · split
      · exact hh.raise _ _
      · exact hR.refl _
    · exact hR.refl _

theorem builtinStep_rel (hR : ActRel R) (h : Hooks) (hh : HooksRel R h)
    (nested : List ActionRef → String → St → St) (hn : ∀ as ev s, R s (nested as ev s))
    (cut : Bool) (evType canon : String) (a : ActionRef) (s : St) :
    R s (builtinStep h nested cut evType canon a s).1 := by
  cases hb : builtinOutcome h cut evType canon a s with
  | failed e => rw [builtinStep_failed h nested cut evType canon a s e hb]; exact hR.emit _ _
  | followups fs =>
    rw [builtinStep_followups h nested cut evType canon a s fs hb]
    refine hR.trans ?_ (finishBuiltin_rel hR h hh canon a _)
    split
    · exact assignStep_rel hR _ _ _ _
    · exact hR.trans (assignStep_rel hR _ _ _ _) (hn _ _ _)

theorem actStep_rel (hR : ActRel R) (h : Hooks) (hh : HooksRel R h)
    (nested : List ActionRef → String → St → St) (hn : ∀ as ev s, R s (nested as ev s))
    (cut : Bool) (evType : String) (acc : St × Bool) (a : ActionRef) :
    R acc.1 (actStep h nested cut evType acc a).1 := by
  unfold actStep
  split
  · exact hR.refl _
  · split
    · exact hR.trans (hR.ctx _ _) (hR.emit _ _)
    · split
      · exact hR.fail _ _
      · exact hR.trans (hR.ctx _ _) (hR.emit _ _)
    · exact hR.trans (hR.emit _ _) (hR.emit _ _)
    · split
      · exact hR.fail _ _
      · exact builtinStep_rel hR h hh nested hn cut evType _ a acc.1

theorem foldl_actStep_rel (hR : ActRel R) (h : Hooks) (hh : HooksRel R h)
    (nested : List ActionRef → String → St → St) (hn : ∀ as ev s, R s (nested as ev s))
    (cut : Bool) (evType : String) : ∀ (as : List ActionRef) (acc : St × Bool),
      R acc.1 (as.foldl (actStep h nested cut evType) acc).1 := by
  intro as
  induction as with
  | nil => intro acc; exact hR.refl _
  | cons a as ih =>
    intro acc
    simp only [List.foldl_cons]
    exact hR.trans (actStep_rel hR h hh nested hn cut evType acc a) (ih _)

theorem execActionsF_rel (hR : ActRel R) (h : Hooks) (hh : HooksRel R h) :
    ∀ (fuel : Nat) (as : List ActionRef) (evType : String) (s : St), R s (execActionsF h fuel as evType s) := by
  intro fuel
  induction fuel with
  | zero =>
    intro as evType s
    unfold execActionsF
    exact foldl_actStep_rel hR h hh _ (fun _ _ s => hR.refl s) true evType as (s, false)
  | succ f ih =>
    intro as evType s
    unfold execActionsF
    exact foldl_actStep_rel hR h hh _ (fun as ev s => hR.trans (ih as ev s) (endExpansion_rel hR _ _)) false evType as (s, false)

theorem execActions_rel (hR : ActRel R) (h : Hooks) (hh : HooksRel R h) (as : List ActionRef) (evType : String)
    (s : St) : R s (execActions h as evType s) := execActionsF_rel hR h hh _ as evType s

theorem checkDone_rel (hR : EngRel R) (h : Hooks) (hh : HooksRel R h) (m : Machine) (fin : Path) (s : St) :
    R s (checkAndFireOnDone h m fin s) := by
  unfold checkAndFireOnDone
  simp only
  split
  · exact hh.snd _ _
  · split
    · exact hR.complete s
    · exact hR.refl s

theorem addActive_rel (hR : EngRel R) (p : Path) (s : St) : R s (addActive p s) := by
  unfold addActive; split
  · exact hR.refl s
  · exact hR.cfg s _

theorem enterOne_rel (hR : EngRel R) (h : Hooks) (hh : HooksRel R h) (fl : Flavor) (m : Machine)
    (ev : Option String) (s : St) (e : Entry) : R s (enterOne h fl m ev s e) := by
  unfold enterOne
  split
  · exact hR.refl s
  · split
    · exact hR.refl s
    · rename_i d _
      have h1 := hR.trans (addActive_rel hR e.path s)
        (execActions_rel hR.toActRel h hh d.entry (entryEvName fl m e ev) (addActive e.path s))
      simp only
      split
      · exact h1
      · split
        · exact hR.trans h1 (checkDone_rel hR h hh m e.path _)
        · exact h1

theorem exitOne_rel (hR : EngRel R) (h : Hooks) (hh : HooksRel R h) (fl : Flavor) (m : Machine)
    (ev : Option String) (s : St) (p : Path) : R s (exitOne h fl m ev s p) := by
  unfold exitOne
  split
  · exact hR.refl s
  · split
    · exact hR.refl s
    · exact hR.trans (execActions_rel hR.toActRel h hh _ _ s) (hR.cfg _ _)

theorem runPlan_rel (hR : EngRel R) (h : Hooks) (hh : HooksRel R h) (fl : Flavor) (m : Machine) (ev : Ev)
    (pl : Plan) (s : St) : R s (runPlan h fl m ev pl s) := by
  unfold runPlan
  simp only
  have h1 : R s (recordHistory m pl.exits s) := hR.hist s _
  have h2 := hR.trans h1 (foldl_rel hR.refl hR.trans _ (exitOne_rel hR h hh fl m (some ev.type)) pl.exits _)
  have h3 : R s (if (pl.exits.foldl (exitOne h fl m (some ev.type)) (recordHistory m pl.exits s)).err.isSome = true
      then pl.exits.foldl (exitOne h fl m (some ev.type)) (recordHistory m pl.exits s)
      else execActions h pl.actions ev.type
        (pl.exits.foldl (exitOne h fl m (some ev.type)) (recordHistory m pl.exits s))) := by
    split
    · exact h2
    · exact hR.trans h2 (execActions_rel hR.toActRel h hh _ _ _)
  have h4 := hR.trans h3 (foldl_rel hR.refl hR.trans _ (enterOne_rel hR h hh fl m (some ev.type)) pl.entries _)
  split
  · exact hR.trans h4 (hR.toActRel.fail _ _)
  · exact h4

theorem execute_rel (hR : EngRel R) (h : Hooks) (hh : HooksRel R h) (fl : Flavor) (m : Machine) (ev : Ev)
    (pl : Plan) (s : St) : R s (execute h fl m ev pl s) := by
  have hc : R s (executeCore h fl m ev pl s) := by
    unfold executeCore
    split
    · split
      · exact hR.toActRel.fail _ _
      · exact execActions_rel hR.toActRel h hh _ _ _
    · simp only
      split
      · exact hR.trans (runPlan_rel hR h hh fl m ev pl s) (hR.cfg _ _)
      · exact runPlan_rel hR h hh fl m ev pl s
  unfold execute
  simp only
  split
  · exact hc
  · exact hR.trans hc (hR.toActRel.emit _ _)

theorem processEvent_rel (hR : EngRel R) (h : Hooks) (hh : HooksRel R h) (fl : Flavor) (m : Machine)
    (u : UEnv) (ev : Ev) (s : St) : R s (processEvent h fl m u ev s) := by
  unfold processEvent
  split
  · exact hR.toActRel.fail _ _
  · apply foldl_rel hR.refl hR.trans
    intro s c
    split
    · exact hR.refl s
    · split
      · exact hR.refl s
      · split
        · exact hR.refl s
        · exact execute_rel hR h hh fl m ev _ s

theorem transientLoop_rel (hR : EngRel R) (h : Hooks) (hh : HooksRel R h) (fl : Flavor) (m : Machine)
    (u : UEnv) : ∀ (fuel : Nat) (s : St), R s (transientLoop h fl m u fuel s) := by
  intro fuel
  induction fuel with
  | zero => intro s; exact hR.refl s
  | succ n ih =>
    intro s
    simp only [transientLoop]
    split
    · exact hR.refl s
    · split
      · exact hR.toActRel.fail _ _
      · split
        · exact hR.trans (processEvent_rel hR h hh fl m u _ s) (ih _)
        · exact hR.refl s

end rel

end XSM

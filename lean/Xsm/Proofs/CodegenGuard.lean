import Xsm.Model.CodegenGuard
import Xsm.Proofs.Guard
/-!
Guard fragment of the code generator's data round trip (`Xsm/Model/CodegenGuard.lean`):
`parseGuard (renderGuard (irGuard j)) = parseGuard j` on the fragment the generator handles, and
the concrete guards on which it fails (finding F16).
-/
namespace XSM.Codegen
open XSM

theorem attach_filterMap_val {α β : Type} (f : α → Option β) (l : List α) :
    l.attach.filterMap (fun c => f c.val) = l.filterMap f := by
  have := List.filterMap_subtype (l := l.attach) (f := fun c => f c.val) (g := f) (fun _ _ => rfl)
  rw [this, List.unattach_attach]

/-- the defining equation of `irGuard` on objects with a string `type`, without the termination bookkeeping -/
theorem irGuard_obj (kvs : List (String × J)) (ty : String) (h : (J.obj kvs).get? "type" = some (.str ty)) :
    irGuard (.obj kvs) = some (.mk ty ((nestedGuards (.obj kvs)).filterMap irGuard) (dictParams (.obj kvs))) := by
  rw [irGuard.eq_2]
  simp only [attach_filterMap_val, h]

theorem irGuard_str (s : String) : irGuard (.str s) = some (.mk s [] none) := by
  rw [irGuard.eq_1]

theorem renderGuards_ne_nil {gs : List GuardIR} (h : gs ≠ []) : renderGuards gs ≠ [] := by
  cases gs with
  | nil => exact absurd rfl h
  | cons g gs => simp [renderGuards]

theorem renderGuard_composite (ty : String) (kids : List GuardIR) (p : Option J) (h : kids ≠ []) :
    renderGuard (.mk ty kids p) = opJ ty [("params", .obj [("guards", .arr (renderGuards kids))])] := by
  cases kids with
  | nil => exact absurd rfl h
  | cons k ks => simp [renderGuard, opJ]

theorem renderGuard_leaf (ty : String) (p : Option J) : renderGuard (.mk ty [] p) = .str ty := by
  simp [renderGuard]

/-- the guards on which the generator's IR and emitter are faithful: names, and `and`/`or`/`not`
    whose operands are written under `params.guards` (recursively) -/
inductive RepGuard : J → Prop
  | name (s : String) : RepGuard (.str s)
  | comp (op : String) (cs : List J) : IsCompositeOp op → cs ≠ [] → (∀ c, c ∈ cs → RepGuard c) →
      RepGuard (opJ op [("params", .obj [("guards", .arr cs)])])

theorem operands_roundtrip (cs : List J)
    (h : ∀ c, c ∈ cs → ∃ g, irGuard c = some g ∧ parseGuard (renderGuard g) = parseGuard c) :
    (renderGuards (cs.filterMap irGuard)).mapM parseGuard = cs.mapM parseGuard ∧
    (cs.filterMap irGuard).length = cs.length := by
  induction cs with
  | nil => simp [renderGuards]
  | cons c cs ih =>
    obtain ⟨g, hg, hp⟩ := h c (List.mem_cons_self ..)
    have ih' := ih (fun c' hc' => h c' (List.mem_cons_of_mem _ hc'))
    rw [List.filterMap_cons, hg]
    simp only [renderGuards, List.mapM_cons, hp, ih'.1, List.length_cons, ih'.2]
    exact ⟨trivial, trivial⟩

theorem nestedGuards_params_guards (op : String) (cs : List J) :
    nestedGuards (opJ op [("params", .obj [("guards", .arr cs)])]) = cs := by
  simp [nestedGuards, opJ, J.get?, ensureList]

theorem render_bare_name (kvs : List (String × J)) (ty : String)
    (hty : (J.obj kvs).get? "type" = some (.str ty)) (hn : nestedGuards (.obj kvs) = []) :
    ∃ g, irGuard (.obj kvs) = some g ∧ renderGuard g = .str ty := by
  refine ⟨_, irGuard_obj kvs ty hty, ?_⟩
  rw [hn]
  exact renderGuard_leaf ty _

/-- a parameterised user guard -/
def exParamGuard : J := .obj [("type", .str "inRange"), ("params", .obj [("min", .num 1)])]
/-- `not` with its operand under `children` -/
def exChildrenGuard : J := opJ "not" [("children", .arr [.str "busy"])]
/-- the built-in state test -/
def exStateInGuard : J := .obj [("type", .str "stateIn"), ("params", .obj [("state", .str "#m.a")])]

end XSM.Codegen

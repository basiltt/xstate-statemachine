import Xsm.Model.SnapshotTree
import Xsm.Proofs.Basics
/-!
Helper lemmas for the persisted actor trees (`Xsm/Model/SnapshotTree.lean`); statements in
`Xsm/Properties/C12.lean` §5.
-/
namespace XSM.SnapTree
variable {σ : Type}

theorem hasKey_nil {β : Type} (k : String) : hasKey k ([] : List (String × β)) = false := rfl

theorem hasKey_cons {β : Type} (k : String) (e : String × β) (l : List (String × β)) :
    hasKey k (e :: l) = (e.1 == k || hasKey k l) := by
  simp [hasKey]

theorem hasKey_false_iff {β : Type} (k : String) (l : List (String × β)) :
    hasKey k l = false ↔ ∀ e ∈ l, e.1 ≠ k := by
  simp [hasKey]

theorem hasKey_true_iff {β : Type} (k : String) (l : List (String × β)) :
    hasKey k l = true ↔ ∃ e ∈ l, e.1 = k := by
  simp [hasKey]

theorem mergeSys_nil_left (live : List (String × String)) : mergeSys [] live = live := by
  simp [mergeSys, hasKey]

theorem mergeSys_nil_right (pend : List (String × String)) : mergeSys pend [] = pend := by
  simp [mergeSys]

/-- no systemId is both pending and live: `{**pend, **live}` is the concatenation -/
theorem mergeSys_disjoint (pend live : List (String × String)) (h : ∀ e ∈ live, hasKey e.1 pend = false) :
    mergeSys pend live = pend ++ live := by
  unfold mergeSys
  congr 1
  · conv => rhs; rw [← List.map_id pend]
    apply List.map_congr_left
    intro e he
    have : live.find? (fun x => x.1 == e.1) = none := by
      rw [List.find?_eq_none]
      intro x hx hxe
      have := (hasKey_false_iff x.1 pend).1 (h x hx) e he
      have hxe' : x.1 = e.1 := by simpa using hxe
      exact this hxe'.symm
    simp [this]
  · rw [List.filter_eq_self]
    intro e he
    simp [h e he]

theorem filter_append_right {α : Type} {p : α → Bool} {a b : List α} (ha : ∀ x ∈ a, p x = false)
    (hb : ∀ x ∈ b, p x = true) : (a ++ b).filter p = b := by
  rw [List.filter_append, List.filter_eq_nil_iff.2 (fun x hx => by rw [ha x hx]; exact Bool.false_ne_true),
    List.filter_eq_self.2 hb, List.nil_append]

theorem filter_append_left {α : Type} {p : α → Bool} {a b : List α} (ha : ∀ x ∈ a, p x = true)
    (hb : ∀ x ∈ b, p x = false) : (a ++ b).filter p = a := by
  rw [List.filter_append, List.filter_eq_self.2 ha,
    List.filter_eq_nil_iff.2 (fun x hx => by rw [hb x hx]; exact Bool.false_ne_true), List.append_nil]

theorem avail_some {svc : String → Bool} {k : String} (h : svc k = true) : avail svc (some k) = true := h

theorem recSrc_some {k : String} (h : k ≠ "") : recSrc (some k) = some k := by
  simp [recSrc, h]

theorem snapKids_ids (kids : List (LKid σ)) : (snapKids kids).map (·.1) = kids.map (·.1) := by
  induction kids with
  | nil => simp [snapKids]
  | cons k rest ih =>
    obtain ⟨id, src, c⟩ := k
    simp [snapKids, ih]

theorem hasKey_snapKids (k : String) (kids : List (LKid σ)) : hasKey k (snapKids kids) = hasKey k kids := by
  induction kids with
  | nil => simp [snapKids, hasKey]
  | cons x rest ih =>
    obtain ⟨id, src, c⟩ := x
    simp only [snapKids, hasKey_cons, ih]

theorem restoreKids_append (v : Variant) (svc : String → Bool) (a b : List (SRec σ)) :
    restoreKids v svc (a ++ b) = restoreKids v svc a ++ restoreKids v svc b := by
  induction a with
  | nil => simp [restoreKids]
  | cons r rest ih =>
    obtain ⟨id, src, s⟩ := r
    simp only [List.cons_append, restoreKids]
    split <;> simp [ih]

theorem restoreKids_unavail (v : Variant) (svc : String → Bool) (l : List (SRec σ))
    (h : ∀ r ∈ l, avail svc r.2.1 = false) : restoreKids v svc l = [] := by
  induction l with
  | nil => simp [restoreKids]
  | cons r rest ih =>
    obtain ⟨id, src, s⟩ := r
    have h1 : avail svc src = false := h (id, src, s) (List.mem_cons_self ..)
    simp only [restoreKids, h1]
    exact ih (fun r hr => h r (List.mem_cons_of_mem _ hr))

theorem parkedOf_append (svc : String → Bool) (a b : List (SRec σ)) :
    parkedOf svc (a ++ b) = parkedOf svc a ++ parkedOf svc b := by
  simp [parkedOf]

theorem parkedOf_unavail (svc : String → Bool) (l : List (SRec σ)) (h : ∀ r ∈ l, avail svc r.2.1 = false) :
    parkedOf svc l = l := by
  unfold parkedOf
  rw [List.filter_eq_self]
  intro r hr
  simp [h r hr]

theorem parkedOf_snapKids (svc : String → Bool) (kids : List (LKid σ)) (h : WFKids svc kids) :
    parkedOf svc (snapKids kids) = [] := by
  induction kids with
  | nil => simp [snapKids, parkedOf]
  | cons k rest ih =>
    obtain ⟨id, src, c⟩ := k
    simp only [WFKids] at h
    obtain ⟨⟨k, rfl, _, hk⟩, _, hrest⟩ := h
    have := ih hrest
    simp only [parkedOf] at this ⊢
    simp only [snapKids]
    rw [List.filter_cons]
    simp only [avail, hk, Bool.not_true, Bool.false_eq_true, if_false]
    exact this

mutual
/-- **restore ∘ snap = id** on well-formed live hierarchies (any depth, any width) -/
theorem restore_snapTree (svc : String → Bool) (t : Live σ) (h : WFLive svc t) :
    restoreTree svc (snapTree t) = t := by
  match t with
  | .mk own kids parked sys pend =>
    simp only [WFLive] at h
    obtain ⟨hk, hp, hs, hpe, hd⟩ := h
    have hfil : parked.filter (fun r => !hasKey r.1 kids) = parked := by
      rw [List.filter_eq_self]
      intro r hr
      simp [(hp r hr).2]
    have hkids : restoreKids repaired svc (snapKids kids ++ parked) = kids := by
      rw [restoreKids_append, restore_snapKids svc kids hk, restoreKids_unavail repaired svc parked (fun r hr => (hp r hr).1)]
      simp
    have hpark : parkedOf svc (snapKids kids ++ parked) = parked := by
      rw [parkedOf_append, parkedOf_snapKids svc kids hk, parkedOf_unavail svc parked (fun r hr => (hp r hr).1)]
      simp
    simp only [restoreTree, snapTree, restoreV, hfil, hkids, hpark, mergeSys_disjoint pend sys hd]
    have hsys : (pend ++ sys).filter (fun e => found repaired kids e.2) = sys :=
      filter_append_right (fun e he => (hpe e he).1) hs
    have hpend : (pend ++ sys).filter (fun e => !found repaired kids e.2 &&
          (parked.any (fun r => under r.1 e.2) || parkedInKids kids e.2)) = pend :=
      filter_append_left (fun e he => by rw [show found repaired kids e.2 = false from (hpe e he).1]; exact (hpe e he).2)
        (fun e he => by rw [show found repaired kids e.2 = true from hs e he]; rfl)
    rw [hsys, if_pos (show repaired.keepPend = true from rfl), hpend]
theorem restore_snapKids (svc : String → Bool) (kids : List (LKid σ)) (h : WFKids svc kids) :
    restoreKids repaired svc (snapKids kids) = kids := by
  match kids with
  | [] => simp [snapKids, restoreKids]
  | (id, src, c) :: rest =>
    simp only [WFKids] at h
    obtain ⟨⟨k, rfl, hk0, hk⟩, hc, hrest⟩ := h
    have h1 := restore_snapTree svc c hc
    have h2 := restore_snapKids svc rest hrest
    simp only [restoreTree] at h1
    simp only [snapKids, restoreKids, avail, hk, if_true, recSrc_some hk0, h1, h2]
end

/-! What comes back alive and what is parked does not depend on the variant: `v` only decides which systemIds are registered. -/
mutual
theorem has_restoreV (v : Variant) (svc : String → Bool) (s : Snap σ) (aid : String) :
    (restoreV v svc s).has aid = liveInSnap svc s aid := by
  match s with
  | .mk own actors system =>
    simp only [restoreV, Live.has, liveInSnap]
    exact hasIn_restoreKids v svc actors aid
theorem hasIn_restoreKids (v : Variant) (svc : String → Bool) (recs : List (SRec σ)) (aid : String) :
    hasIn (restoreKids v svc recs) aid = liveIn svc recs aid := by
  match recs with
  | [] => simp [restoreKids, hasIn, liveIn]
  | (id, src, s) :: rest =>
    have h1 := has_restoreV v svc s aid
    have h2 := hasIn_restoreKids v svc rest aid
    simp only [restoreKids, liveIn]
    by_cases ha : avail svc src = true
    · simp only [ha, if_true, hasIn, h1, h2, Bool.true_and, Bool.or_assoc]
    · simp only [Bool.not_eq_true] at ha
      simp only [ha, Bool.false_and, Bool.false_or]
      exact h2
end

mutual
theorem isParked_restoreV (v : Variant) (svc : String → Bool) (s : Snap σ) (aid : String) :
    (restoreV v svc s).isParked aid = parkedInSnap svc s aid := by
  match s with
  | .mk own actors system =>
    simp only [restoreV, Live.isParked, parkedInSnap]
    exact parked_restoreKids v svc actors aid
theorem parked_restoreKids (v : Variant) (svc : String → Bool) (recs : List (SRec σ)) (aid : String) :
    ((parkedOf svc recs).any (fun r => under r.1 aid) || parkedInKids (restoreKids v svc recs) aid) = parkedIn svc recs aid := by
  match recs with
  | [] => simp [parkedOf, restoreKids, parkedInKids, parkedIn]
  | (id, src, s) :: rest =>
    have h1 := isParked_restoreV v svc s aid
    have h2 := parked_restoreKids v svc rest aid
    simp only [parkedOf] at h2 ⊢
    simp only [restoreKids, parkedIn, List.filter_cons]
    by_cases ha : avail svc src = true
    · simp only [ha, if_true, Bool.not_true, Bool.false_eq_true, if_false, parkedInKids, h1, ← h2]
      cases (List.filter (fun r => !avail svc r.2.1) rest).any (fun r => under r.1 aid) <;>
        cases parkedInSnap svc s aid <;> simp
    · simp only [Bool.not_eq_true] at ha
      simp only [ha, Bool.not_false, if_true, Bool.false_eq_true, if_false, List.any_cons, ← h2]
      cases under id aid <;> simp
end

theorem hasKey_restoreKids (v : Variant) (svc : String → Bool) (recs : List (SRec σ)) (k : String)
    (h : hasKey k (restoreKids v svc recs) = true) : ∃ r ∈ recs, r.1 = k ∧ avail svc r.2.1 = true := by
  induction recs with
  | nil => simp [restoreKids, hasKey] at h
  | cons r rest ih =>
    obtain ⟨id, src, s⟩ := r
    simp only [restoreKids] at h
    by_cases ha : avail svc src = true
    · simp only [ha, if_true, hasKey_cons, Bool.or_eq_true, beq_iff_eq] at h
      rcases h with h | h
      · exact ⟨(id, src, s), List.mem_cons_self .., h, ha⟩
      · obtain ⟨r, hr, h1, h2⟩ := ih h
        exact ⟨r, List.mem_cons_of_mem _ hr, h1, h2⟩
    · simp only [ha] at h
      obtain ⟨r, hr, h1, h2⟩ := ih h
      exact ⟨r, List.mem_cons_of_mem _ hr, h1, h2⟩

mutual
theorem wfLive_restore (svc : String → Bool) (s : Snap σ) (h : WFSnap s) : WFLive svc (restoreTree svc s) := by
  match s with
  | .mk own actors system =>
    simp only [WFSnap] at h
    obtain ⟨hr, hn, hs⟩ := h
    simp only [restoreTree, restoreV, WFLive]
    refine ⟨wfKids_restore svc actors hr, ?_, ?_, ?_, ?_⟩
    · intro r hrm
      simp only [parkedOf, List.mem_filter, Bool.not_eq_true'] at hrm
      refine ⟨hrm.2, ?_⟩
      cases hk : hasKey r.1 (restoreKids repaired svc actors) with
      | false => rfl
      | true =>
        obtain ⟨r', hr', h1, h2⟩ := hasKey_restoreKids repaired svc actors r.1 hk
        have := eq_of_nodup_map (·.1) actors hn r' hr' r hrm.1 h1
        rw [this, hrm.2] at h2
        cases h2
    · intro e he
      simp only [List.mem_filter, found, repaired, if_true] at he
      exact he.2
    · intro e he
      have hkp : repaired.keepPend = true := rfl
      rw [if_pos hkp] at he
      simp only [List.mem_filter, found, repaired, if_true, Bool.and_eq_true, Bool.not_eq_true'] at he
      exact ⟨he.2.1, he.2.2⟩
    · intro e he
      have hkp : repaired.keepPend = true := rfl
      rw [if_pos hkp]
      rw [hasKey_false_iff]
      intro e' he' hk
      simp only [List.mem_filter, found, repaired, if_true, Bool.and_eq_true, Bool.not_eq_true'] at he he'
      have := eq_of_nodup_map (·.1) system hs e' he'.1 e he.1 hk
      rw [this, he.2] at he'
      cases he'.2.1
theorem wfKids_restore (svc : String → Bool) (recs : List (SRec σ)) (h : WFRecs recs) :
    WFKids svc (restoreKids repaired svc recs) := by
  match recs with
  | [] => simp [restoreKids, WFKids]
  | (id, src, s) :: rest =>
    simp only [WFRecs] at h
    obtain ⟨h0, hs, hrest⟩ := h
    have h1 := wfLive_restore svc s hs
    have h2 := wfKids_restore svc rest hrest
    simp only [restoreTree] at h1
    simp only [restoreKids]
    by_cases ha : avail svc src = true
    · simp only [ha, if_true, WFKids]
      refine ⟨?_, h1, h2⟩
      cases src with
      | none => simp [avail] at ha
      | some k =>
        have hk0 : k ≠ "" := fun hk => h0 (by rw [hk])
        exact ⟨k, recSrc_some hk0, hk0, ha⟩
    · simp only [ha]
      exact h2
end

theorem parkedOf_allAvail (svc : String → Bool) (recs : List (SRec σ)) (h : AllAvailRecs svc recs) :
    parkedOf svc recs = [] := by
  induction recs with
  | nil => simp [parkedOf]
  | cons r rest ih =>
    obtain ⟨id, src, s⟩ := r
    simp only [AllAvailRecs] at h
    have := ih h.2.2
    simp only [parkedOf] at this ⊢
    rw [List.filter_cons]
    simp only [h.1, Bool.not_true, Bool.false_eq_true, if_false]
    exact this

mutual
theorem snap_restoreTree (svc : String → Bool) (s : Snap σ) (hw : WFSnap s) (ha : AllAvail svc s) (hl : SysLive svc s) :
    snapTree (restoreTree svc s) = s := by
  match s with
  | .mk own actors system =>
    simp only [WFSnap] at hw
    simp only [AllAvail] at ha
    simp only [SysLive] at hl
    have hk := snapKids_restoreKids svc actors hw.1 ha hl.2
    have hp := parkedOf_allAvail svc actors ha
    have hkp : repaired.keepPend = true := rfl
    simp only [restoreTree, restoreV, snapTree, hp, if_pos hkp, List.filter_nil, List.append_nil, hk]
    have hlive : ∀ e ∈ system, found repaired (restoreKids repaired svc actors) e.2 = true := fun e he =>
      (hasIn_restoreKids repaired svc actors e.2).trans (hl.1 e he)
    have hsys : system.filter (fun e => found repaired (restoreKids repaired svc actors) e.2) = system :=
      List.filter_eq_self.2 hlive
    have hpend : system.filter (fun e => !found repaired (restoreKids repaired svc actors) e.2 &&
        (([] : List (SRec σ)).any (fun r => under r.1 e.2) || parkedInKids (restoreKids repaired svc actors) e.2)) = [] :=
      List.filter_eq_nil_iff.2 fun e he => by rw [hlive e he]; exact Bool.false_ne_true
    rw [hsys, hpend, mergeSys_nil_left]
theorem snapKids_restoreKids (svc : String → Bool) (recs : List (SRec σ)) (hw : WFRecs recs) (ha : AllAvailRecs svc recs)
    (hl : SysLiveRecs svc recs) : snapKids (restoreKids repaired svc recs) = recs := by
  match recs with
  | [] => simp [restoreKids, snapKids]
  | (id, src, s) :: rest =>
    simp only [WFRecs] at hw
    simp only [AllAvailRecs] at ha
    simp only [SysLiveRecs] at hl
    have h1 := snap_restoreTree svc s hw.2.1 ha.2.1 hl.1
    have h2 := snapKids_restoreKids svc rest hw.2.2 ha.2.2 hl.2
    simp only [restoreTree] at h1
    cases src with
    | none => simp [avail] at ha
    | some k =>
      have hk0 : k ≠ "" := fun hk => hw.1 (by rw [hk])
      simp only [restoreKids, ha.1, if_true, snapKids, recSrc_some hk0, h1, h2]
end

theorem filter_or_perm {α : Type} (p q : α → Bool) (l : List α) :
    (l.filter (fun x => !p x && q x) ++ l.filter p).Perm (l.filter (fun x => p x || q x)) := by
  induction l with
  | nil => simp
  | cons x rest ih =>
    simp only [List.filter_cons]
    cases hp : p x <;> cases hq : q x <;> simp only [Bool.not_false, Bool.not_true, Bool.true_and, Bool.false_and,
      Bool.or_false, Bool.or_true, if_true, if_false, Bool.false_eq_true]
    · exact ih
    · exact List.Perm.cons x ih
    · exact List.perm_middle.trans (List.Perm.cons x ih)
    · exact List.perm_middle.trans (List.Perm.cons x ih)

theorem restoreKids_ids (v : Variant) (svc : String → Bool) (recs : List (SRec σ)) :
    (restoreKids v svc recs).map (·.1) = (recs.filter (fun r => avail svc r.2.1)).map (·.1) := by
  induction recs with
  | nil => simp [restoreKids]
  | cons r rest ih =>
    obtain ⟨id, src, s⟩ := r
    simp only [restoreKids, List.filter_cons]
    by_cases ha : avail svc src = true
    · simp [ha, ih]
    · simp [ha, ih]

/-- `n` save/restore cycles seen from the persisted side -/
def cycles (svc : String → Bool) : Nat → Snap σ → Snap σ
  | 0, s => s
  | n + 1, s => cycle svc (cycles svc n s)

theorem sys_restoreTree (svc : String → Bool) (s : Snap σ) :
    (restoreTree svc s).sys = s.system.filter (fun e => liveIn svc s.actors e.2) := by
  match s with
  | .mk own actors system =>
    simp only [restoreTree, restoreV, Live.sys, Snap.system, Snap.actors]
    apply List.filter_congr
    intro e _
    simp only [found, repaired, if_true, hasIn_restoreKids]

theorem pend_restoreTree (svc : String → Bool) (s : Snap σ) :
    (restoreTree svc s).pend = s.system.filter (fun e => !liveIn svc s.actors e.2 && parkedIn svc s.actors e.2) := by
  match s with
  | .mk own actors system =>
    have hkp : repaired.keepPend = true := rfl
    simp only [restoreTree, restoreV, Live.pend, Snap.system, Snap.actors, if_pos hkp]
    apply List.filter_congr
    intro e _
    simp only [found, repaired, if_true, hasIn_restoreKids, parked_restoreKids]

theorem cycle_parts (svc : String → Bool) (s : Snap σ) (h : WFSnap s) :
    (cycle svc s).own = s.own ∧
    (cycle svc s).actors = snapKids (restoreKids repaired svc s.actors) ++ parkedOf svc s.actors ∧
    (cycle svc s).system = (restoreTree svc s).pend ++ (restoreTree svc s).sys := by
  have hwf := wfLive_restore svc s h
  match s with
  | .mk own actors system =>
    simp only [restoreTree, restoreV] at hwf
    simp only [WFLive] at hwf
    obtain ⟨_, hp, _, _, hd⟩ := hwf
    simp only [cycle, restoreTree, restoreV, snapTree, Snap.own, Snap.actors, Snap.system, Live.pend, Live.sys]
    refine ⟨trivial, ?_, mergeSys_disjoint _ _ hd⟩
    congr 1
    rw [List.filter_eq_self]
    intro r hr
    simp [(hp r hr).2]

end XSM.SnapTree

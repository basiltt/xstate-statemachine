import Xsm.Model.Codegen
/-!
Lemmas about the naming model (`Xsm/Model/Codegen.lean`) used by `Xsm/Properties/C17.lean`.
-/
namespace XSM.Codegen

/-- every character is in `[0-9a-zA-Z_]` -/
def AllId (l : List Char) : Prop := ∀ x ∈ l, isIdChar x = true

/-- non-empty, first character an ASCII letter, the rest in `[0-9a-zA-Z_]` -/
def StartsLetter (l : List Char) : Prop :=
  ∃ c cs, l = c :: cs ∧ isAsciiLetter c = true ∧ AllId cs

/-- non-empty, first character an ASCII letter or digit, the rest in `[0-9a-zA-Z_]` -/
def GoodCand (l : List Char) : Prop :=
  ∃ c cs, l = c :: cs ∧ (isAsciiLetter c = true ∨ isAsciiDigit c = true) ∧ AllId cs

theorem allId_nil : AllId [] := by intro x hx; cases hx

theorem allId_cons {c : Char} {cs : List Char} (hc : isIdChar c = true) (h : AllId cs) : AllId (c :: cs) := by
  intro x hx
  rcases List.mem_cons.1 hx with rfl | hx
  · exact hc
  · exact h x hx

theorem allId_append {a b : List Char} (ha : AllId a) (hb : AllId b) : AllId (a ++ b) := by
  intro x hx
  rcases List.mem_append.1 hx with h | h
  · exact ha x h
  · exact hb x h

theorem isIdChar_of_letter {c : Char} (h : isAsciiLetter c = true) : isIdChar c = true := by
  simp [isIdChar, h]

theorem isIdChar_of_digit {c : Char} (h : isAsciiDigit c = true) : isIdChar c = true := by
  simp [isIdChar, h]

theorem isIdChar_underscore : isIdChar '_' = true := by decide

theorem letter_not_digit {c : Char} (h : isAsciiLetter c = true) : isAsciiDigit c = false := by
  simp only [isAsciiLetter, isAsciiDigit, Bool.or_eq_true, Bool.and_eq_true, decide_eq_true_eq] at h ⊢
  cases hd : (decide (48 ≤ c.toNat) && decide (c.toNat ≤ 57)) with
  | false => rfl
  | true =>
    simp only [Bool.and_eq_true, decide_eq_true_eq] at hd
    omega

theorem letter_ne_underscore {c : Char} (h : isAsciiLetter c = true) : c ≠ '_' := by
  intro hc; subst hc; revert h; decide

theorem digit_ne_underscore {c : Char} (h : isAsciiDigit c = true) : c ≠ '_' := by
  intro hc; subst hc; revert h; decide

theorem subInvalidAux_allId (b : Bool) (l : List Char) : AllId (subInvalidAux b l) := by
  induction l generalizing b with
  | nil => simp [subInvalidAux, allId_nil]
  | cons c cs ih =>
    simp only [subInvalidAux]
    split
    · rename_i hc; exact allId_cons hc (ih false)
    · split
      · exact ih true
      · exact allId_cons isIdChar_underscore (ih true)

theorem subInvalid_allId (l : List Char) : AllId (subInvalid l) := subInvalidAux_allId false l

theorem subInvalidAux_of_allId (b : Bool) (l : List Char) (h : AllId l) : subInvalidAux b l = l := by
  induction l generalizing b with
  | nil => rfl
  | cons c cs ih =>
    have hc : isIdChar c = true := h c (List.mem_cons_self ..)
    have hcs : AllId cs := fun x hx => h x (List.mem_cons_of_mem _ hx)
    simp only [subInvalidAux, hc, if_true, ih false hcs]

theorem stripR_mem {l : List Char} {x : Char} : x ∈ stripR l → x ∈ l := by
  induction l with
  | nil => simp [stripR]
  | cons c cs ih =>
    simp only [stripR]
    split
    · split
      · intro h; cases h
      · intro h; simp at h; subst h; exact List.mem_cons_self ..
    · rename_i r rs hr
      intro h
      rcases List.mem_cons.1 h with rfl | h
      · exact List.mem_cons_self ..
      · exact List.mem_cons_of_mem _ (ih (by rw [hr]; exact h))

theorem stripR_head {l : List Char} {c : Char} {cs : List Char} (h : stripR l = c :: cs) :
    ∃ t, l = c :: t := by
  cases l with
  | nil => simp [stripR] at h
  | cons a t =>
    simp only [stripR] at h
    split at h
    · split at h
      · cases h
      · simp at h; exact ⟨t, by rw [h.1]⟩
    · simp at h; exact ⟨t, by rw [h.1]⟩

theorem stripL_head {l : List Char} {c : Char} {cs : List Char} (h : stripL l = c :: cs) : c ≠ '_' := by
  have := List.head?_dropWhile_not (· == '_') l
  rw [show l.dropWhile (· == '_') = c :: cs from h] at this
  simpa using this

theorem strip_mem {l : List Char} {x : Char} (h : x ∈ strip l) : x ∈ l :=
  (List.dropWhile_sublist _).subset (stripR_mem h)

theorem strip_head {l : List Char} {c : Char} {cs : List Char} (h : strip l = c :: cs) : c ≠ '_' := by
  obtain ⟨t, ht⟩ := stripR_head h
  exact stripL_head ht

theorem sanitize_good (tr : Char → List Char) (s : List Char) :
    sanitize tr s = [] ∨ GoodCand (sanitize tr s) := by
  cases hs : sanitize tr s with
  | nil => exact Or.inl rfl
  | cons c cs =>
    right
    have hall : AllId (c :: cs) := by
      intro x hx
      rw [← hs] at hx
      exact subInvalid_allId _ x (strip_mem hx)
    have hne : c ≠ '_' := strip_head hs
    refine ⟨c, cs, rfl, ?_, fun x hx => hall x (List.mem_cons_of_mem _ hx)⟩
    have hc := hall c (List.mem_cons_self ..)
    simp only [isIdChar, Bool.or_eq_true, beq_iff_eq] at hc
    rcases hc with (h | h) | h
    · exact Or.inl h
    · exact Or.inr h
    · exact absurd h hne

theorem stateWord_good : GoodCand stateWord :=
  ⟨'s', ['t', 'a', 't', 'e'], rfl, Or.inl (by decide), by
    intro x hx
    simp at hx
    rcases hx with rfl | rfl | rfl | rfl <;> decide⟩

theorem baseCandidate_good (tr : Char → List Char) (name fb : List Char) : GoodCand (baseCandidate tr name fb) := by
  unfold baseCandidate
  split
  · split
    · exact stateWord_good
    · rename_i c cs h
      rcases sanitize_good tr fb with h' | h'
      · rw [h] at h'; cases h'
      · rw [h] at h'; exact h'
  · rename_i c cs h
    rcases sanitize_good tr name with h' | h'
    · rw [h] at h'; cases h'
    · rw [h] at h'; exact h'

theorem prefixDigit_startsLetter {l : List Char} (h : GoodCand l) : StartsLetter (prefixDigit l) := by
  obtain ⟨c, cs, rfl, hc, hcs⟩ := h
  simp only [prefixDigit]
  split
  · rename_i hd
    exact ⟨'s', '_' :: c :: cs, rfl, by decide,
      allId_cons isIdChar_underscore (allId_cons (isIdChar_of_digit hd) hcs)⟩
  · rename_i hd
    rcases hc with hc | hc
    · exact ⟨c, cs, rfl, hc, hcs⟩
    · exact absurd hc hd

theorem startsLetter_append {l s : List Char} (h : StartsLetter l) (hs : AllId s) : StartsLetter (l ++ s) := by
  obtain ⟨c, cs, rfl, hc, hcs⟩ := h
  exact ⟨c, cs ++ s, rfl, hc, allId_append hcs hs⟩

theorem finish_cases (T : NameTables) (c : List Char) :
    (finish T c = c ∧ c ∉ T.keywords ∧ c ∉ T.soft ∧ c ∉ T.shadow) ∨ finish T c = c ++ ['_'] := by
  unfold finish
  split
  · exact Or.inr rfl
  · rename_i h
    split
    · exact Or.inr rfl
    · rename_i h2
      exact Or.inl ⟨rfl, fun hk => h (Or.inl hk), fun hk => h (Or.inr hk), h2⟩

theorem finish_startsLetter (T : NameTables) {c : List Char} (h : StartsLetter c) : StartsLetter (finish T c) := by
  rcases finish_cases T c with ⟨h1, _⟩ | h1
  · rw [h1]; exact h
  · rw [h1]; exact startsLetter_append h (allId_cons isIdChar_underscore allId_nil)

theorem toIdentifierWith_startsLetter (T : NameTables) (tr : Char → List Char) (name fb : List Char) :
    StartsLetter (toIdentifierWith T tr name fb) :=
  finish_startsLetter T (prefixDigit_startsLetter (baseCandidate_good tr name fb))

/-- every word of the list ends in an ASCII letter (so: not in `_`, not in a digit) -/
def EndsInLetter (ws : List (List Char)) : Prop :=
  ∀ k ∈ ws, ∃ d, k.getLast? = some d ∧ isAsciiLetter d = true

theorem not_mem_of_last_underscore {ws : List (List Char)} (h : EndsInLetter ws) (c : List Char) :
    c ++ ['_'] ∉ ws := by
  intro hm
  obtain ⟨d, hd, hl⟩ := h _ hm
  rw [List.getLast?_concat] at hd
  cases hd
  revert hl; decide

theorem toIdentifierWith_not_mem (T : NameTables) (tr : Char → List Char) (name fb : List Char)
    (ws : List (List Char)) (hws : EndsInLetter ws)
    (hsub : ∀ w ∈ ws, w ∈ T.keywords ∨ w ∈ T.soft ∨ w ∈ T.shadow) :
    toIdentifierWith T tr name fb ∉ ws := by
  unfold toIdentifierWith
  rcases finish_cases T (prefixDigit (baseCandidate tr name fb)) with ⟨h1, hk, hs, hsh⟩ | h1
  · rw [h1]
    intro hm
    rcases hsub _ hm with h | h | h
    · exact hk h
    · exact hs h
    · exact hsh h
  · rw [h1]; exact not_mem_of_last_underscore hws _

theorem toDigits_inj {n m : Nat} (h : Nat.toDigits 10 n = Nat.toDigits 10 m) : n = m := by
  have hn := @Nat.ofDigitChars_ten_toDigits n
  have hm := @Nat.ofDigitChars_ten_toDigits m
  rw [h] at hn
  omega

theorem toDigits_digit {n : Nat} {c : Char} (h : c ∈ Nat.toDigits 10 n) : isAsciiDigit c = true := by
  have := Nat.isDigit_of_mem_toDigits (b := 10) (by omega) (by omega) h
  simp only [Char.isDigit, Bool.and_eq_true, decide_eq_true_eq] at this
  simp only [isAsciiDigit, Bool.and_eq_true, decide_eq_true_eq]
  have h1 : (48 : UInt32).toNat ≤ c.val.toNat := UInt32.le_iff_toNat_le.1 this.1
  have h2 : c.val.toNat ≤ (57 : UInt32).toNat := UInt32.le_iff_toNat_le.1 this.2
  exact ⟨h1, h2⟩

theorem suffixed_inj {base : List Char} {n m : Nat} (h : suffixed base n = suffixed base m) : n = m := by
  unfold suffixed at h
  have := List.append_cancel_left h
  simp at this
  exact toDigits_inj this

theorem suffixed_ne_base (base : List Char) (n : Nat) : suffixed base n ≠ base := by
  intro h
  have := congrArg List.length h
  simp [suffixed] at this

theorem suffixed_startsLetter {base : List Char} (h : StartsLetter base) (n : Nat) : StartsLetter (suffixed base n) := by
  unfold suffixed
  exact startsLetter_append h (allId_cons isIdChar_underscore (fun x hx => isIdChar_of_digit (toDigits_digit hx)))

theorem suffixed_last_digit (base : List Char) (n : Nat) :
    ∃ d, (suffixed base n).getLast? = some d ∧ isAsciiDigit d = true := by
  have hne : Nat.toDigits 10 n ≠ [] := Nat.toDigits_ne_nil
  obtain ⟨d, hd⟩ : ∃ d, (Nat.toDigits 10 n).getLast? = some d := by
    cases hl : (Nat.toDigits 10 n).getLast? with
    | none => exact absurd (List.getLast?_eq_none_iff.1 hl) hne
    | some d => exact ⟨d, rfl⟩
  refine ⟨d, ?_, toDigits_digit (List.mem_of_getLast? hd)⟩
  unfold suffixed
  cases hl : Nat.toDigits 10 n with
  | nil => exact absurd hl hne
  | cons x xs =>
    rw [hl] at hd
    rw [List.getLast?_append, List.getLast?_cons_cons, hd]
    rfl

theorem suffixed_not_mem {ws : List (List Char)} (h : EndsInLetter ws) (base : List Char) (n : Nat) :
    suffixed base n ∉ ws := by
  intro hm
  obtain ⟨d, hd, hl⟩ := h _ hm
  obtain ⟨d', hd', hdig⟩ := suffixed_last_digit base n
  rw [hd] at hd'
  cases hd'
  rw [letter_not_digit hl] at hdig
  cases hdig

/-- the candidates `base_n, …, base_(n+k-1)` -/
def cands (base : List Char) (n : Nat) : Nat → List (List Char)
  | 0 => []
  | k + 1 => suffixed base n :: cands base (n + 1) k

theorem mem_cands {base : List Char} {n k : Nat} {x : List Char} :
    x ∈ cands base n k → ∃ i, n ≤ i ∧ i < n + k ∧ x = suffixed base i := by
  induction k generalizing n with
  | zero => intro h; cases h
  | succ k ih =>
    intro h
    simp only [cands] at h
    rcases List.mem_cons.1 h with rfl | h
    · exact ⟨n, Nat.le_refl _, by omega, rfl⟩
    · obtain ⟨i, h1, h2, h3⟩ := ih h
      exact ⟨i, by omega, by omega, h3⟩

theorem cands_nodup (base : List Char) (n k : Nat) : (cands base n k).Nodup := by
  induction k generalizing n with
  | zero => exact List.nodup_nil
  | succ k ih =>
    simp only [cands]
    refine List.nodup_cons.2 ⟨?_, ih (n + 1)⟩
    intro h
    obtain ⟨i, h1, _, h3⟩ := mem_cands h
    have := suffixed_inj h3
    omega

theorem cands_length (base : List Char) (n k : Nat) : (cands base n k).length = k := by
  induction k generalizing n with
  | zero => rfl
  | succ k ih => simp [cands, ih]

theorem search_spec (taken : List (List Char)) (base : List Char) (fuel n : Nat) :
    search taken base fuel n ∉ taken ∨ ∀ x ∈ cands base n (fuel + 1), x ∈ taken := by
  induction fuel generalizing n with
  | zero =>
    simp only [search]
    by_cases h : suffixed base n ∈ taken
    · right
      intro x hx
      simp [cands] at hx
      subst hx; exact h
    · exact Or.inl h
  | succ f ih =>
    simp only [search]
    split
    · rename_i h
      rcases ih (n + 1) with h' | h'
      · exact Or.inl h'
      · right
        intro x hx
        rw [cands] at hx
        rcases List.mem_cons.1 hx with rfl | hx
        · exact h
        · exact h' x hx
    · rename_i h; exact Or.inl h

theorem search_is_suffixed (taken : List (List Char)) (base : List Char) (fuel n : Nat) :
    ∃ i, n ≤ i ∧ search taken base fuel n = suffixed base i := by
  induction fuel generalizing n with
  | zero => exact ⟨n, Nat.le_refl _, rfl⟩
  | succ f ih =>
    simp only [search]
    split
    · obtain ⟨i, h1, h2⟩ := ih (n + 1)
      exact ⟨i, by omega, h2⟩
    · exact ⟨n, Nat.le_refl _, rfl⟩

theorem fresh_not_taken (taken : List (List Char)) (base : List Char) : fresh taken base ∉ taken := by
  unfold fresh
  split
  · rename_i hb
    rcases search_spec taken base taken.length 2 with h | h
    · exact h
    · exfalso
      have hnd : (base :: cands base 2 (taken.length + 1)).Nodup := by
        refine List.nodup_cons.2 ⟨?_, cands_nodup _ _ _⟩
        intro hm
        obtain ⟨i, _, _, h3⟩ := mem_cands hm
        exact suffixed_ne_base base i h3.symm
      have := List.Nodup.length_le_of_subset (l₂ := taken) hnd (by
        intro x hx
        rcases List.mem_cons.1 hx with rfl | hx
        · exact hb
        · exact h x hx)
      simp [cands_length] at this
      omega
  · rename_i hb; exact hb

theorem fresh_cases (taken : List (List Char)) (base : List Char) :
    fresh taken base = base ∨ ∃ i, 2 ≤ i ∧ fresh taken base = suffixed base i := by
  unfold fresh
  split
  · right; exact search_is_suffixed taken base taken.length 2
  · exact Or.inl rfl

/-- `_by_key` is injective and every binding it holds is in `_taken` -/
structure Inv (a : Alloc) : Prop where
  inj : ∀ k1 v1 k2 v2, lookup k1 a.byKey = some v1 → lookup k2 a.byKey = some v2 → v1 = v2 → k1 = k2
  taken : ∀ k v, lookup k a.byKey = some v → v ∈ a.taken

theorem inv_init (reserved : List (List Char)) : Inv (Alloc.init reserved) :=
  ⟨by intro k1 v1 k2 v2 h; simp [Alloc.init, lookup] at h, by intro k v h; simp [Alloc.init, lookup] at h⟩

theorem lookup_cons (k name c : List Char) (rest : List (List Char × List Char)) :
    lookup k ((name, c) :: rest) = if name = k then some c else lookup k rest := rfl

theorem allocate_inv (T : NameTables) (tr : Char → List Char) (a : Alloc) (name fb : List Char) (h : Inv a) :
    Inv (allocate T tr a name fb).1 := by
  unfold allocate
  split
  · exact h
  · rename_i hnone
    have hfresh := fresh_not_taken a.taken (toIdentifierWith T tr name fb)
    constructor
    · intro k1 v1 k2 v2 h1 h2 hv
      simp only [lookup_cons] at h1 h2
      split at h1 <;> split at h2
      · rename_i e1 e2; rw [← e1, ← e2]
      · rename_i e1 e2
        cases h1; exfalso
        exact hfresh (hv ▸ h.taken k2 v2 h2)
      · rename_i e1 e2
        cases h2; exfalso
        exact hfresh (hv ▸ h.taken k1 v1 h1)
      · exact h.inj k1 v1 k2 v2 h1 h2 hv
    · intro k v hk
      simp only [lookup_cons] at hk
      split at hk
      · cases hk; exact List.mem_cons_self ..
      · exact List.mem_cons_of_mem _ (h.taken k v hk)

theorem allocate_mono (T : NameTables) (tr : Char → List Char) (a : Alloc) (name fb : List Char)
    (k v : List Char) (hk : lookup k a.byKey = some v) : lookup k (allocate T tr a name fb).1.byKey = some v := by
  unfold allocate
  split
  · exact hk
  · rename_i hnone
    simp only [lookup_cons]
    split
    · rename_i e; subst e; rw [hnone] at hk; cases hk
    · exact hk

theorem allocate_hit (T : NameTables) (tr : Char → List Char) (a : Alloc) (name fb v : List Char)
    (h : lookup name a.byKey = some v) : allocate T tr a name fb = (a, v) := by
  unfold allocate
  rw [h]

theorem allocate_lookup (T : NameTables) (tr : Char → List Char) (a : Alloc) (name fb : List Char) :
    lookup name (allocate T tr a name fb).1.byKey = some (allocate T tr a name fb).2 := by
  unfold allocate
  split
  · rename_i v hv; exact hv
  · simp [lookup_cons]

theorem allocate_taken_mono (T : NameTables) (tr : Char → List Char) (a : Alloc) (name fb : List Char)
    (x : List Char) (hx : x ∈ a.taken) : x ∈ (allocate T tr a name fb).1.taken := by
  unfold allocate
  split
  · exact hx
  · exact List.mem_cons_of_mem _ hx

theorem allocateAll_preserves (T : NameTables) (tr : Char → List Char) {P : Alloc → Prop}
    (hstep : ∀ a name fb, P a → P (allocate T tr a name fb).1)
    (a : Alloc) (reqs : List (List Char × List Char)) (h : P a) : P (allocateAll T tr a reqs).1 := by
  induction reqs generalizing a with
  | nil => exact h
  | cons r rest ih => exact ih _ (hstep a r.1 r.2 h)

theorem allocateAll_taken_mono (T : NameTables) (tr : Char → List Char) (a : Alloc) (reqs : List (List Char × List Char))
    (x : List Char) (hx : x ∈ a.taken) : x ∈ (allocateAll T tr a reqs).1.taken :=
  allocateAll_preserves T tr (fun a name fb => allocate_taken_mono T tr a name fb x) a reqs hx

theorem allocateAll_log (T : NameTables) (tr : Char → List Char) (a : Alloc) (reqs : List (List Char × List Char))
    (n o : List Char) (h : (n, o) ∈ (allocateAll T tr a reqs).2) :
    lookup n (allocateAll T tr a reqs).1.byKey = some o := by
  induction reqs generalizing a with
  | nil => simp [allocateAll] at h
  | cons r rest ih =>
    obtain ⟨name, fb⟩ := r
    simp only [allocateAll] at h ⊢
    rcases List.mem_cons.1 h with h | h
    · have h1 := Prod.mk.inj h
      rw [h1.1, h1.2]
      exact allocateAll_preserves T tr (fun a n f => allocate_mono T tr a n f _ _) _ rest
        (allocate_lookup T tr a name fb)
    · exact ih _ h

/-- a binding is the sanitised name or the sanitised name with a decimal suffix: what holds of
    both, and of the bindings so far, holds of the bindings after a request -/
theorem allocate_shape (T : NameTables) (tr : Char → List Char) (P : List Char → Prop)
    (hbase : ∀ n f, P (toIdentifierWith T tr n f)) (hsuf : ∀ n f i, P (suffixed (toIdentifierWith T tr n f) i))
    (a : Alloc) (name fb : List Char) (hold : ∀ k v, lookup k a.byKey = some v → P v) :
    ∀ k v, lookup k (allocate T tr a name fb).1.byKey = some v → P v := by
  unfold allocate
  split
  · exact hold
  · intro k v hk
    rw [lookup_cons] at hk
    split at hk
    · cases hk
      rcases fresh_cases a.taken (toIdentifierWith T tr name fb) with h | ⟨i, _, h⟩
      · rw [h]; exact hbase _ _
      · rw [h]; exact hsuf _ _ _
    · exact hold k v hk

/-- the reserved names stay taken and no binding is one of them -/
structure AvoidsReserved (reserved : List (List Char)) (a : Alloc) : Prop where
  kept : ∀ x ∈ reserved, x ∈ a.taken
  none : ∀ k v, lookup k a.byKey = some v → v ∉ reserved

theorem avoids_init (reserved : List (List Char)) : AvoidsReserved reserved (Alloc.init reserved) :=
  ⟨fun _ hx => hx, by intro k v h; simp [Alloc.init, lookup] at h⟩

theorem allocate_avoids (T : NameTables) (tr : Char → List Char) (reserved : List (List Char)) (a : Alloc)
    (name fb : List Char) (h : AvoidsReserved reserved a) : AvoidsReserved reserved (allocate T tr a name fb).1 := by
  unfold allocate
  split
  · exact h
  · have hfresh := fresh_not_taken a.taken (toIdentifierWith T tr name fb)
    constructor
    · intro x hx; exact List.mem_cons_of_mem _ (h.kept x hx)
    · intro k v hk
      simp only [lookup_cons] at hk
      split at hk
      · cases hk; intro hr; exact hfresh (h.kept _ hr)
      · exact h.none k v hk

/-- `EndsInLetter` as a Boolean, to be evaluated on the regenerated word lists -/
def endsInLetterB (ws : List (List Char)) : Bool :=
  ws.all (fun k => match k.getLast? with | some d => isAsciiLetter d | none => false)

theorem endsInLetter_of_B {ws : List (List Char)} (h : endsInLetterB ws = true) : EndsInLetter ws := by
  intro k hk
  have := List.all_eq_true.1 h k hk
  cases hl : k.getLast? with
  | none => rw [hl] at this; cases this
  | some d => rw [hl] at this; exact ⟨d, rfl, this⟩

theorem baseCandidate_fallback_irrelevant (tr : Char → List Char) (name fb fb' : List Char)
    (h : sanitize tr name ≠ []) : baseCandidate tr name fb = baseCandidate tr name fb' := by
  unfold baseCandidate
  cases hs : sanitize tr name with
  | nil => exact absurd hs h
  | cons c cs => rfl

end XSM.Codegen

import Xsm.Proofs.Spelling
import Xsm.Proofs.Targets
import Xsm.Model.Plan
/-!
# C18 — config front end: spellings are equivalent, malformed input fails loudly

"All documented spellings of the same thing denote the same machine and behave identically: string vs
object vs one-element-list transitions, 'always' vs the empty-string event, 'cond' vs 'guard', a single
action vs a list vs an object, string vs numeric delay keys, an omitted 'initial' with a single child,
and every target spelling that names the same state (sibling key, dotted path, leading-dot relative,
'#machineId.path', '#customId'). A config the library cannot interpret … is rejected … with an
XStateMachineError subclass naming the offender — never accepted as a machine that silently does
something else, and never surfaced as a raw TypeError, AttributeError or KeyError."

Statements about the executable model of the front end: `Xsm/Model/Parse.lean` (`normalizeTransitions`,
`parseTransList`, `parseTransition`, `parseActions`, `parseStateDef` = `StateNode.__init__` without the
children, `parseState`, `parseMachine` = `create_machine` with an explicit `logic`) and
`Xsm/Model/Resolve.lean` (`resolveTarget` = `resolver.resolve_target_state`, `resolveRobust` = the
engines' multi-stage `_resolve_target_state_node` / `_resolve_target_state_robustly`). The work is in
`Xsm/Proofs/Spelling.lean` and `Xsm/Proofs/Targets.lean`; in particular `parseStateDef_eq` there shows that the model's
`parseStateDef` (one `do` block of a hundred lines) IS the composition of thirteen named blocks, by a
continuation-passing copy that is definitionally equal to it (`parseStateDef_eq_CPS`).

## What is only VALIDATED (differentially, `harness/xsmverif/c18.py`)
* that the model's parser and resolver ARE the code's: `c18_corruptions` (accept/reject + error class
  of `create_machine` on all single-point type corruptions), `c18_targets` (`resolve_target_state` and
  the engines' robust resolution vs `resolveTarget` / `resolveRobust`, every spelling of every
  source/target pair, ambiguous machines included), `c18_spellings` (canonical dump of the parsed
  machine);
* that spellings BEHAVE identically (the theorems say they PARSE identically; behaviour follows in the
  model because the engine sees only the parsed machine; on the real engines it is the monitor of
  `c18_spellings`: equal observations on both engines);
* string vs numeric delay keys: JSON object keys are strings, so the model's `J` cannot even express
  `after: {1000: …}`; the spelling exists for Python dict literals only and is checked on the real code;
* library errors raised at `start()` / first use (`StateNotFoundError`, `ImplementationMissingError`,
  "compound state without initial") are engine behaviour, not `parseMachine`;
* "the error names the offender" (message text is not compared).

## What the model cannot exhibit
* a non-string `target` (the model's `Trans.target : Option String`; `parseTransition` reads a
  non-string as "no target"), a non-string action `type`, an unhashable `invoke.src`: since the fixes
  of F15c, F15d, F15g `create_machine` rejects them with `InvalidConfigError` (before, the truthy ones
  surfaced as raw `TypeError` / `AttributeError` at `send()`); those checks are
  `Xsm/Model/Validate.lean` (`createMachine` = the checks, then `parseMachine`) and no theorem here
  is about them. A guard operand container that is not a list (F15e, fixed likewise): `parseGuard`
  reads it with `ensureList`; excluded from the tie. All four were found by the corruption check on
  the real code.
* the message of an error beyond its class prefix; `logic=None` auto-discovery.
* a declarative characterisation of the accepted configs (`parse_ok_iff_wellShaped` of DESIGN §6) is
  not stated.
-/
namespace XSM.C18
open XSM

/-! ## 1. Transitions: string, object, one-element list -/

/-- *string vs object vs one-element-list transitions*: the four spellings of "go to `t`" are the
same computation of the parser (so the same transitions with the same ids from every parser state) -/
theorem transition_spellings (ev t : String) :
    parseTransList ev (.str t) = parseTransList ev (.obj [("target", .str t)]) ∧
    parseTransList ev (.str t) = parseTransList ev (.arr [.str t]) ∧
    parseTransList ev (.str t) = parseTransList ev (.arr [.obj [("target", .str t)]]) :=
  ⟨parseTransList_congr ev _ _ rfl,
   parseTransList_congr ev _ _ (by rw [normalizeTransitions_str, normalizeTransitions_singleton _ _ rfl]),
   parseTransList_congr ev _ _ (by rw [normalizeTransitions_str, normalizeTransitions_singleton _ _ rfl])⟩

/-- … and what they parse to: exactly one transition, target `t`, no guard, no actions -/
theorem transition_string_parses_to (ev t : String) (s : PState) :
    (parseTransList ev (.str t)).run s =
      .ok ([{ tid := s.nextTid, event := ev, target := some t, guard := none, actions := [], reenter := false,
              forbidden := false }], { s with nextTid := s.nextTid + 1 }) := by
  simp [parseTransList, normalizeTransitions, parseTransition, rawGuardOf, parseGuardOpt, parseActions, J.get?, J.hasKey,
    freshTid, StateT.run, bind, StateT.bind, Except.bind, pure, StateT.pure, Except.pure,
    liftM, monadLift, MonadLift.monadLift, StateT.lift, get, getThe, MonadStateOf.get, StateT.get,
    set, StateT.set, List.mapM_cons]

theorem transition_obj_vs_singleton (ev : String) (kvs : List (String × J)) :
    parseTransList ev (.obj kvs) = parseTransList ev (.arr [.obj kvs]) :=
  parseTransList_congr ev _ _ (by rw [normalizeTransitions_obj, normalizeTransitions_singleton _ _ rfl])

/-- inside a list of candidates, at any position, `"t"` and `{"target": "t"}` are interchangeable -/
theorem transition_list_item (ev t : String) (pre post : List J) :
    parseTransList ev (.arr (pre ++ .str t :: post)) =
      parseTransList ev (.arr (pre ++ .obj [("target", .str t)] :: post)) :=
  parseTransList_congr ev _ _ (normalizeTransitions_item_congr pre post _ _ rfl)

/-- `onDone` reads its value through the same normaliser (and takes the first entry) -/
theorem onDone_obj_vs_singleton (kvs : List (String × J)) :
    normalizeTransitions (.obj kvs) = normalizeTransitions (.arr [.obj kvs]) := by
  rw [normalizeTransitions_obj, normalizeTransitions_singleton _ _ rfl]

/-- malformed items are library errors, never silently dropped -/
example : normalizeTransitions (.arr [.str "a", .num 3]) = .error "InvalidConfigError: invalid transition item in list" := by
  rfl

/-! ## 2. `always` vs the empty-string event -/

/-- *'always' vs the empty-string event*, for configs given by their look-ups (any key order): two
state configs that agree on every key other than `on` / `always`, the first with `on = {kvs}` (or no
`on`) and `always = X`, the second with `on = {kvs, "": X}` and no `always`, have the same definition
— every field, the `on` buckets in the same order, the same transition ids — from every parser state -/
theorem always_is_on_empty_lookup (c1 c2 : J) (sid : String) (path : Path) (isRoot : Bool)
    (kvs : List (String × J)) (X : J)
    (hsame : ∀ k, k ≠ "on" → k ≠ "always" → c1.get? k = c2.get? k)
    (hst : c1.hasKey "states" = c2.hasKey "states")
    (h1on : (c1.get? "on").getD (.obj []) = .obj kvs) (h1al : c1.get? "always" = some X) (hX : X ≠ .null)
    (h2on : c2.get? "on" = some (.obj (kvs ++ [("", X)]))) (h2al : c2.get? "always" = none)
    (hne : ∀ kv ∈ kvs, kv.1 ≠ "") :
    parseStateDef c1 sid path isRoot = parseStateDef c2 sid path isRoot := by
  rw [parseStateDef_eq, parseStateDef_eq]
  refine parseStateDefD_congr c1 c2 sid path isRoot
    (fun k hk => hsame k (fun h => hk (by simp [h])) (fun h => hk (by simp [h]))) hst
    (by rw [hsame "initial" (by simp) (by simp)]) ?_
  rw [h1on, h1al, h2on, h2al]
  exact onAlways_eq kvs X sid hX hne

/-- on concrete syntax: a state `{…, "on": {…}, "always": X}` and the state `{…, "on": {…, "": X}}`;
`kvs0` (the other keys) is arbitrary -/
theorem always_is_on_empty (kvs0 onkvs : List (String × J)) (X : J) (sid : String) (path : Path) (isRoot : Bool)
    (h0 : ∀ kv ∈ kvs0, kv.1 ≠ "on" ∧ kv.1 ≠ "always") (hX : X ≠ .null) (hne : ∀ kv ∈ onkvs, kv.1 ≠ "") :
    parseStateDef (.obj (kvs0 ++ [("on", .obj onkvs), ("always", X)])) sid path isRoot =
    parseStateDef (.obj (kvs0 ++ [("on", .obj (onkvs ++ [("", X)]))])) sid path isRoot := by
  have hon0 := get?_eq_none kvs0 "on" fun kv hkv => (h0 kv hkv).1
  have hal0 := get?_eq_none kvs0 "always" fun kv hkv => (h0 kv hkv).2
  refine always_is_on_empty_lookup _ _ sid path isRoot onkvs X ?_ ?_ ?_ ?_ hX ?_ ?_ hne
  · intro k h1 h2
    simp [get?_append, get?_cons, get?_nil, Ne.symm h1, Ne.symm h2]
  all_goals simp [get?_append, get?_cons, get?_nil, hon0, hal0, J.hasKey]

/-- a state without `on`: `always: X` is `on: {"": X}` -/
theorem always_is_on_empty_no_on (kvs0 : List (String × J)) (X : J) (sid : String) (path : Path) (isRoot : Bool)
    (h0 : ∀ kv ∈ kvs0, kv.1 ≠ "on" ∧ kv.1 ≠ "always") (hX : X ≠ .null) :
    parseStateDef (.obj (kvs0 ++ [("always", X)])) sid path isRoot =
    parseStateDef (.obj (kvs0 ++ [("on", .obj [("", X)])])) sid path isRoot := by
  have hon0 := get?_eq_none kvs0 "on" fun kv hkv => (h0 kv hkv).1
  have hal0 := get?_eq_none kvs0 "always" fun kv hkv => (h0 kv hkv).2
  refine always_is_on_empty_lookup _ _ sid path isRoot [] X ?_ ?_ ?_ ?_ hX ?_ ?_ (by simp)
  · intro k h1 h2
    simp [get?_append, get?_cons, get?_nil, Ne.symm h1, Ne.symm h2]
  all_goals simp [get?_append, get?_cons, get?_nil, hon0, hal0, J.hasKey]

/-- *both present: order*. When `on` already has a `""` bucket with transitions `ts1`, the `always`
transitions `ts2` are appended to THAT bucket, after `ts1`, and the bucket keeps its place -/
theorem always_after_on_empty (pre post : List (String × List Trans)) (ts1 ts2 : List Trans)
    (hpre : ∀ kv ∈ pre, kv.1 ≠ "") (hpost : ∀ kv ∈ post, kv.1 ≠ "") :
    mergeAlways (pre ++ ("", ts1) :: post) ts2 = pre ++ ("", ts1 ++ ts2) :: post :=
  mergeAlways_order pre post ts1 ts2 hpre hpost

/-- `"always": null` is "no always" (it does not forbid anything) -/
theorem always_null_is_absent (on : List (String × List Trans)) : pAlways (some .null) on = pAlways none on := rfl

/-! ## 3. `cond` vs `guard` -/

/-- *'cond' vs 'guard'* (C06 §7): a transition config in which `"cond": g` stands where `"guard": g`
could (no other `guard` / `cond` key) parses to the very same transition -/
theorem cond_eq_guard (ev : String) (pre post : List (String × J)) (g : J)
    (h : ∀ kv ∈ pre ++ post, kv.1 ≠ "guard" ∧ kv.1 ≠ "cond") :
    parseTransition ev (.obj (pre ++ ("cond", g) :: post)) =
      parseTransition ev (.obj (pre ++ ("guard", g) :: post)) := parseTransition_cond ev pre post g h

/-- where the two are NOT interchangeable (known corner F20): an explicit `"guard": null` hides `cond` -/
theorem explicit_null_guard_hides_cond (g : J) :
    parseGuardOpt (rawGuardOf (.obj [("guard", .null), ("cond", g)])) = .ok none := by
  simp [rawGuardOf, J.hasKey, J.get?, parseGuardOpt, pure, Except.pure]

/-! ## 4. Actions: a single action, a list, an object -/

/-- *a single action vs a list vs an object*: for a non-empty name `a` the four spellings `"a"`,
`["a"]`, `{"type": "a"}`, `[{"type": "a"}]` parse to the one action `a` without params -/
theorem action_spellings (a : String) (ha : a ≠ "") :
    parseActions (some (.str a)) = .ok [{ type := a, params := none }] ∧
    parseActions (some (.arr [.str a])) = .ok [{ type := a, params := none }] ∧
    parseActions (some (.obj [("type", .str a)])) = .ok [{ type := a, params := none }] ∧
    parseActions (some (.arr [.obj [("type", .str a)]])) = .ok [{ type := a, params := none }] := by
  refine ⟨?_, ?_, ?_, ?_⟩ <;>
    simp [parseActions, truthy, ensureList, ha, parseAction, J.get?, List.mapM_cons, bind, Except.bind, pure, Except.pure]

/-- a truthy value that is not a list is the one-element list of itself (any action object, with params) -/
theorem action_single_vs_list (a : J) (ht : truthy a = true) (hna : ∀ xs, a ≠ .arr xs) :
    parseActions (some a) = parseActions (some (.arr [a])) := by
  cases a <;> simp_all [parseActions, truthy, ensureList]

/-- inside an action list, at any position, `"a"` and `{"type": "a"}` are interchangeable -/
theorem action_list_item (a : String) (pre post : List J) :
    parseActions (some (.arr (pre ++ .str a :: post))) =
      parseActions (some (.arr (pre ++ .obj [("type", .str a)] :: post))) :=
  parseActions_item_congr pre post _ _ (parseAction_str_obj a)

/-- the corner where "single" and "list" differ: a FALSY single value is "no actions" (`if not config`),
its one-element list is one action -/
theorem action_falsy_corner :
    parseActions (some (.str "")) = .ok [] ∧ parseActions (some (.arr [.str ""])) = .ok [{ type := "", params := none }] ∧
    parseActions (some (.obj [])) = .ok [] ∧
    parseActions (some (.arr [.obj []])) = .ok [{ type := "UnknownAction", params := none }] := by
  refine ⟨?_, ?_, ?_, ?_⟩ <;>
    simp [parseActions, truthy, ensureList, parseAction, J.get?, List.mapM_cons, bind, Except.bind, pure, Except.pure]

/-! ## 5. An omitted `initial` with a single child -/

/-- *an omitted 'initial' with a single child*, for configs given by their look-ups (any key order): a
compound (not parallel) state config without `initial` whose `states` have exactly one non-history
entry `k`, and the same config with `"initial": k`, have the same definition -/
theorem omitted_initial_single_child_lookup (c1 c2 : J) (sid : String) (path : Path) (isRoot : Bool)
    (kids : List (String × J)) (k : String) (ck : J)
    (hsame : ∀ key, key ≠ "initial" → c1.get? key = c2.get? key)
    (hst : c1.hasKey "states" = true) (hst2 : c2.hasKey "states" = true)
    (hstates : c1.get? "states" = some (.obj kids))
    (hnp : c1.get? "type" ≠ some (.str "parallel"))
    (hone : kids.filter (fun kv => !(isHistoryCfg kv.2)) = [(k, ck)])
    (h1 : c1.get? "initial" = none) (h2 : c2.get? "initial" = some (.str k)) :
    parseStateDef c1 sid path isRoot = parseStateDef c2 sid path isRoot := by
  rw [parseStateDef_eq, parseStateDef_eq]
  refine parseStateDefD_congr c1 c2 sid path isRoot (fun k hk => hsame k fun h => hk (by simp [h]))
    (hst.trans hst2.symm) ?_ (by rw [hsame "on" (by simp), hsame "always" (by simp)])
  simp only [h1, h2, pInitialRaw, pure_bind, kindOf_compound c1 hst hnp, statesJOf, hstates, Option.getD_some,
    pInferInitial_single kids k ck _ (Or.inl rfl) hone, pInferInitial_single kids k ck _ (Or.inr rfl) hone]

theorem omitted_initial_single_child (kvs0 kids : List (String × J)) (k : String) (ck : J) (sid : String)
    (path : Path) (isRoot : Bool)
    (h0 : ∀ kv ∈ kvs0, kv.1 ≠ "initial" ∧ kv.1 ≠ "states")
    (hnp : (J.obj kvs0).get? "type" ≠ some (.str "parallel"))
    (hone : kids.filter (fun kv => !(isHistoryCfg kv.2)) = [(k, ck)]) :
    parseStateDef (.obj (kvs0 ++ [("states", .obj kids)])) sid path isRoot =
    parseStateDef (.obj (kvs0 ++ [("initial", .str k), ("states", .obj kids)])) sid path isRoot := by
  have hin0 := get?_eq_none kvs0 "initial" fun kv hkv => (h0 kv hkv).1
  have hst0 := get?_eq_none kvs0 "states" fun kv hkv => (h0 kv hkv).2
  refine omitted_initial_single_child_lookup _ _ sid path isRoot kids k ck ?_ ?_ ?_ ?_ ?_ hone ?_ ?_
  · intro key hk
    by_cases hs : key = "states" <;> simp [get?_append, get?_cons, get?_nil, Ne.symm hk, hs]
  all_goals simp [get?_append, get?_cons, get?_nil, hin0, hst0, hnp, J.hasKey]

/-- a history child does not count: `{h: history, a: {}}` infers `a`; two real children infer nothing -/
example : pInferInitial .compound none (.obj [("h", .obj [("type", .str "history")]), ("a", .obj [])]) = pure (some "a") :=
  rfl
example : pInferInitial .compound none (.obj [("a", .obj []), ("b", .obj [])]) = pure none :=
  rfl

/-! ## 6. Target spellings -/

/-- well-formedness of a target state `p` of machine `m`, as far as spelling it needs: the machine id
is non-empty and dot-free, every key on the path is non-empty, dot-free and does not start with `#`,
and the state exists -/
structure TargetWF (m : Machine) (p : Path) : Prop where
  mid_dotfree : '.' ∉ m.id.toList
  mid_nonempty : m.id ≠ ""
  keys : ∀ k ∈ p, GoodKey k
  exist : (m.root.at p).isSome

/-- *every target spelling that names the same state*: written on source state `src`, each of

* `#<machineId>.<dotted p>`,
* `.<dotted rel>` where `p = parent(src) ++ rel`,
* the plain dotted path `rel` (a sibling key when `rel = [k]`) where `p = q ++ rel` for an
  ancestor-or-self `q` of `src` and nothing nearer captures `rel`,
* `#cid` where `cid` is the custom id registered for `p` (and is not the machine id)

resolves to `p` with the plain resolver (`resolve_target_state`). -/
theorem target_spellings_agree (m : Machine) (src p : Path) (wf : TargetWF m p) :
    resolveTarget m ("#" ++ m.idOf p) src = some p ∧
    (∀ rel, rel ≠ [] → p = parentOf src ++ rel → resolveTarget m ("." ++ relStr rel) src = some p) ∧
    (∀ q d rel, src = q ++ d → p = q ++ rel → rel ≠ [] → (m.root.at src).isSome → NoShadow m q d rel →
        resolveTarget m (relStr rel) src = some p) ∧
    (∀ cid, '.' ∉ cid.toList → cid.toList ≠ [] → cid ≠ m.id →
        m.customIds.find? (fun kv => decide (kv.1 = cid)) = some (cid, p) →
        resolveTarget m ("#" ++ cid) src = some p) := by
  refine ⟨?_, ?_, ?_, ?_⟩
  · exact resolve_abs m p src wf.mid_dotfree wf.mid_nonempty
      (fun k hk => ⟨(wf.keys k hk).2.1, (wf.keys k hk).1⟩) wf.exist
  · intro rel hne hp
    subst hp
    exact resolve_dot m src rel hne (fun k hk => wf.keys k (by simp [hk])) wf.exist
  · intro q d rel hs hp hne hex hns
    subst hs; subst hp
    exact resolve_plain m q d rel hne (fun k hk => wf.keys k (by simp [hk])) wf.exist hex hns
  · intro cid h1 h2 h3 h4
    exact resolve_custom m cid p src h1 h2 h3 h4

/-- … and so do the engines (`_resolve_target_state_node` / `_resolve_target_state_robustly`): their
first attempt is the plain resolver from the source -/
theorem target_spellings_agree_robust (m : Machine) (src p : Path) (wf : TargetWF m p) :
    resolveRobust m src ("#" ++ m.idOf p) = some p ∧
    (∀ rel, rel ≠ [] → p = parentOf src ++ rel → resolveRobust m src ("." ++ relStr rel) = some p) ∧
    (∀ q d rel, src = q ++ d → p = q ++ rel → rel ≠ [] → (m.root.at src).isSome → NoShadow m q d rel →
        resolveRobust m src (relStr rel) = some p) ∧
    (∀ cid, '.' ∉ cid.toList → cid.toList ≠ [] → cid ≠ m.id →
        m.customIds.find? (fun kv => decide (kv.1 = cid)) = some (cid, p) →
        resolveRobust m src ("#" ++ cid) = some p) := by
  obtain ⟨h1, h2, h3, h4⟩ := target_spellings_agree m src p wf
  exact ⟨robust_of_direct _ _ _ _ h1,
    fun rel a b => robust_of_direct _ _ _ _ (h2 rel a b),
    fun q d rel a b c e f => robust_of_direct _ _ _ _ (h3 q d rel a b c e f),
    fun cid a b c e => robust_of_direct _ _ _ _ (h4 cid a b c e)⟩

/-- The default `target` of a history pseudo-state is resolved at a call site of its own
(`_resolve_history_target`), FROM THE HISTORY NODE: when nothing is remembered for the parent, a default target
string that the plain resolver maps to `p` from the history node's path makes the history node stand for exactly
`[p]` - whatever the parent's `initial` says -/
theorem history_default_enters_named_state (m : Machine) (hist : List (Path × List Path)) (h p : Path)
    (hn pn : SNode) (t : String) (hh : m.root.at h = some hn) (hp : m.root.at h.dropLast = some pn)
    (hrem : ((hist.find? (fun kv => kv.1 = h.dropLast)).map (·.2)).getD [] = [])
    (ht : hn.d.historyTarget = some t) (hne : t ≠ "") (hres : resolveTarget m t h = some p) :
    resolveHistoryTarget m hist h = [p] := by
  unfold resolveHistoryTarget
  simp only [hh, hp, hrem, ht, hne, hres, List.isEmpty_nil, if_true, if_false]

/-- … so every spelling of the default target that names `p` (as `target_spellings_agree` lists them, read from the
history node `h`: `#machine.path`, leading dot relative to the history node's PARENT, plain dotted path from an
ancestor-or-self without shadowing, `#customId`) makes an unvisited history node stand for `[p]` -/
theorem history_default_spellings_agree (m : Machine) (hist : List (Path × List Path)) (h p : Path)
    (hn pn : SNode) (t : String) (wf : TargetWF m p) (hh : m.root.at h = some hn) (hp : m.root.at h.dropLast = some pn)
    (hrem : ((hist.find? (fun kv => kv.1 = h.dropLast)).map (·.2)).getD [] = [])
    (ht : hn.d.historyTarget = some t) (hne : t ≠ "")
    (hspell : t = "#" ++ m.idOf p ∨
      (∃ rel, rel ≠ [] ∧ p = parentOf h ++ rel ∧ t = "." ++ relStr rel) ∨
      (∃ q d rel, h = q ++ d ∧ p = q ++ rel ∧ rel ≠ [] ∧ NoShadow m q d rel ∧ t = relStr rel) ∨
      (∃ cid, '.' ∉ cid.toList ∧ cid.toList ≠ [] ∧ cid ≠ m.id ∧
        m.customIds.find? (fun kv => decide (kv.1 = cid)) = some (cid, p) ∧ t = "#" ++ cid)) :
    resolveHistoryTarget m hist h = [p] := by
  obtain ⟨h1, h2, h3, h4⟩ := target_spellings_agree m h p wf
  refine history_default_enters_named_state m hist h p hn pn t hh hp hrem ht hne ?_
  rcases hspell with e | ⟨rel, a, b, e⟩ | ⟨q, d, rel, a, b, c, f, e⟩ | ⟨cid, a, b, c, f, e⟩
  · rw [e]; exact h1
  · rw [e]; exact h2 rel a b
  · rw [e]; exact h3 q d rel a b c (by simp [hh]) f
  · rw [e]; exact h4 cid a b c f

/-- *sibling key*: from source `par ++ [s]`, the key `k ≠ s` of a sibling names that sibling, provided
the source has no child keyed `k` itself -/
theorem sibling_key_resolves (m : Machine) (par : Path) (s k : String) (wf : TargetWF m (par ++ [k]))
    (hsrc : (m.root.at (par ++ [s])).isSome) (hks : k ≠ s) (hchild : m.root.at (par ++ [s] ++ [k]) = none) :
    resolveTarget m k (par ++ [s]) = some (par ++ [k]) := by
  have hrel : relStr [k] = k := by simp [relStr, relL, String.ofList_toList]
  have := (target_spellings_agree m (par ++ [s]) (par ++ [k]) wf).2.2.1 par [s] [k] rfl rfl (by simp) hsrc (by
    intro d' hd' hne'
    have : d' = [s] := by
      rcases List.prefix_iff_eq_take.1 hd' with h
      cases d' with
      | nil => exact absurd rfl hne'
      | cons x xs =>
        cases xs with
        | nil => simp at h; simp [h]
        | cons y ys => have := hd'.length_le; simp at this
    subst this
    refine ⟨hchild, ?_⟩
    simp [Machine.keyOf, hks])
  rw [hrel] at this
  exact this

/-- `#customId.<dotted rel>`: relative to the state that declared the custom id -/
theorem custom_id_relative (m : Machine) (cid : String) (anchor rel ref : Path) (hcd : '.' ∉ cid.toList)
    (hcne : cid.toList ≠ []) (hnm : cid ≠ m.id) (hne : rel ≠ []) (hg : ∀ k ∈ rel, '.' ∉ k.toList ∧ k.toList ≠ [])
    (hreg : m.customIds.find? (fun kv => decide (kv.1 = cid)) = some (cid, anchor))
    (hex : (m.root.at (anchor ++ rel)).isSome) :
    resolveTarget m ("#" ++ String.ofList (cid.toList ++ idTail rel)) ref = some (anchor ++ rel) :=
  resolve_custom_rel m cid anchor rel ref hcd hcne hnm hne hg hreg hex

/-- the key of the source state, or of one of its ancestors, written as a plain target -/
theorem own_or_ancestor_key_resolves (m : Machine) (q0 : Path) (k : String) (d : Path) (hk : GoodKey k)
    (hex : (m.root.at (q0 ++ [k] ++ d)).isSome) (hns : NoShadow m (q0 ++ [k]) d [k])
    (hchild : m.root.at (q0 ++ [k] ++ [k]) = none) :
    resolveTarget m k (q0 ++ [k] ++ d) = some (q0 ++ [k]) :=
  resolve_key m q0 k d hk hex hns hchild

theorem dot_is_parent (m : Machine) (src : Path) : resolveTarget m "." src = some (parentOf src) :=
  resolve_dot_alone m src

/-! ### the hypotheses are needed: counterexamples -/

def leafDef : StateDef :=
  { kind := .atomic, initial := none, entry := [], exit := [], on := [], onDone := none, after := [],
    invoke := [], deep := false, historyTarget := none, customId := none, tags := [] }

def compoundDef (i : String) : StateDef := { leafDef with kind := .compound, initial := some i }

/-- `m` ⊃ `a` ⊃ `b`, and `m` ⊃ `b`: the source `a` has a child keyed like its sibling -/
def shadowMachine : Machine :=
  { id := "m", maxIterations := 10, customIds := [],
    root := .mk (compoundDef "a") [("a", .mk (compoundDef "b") [("b", .mk leafDef [])]), ("b", .mk leafDef [])] }

/-- *ambiguity makes spellings differ* (`NoShadow` is needed): written on `a`, the sibling key `b` names
`a.b` (a child of the source is found first), `#m.b` and `.b` name the sibling -/
theorem shadowed_sibling_differs :
    resolveTarget shadowMachine "b" ["a"] = some ["a", "b"] ∧
    resolveTarget shadowMachine "#m.b" ["a"] = some ["b"] ∧
    resolveTarget shadowMachine ".b" ["a"] = some ["b"] := by decide +kernel

/-- a state `x` that declares `id: "m"` in a machine called `m` -/
def cidMachine : Machine :=
  { id := "m", maxIterations := 10, customIds := [("m", ["x"])],
    root := .mk (compoundDef "x") [("x", .mk { leafDef with customId := some "m" } [])] }

/-- *custom id ≠ machine id is needed*: `#m` is the machine root, not the state that declared `id: "m"` -/
theorem custom_id_equal_machine_id_differs :
    cidMachine.customIds.find? (fun kv => decide (kv.1 = "m")) = some ("m", ["x"]) ∧
    resolveTarget cidMachine "#m" [] = some [] := by decide +kernel

/-- a state keyed `v1.0` (accepted by the parser when there is no sibling `v1`) -/
def dottedMachine : Machine :=
  { id := "m", maxIterations := 10, customIds := [],
    root := .mk (compoundDef "v1.0") [("v1.0", .mk leafDef []), ("w", .mk leafDef [])] }

/-- *dot-free keys are needed*: the state exists, none of its "spellings" reaches it -/
theorem dotted_key_unreachable :
    (dottedMachine.root.at ["v1.0"]).isSome = true ∧
    resolveTarget dottedMachine "#m.v1.0" ["w"] = none ∧ resolveTarget dottedMachine "v1.0" ["w"] = none ∧
    resolveTarget dottedMachine ".v1.0" ["w"] = none := by decide +kernel

/-- a state keyed like the machine -/
def selfKeyMachine : Machine :=
  { id := "m", maxIterations := 10, customIds := [],
    root := .mk (compoundDef "a") [("a", .mk leafDef []), ("m", .mk leafDef [])] }

/-- *no key equal to the machine id*: the plain spelling `m` of the root names the state keyed `m` -/
theorem key_equal_machine_id_differs :
    resolveTarget selfKeyMachine "m" ["a"] = some ["m"] ∧ resolveTarget selfKeyMachine "#m" ["a"] = some [] := by decide +kernel

/-- the hypotheses of `target_spellings_agree` are satisfiable: `b`, seen from `a.b`'s parent `a`, in
`shadowMachine`, through all spellings that apply -/
theorem shadowMachine_b_wf : TargetWF shadowMachine ["b"] :=
  ⟨by decide, by decide, fun k hk => by simp at hk; subst hk; exact ⟨by decide, by decide, by decide⟩, by decide⟩
example : resolveTarget shadowMachine ("#" ++ shadowMachine.idOf ["b"]) ["a", "b"] = some ["b"] :=
  (target_spellings_agree shadowMachine ["a", "b"] ["b"] shadowMachine_b_wf).1
/-- … and the sibling key `b` does name `b` when written on `b`'s sibling-free side: from the ROOT's
child `b` itself upward nothing shadows (source `["b"]`, `q = []`, `d = ["b"]`) -/
example : resolveTarget shadowMachine "b" ["b"] = some ["b"] := by decide +kernel

/-- `m` ⊃ `start`, `m` ⊃ `on` ⊃ {`low` (initial), `high`, `hist` (history, default target `.high`)} -/
def histDefaultMachine : Machine :=
  { id := "m", maxIterations := 10, customIds := [],
    root := .mk (compoundDef "start") [("start", .mk leafDef []),
      ("on", .mk (compoundDef "low") [("low", .mk leafDef []), ("high", .mk leafDef []),
        ("hist", .mk { leafDef with kind := .history, historyTarget := some ".high" } [])])] }

/-- the hypotheses of `history_default_enters_named_state` are satisfiable, and its conclusion is not what the
parent's `initial` (or a resolution from the PARENT, one level too high) would give: the unvisited history node
stands for `on.high`; read from the parent `on`, `.high` names nothing -/
theorem history_default_example :
    resolveHistoryTarget histDefaultMachine [] ["on", "hist"] = [["on", "high"]] ∧
    resolveTarget histDefaultMachine ".high" ["on", "hist"] = some ["on", "high"] ∧
    resolveTarget histDefaultMachine ".high" ["on"] = none := by decide +kernel

/-! ## 7. Malformed input: errors are library errors -/

/-- *rejected … with an XStateMachineError subclass … never a raw TypeError / AttributeError*: every
error the model's `parseMachine` returns is an `InvalidConfigError`. The second alternative is never
needed: the strings of `rawErrors` (the sites of findings F15a, F15b, F15f, all fixed) are library
errors too (`former_raw_errors_are_library_errors`), so this is `all_errors_are_library_errors`. -/
theorem errors_are_library_errors (cfg : J) (e : PErr) (h : parseMachine cfg = .error e) :
    LibErr e ∨ e ∈ rawErrors :=
  Or.inl (parseMachine_ErrOK cfg e h)

/-- at the sites of `rawErrors` the library raised raw Python exceptions (`AttributeError`, `TypeError`,
`ValueError`) until the `fix:` commits for findings F15a, F15b, F15f; it raises `InvalidConfigError`
there now, and each of the four messages is a library error -/
theorem former_raw_errors_are_library_errors : ∀ e ∈ rawErrors, LibErr e :=
  rawErrors_LibErr

/-- **every error of the model's `parseMachine` is a library `InvalidConfigError`** — no exception left -/
theorem all_errors_are_library_errors (cfg : J) (e : PErr) (h : parseMachine cfg = .error e) : LibErr e :=
  parseMachine_ErrOK cfg e h

theorem library_error_names_its_class (e : PErr) (h : LibErr e) :
    ("InvalidConfigError: ".toList).isPrefixOf e.toList = true := h

/-- `rawErrors`, spelled out: each message starts with the class name -/
theorem raw_errors_listed :
    rawErrors = ["InvalidConfigError: machine configuration must be a dictionary",
                 "InvalidConfigError: invalid 'maxIterations' (not a number)",
                 "InvalidConfigError: invalid 'maxIterations' (not an integer literal)",
                 "InvalidConfigError: invalid 'states' value (not an object)"] := rfl

/-- one state's own definition: library errors only — the message `_parse_initial` raises where it
raised `AttributeError` before the fix of F15f is one of them, so the second alternative is never needed -/
theorem state_errors (cfg : J) (sid : String) (path : Path) (isRoot : Bool) (s : PState) (e : PErr)
    (h : (parseStateDef cfg sid path isRoot).run s = .error e) : LibErr e ∨ e = "InvalidConfigError: invalid 'states' value (not an object)" :=
  Or.inl (parseStateDef_ErrOK cfg sid path isRoot s e h)

/-- transitions, actions and guards on their own only ever fail with library errors -/
theorem transition_errors (ev : String) (cfg : J) (s : PState) (e : PErr)
    (h : (parseTransList ev cfg).run s = .error e) : LibErr e :=
  parseTransList_ErrOK ev cfg s e h

/-- F15a (fixed): a config that is not an object is rejected as such; before the fix
`create_machine(None)` raised `AttributeError` -/
theorem raw_non_dict_config (cfg : J) (h : ∀ kvs, cfg ≠ .obj kvs) :
    parseMachine cfg = .error "InvalidConfigError: machine configuration must be a dictionary" := by
  rw [parseMachine_eq_blocks]
  cases cfg <;> first | rfl | exact absurd rfl (h _)

/-- F15b (fixed): a `maxIterations` that `int()` cannot convert is rejected with `InvalidConfigError`;
before the fix the `TypeError` (null, list, dict) or `ValueError` (non-numeric string) of `int()` escaped -/
theorem raw_max_iterations (kvs : List (String × J)) (mid : String) (v : J) (hid : (J.obj kvs).get? "id" = some (.str mid))
    (hmid : mid ≠ "") (hst : (J.obj kvs).hasKey "states" = true) (hctx : (J.obj kvs).get? "context" = none)
    (hv : (J.obj kvs).get? "maxIterations" = some v) :
    (v = .null ∨ (∃ xs, v = .arr xs) ∨ (∃ o, v = .obj o) →
      parseMachine (.obj kvs) = .error "InvalidConfigError: invalid 'maxIterations' (not a number)") ∧
    (∀ s, v = .str s → pyIntOfStr s = none →
      parseMachine (.obj kvs) = .error "InvalidConfigError: invalid 'maxIterations' (not an integer literal)") := by
  constructor
  · intro hcase
    rw [parseMachine_eq_blocks]
    simp only [mObjK, mIdK, hid, hmid, if_false, pure_bind, mStatesK, hst, Bool.not_true, Bool.false_eq_true, mCtxK, hctx,
      mMaxItK, hv]
    rcases hcase with rfl | ⟨xs, rfl⟩ | ⟨o, rfl⟩ <;> rfl
  · intro s hs hnone
    subst hs
    rw [parseMachine_eq_blocks]
    simp only [mObjK, mIdK, hid, hmid, if_false, pure_bind, mStatesK, hst, Bool.not_true, Bool.false_eq_true, mCtxK, hctx,
      mMaxItK, hv, hnone]
    rfl

/-- F15f (fixed): a compound state whose `states` is not an object and that has no `initial` is
rejected by `_parse_initial`, which runs before the shape validation; before the fix its `.items()`
raised `AttributeError` -/
theorem raw_states_not_a_dict (kind : Kind) (ir : Option String) (st : J) (hk : kind = .compound)
    (hir : ir = none ∨ ir = some "") (hst : ∀ kvs, st ≠ .obj kvs) :
    pInferInitial kind ir st = throw "InvalidConfigError: invalid 'states' value (not an object)" := by
  subst hk
  rcases hir with rfl | rfl <;> (cases st <;> first | rfl | exact absurd rfl (hst _))

/-- … while with an explicit `initial` the same malformed `states` IS reported as a library error
(by the shape validation that comes later) -/
example : (pKids (.num 0) "m.a") = throw "InvalidConfigError: state 'm.a' has an invalid 'states' value" := by
  simp [pKids, toString]

end XSM.C18

import Xsm.Proofs.Select
/-!
# C02 — transition selection

"For an event delivered in a given configuration each active atomic state nominates at most one
transition: the first candidate in declaration order whose guard passes, taken from the nearest
ancestor-or-self that has any enabled candidate for that event; exactly the nominated transitions
fire (one declared on an ancestor shared by several regions fires once, and one whose source was
exited by an earlier winner of the same step is skipped), and no other transition's actions run.
An event with no nominee is a no-op, and `can(event)` is true exactly when a nominee exists while
itself changing nothing."

Statements about the executable model (`Xsm/Model/Select.lean`, `Engine.processEvent`); helper
definitions and lemmas live in `Xsm/Proofs/SelSound.lean` (the upward walk) and
`Xsm/Proofs/Select.lean`. Everything is for arbitrary machines,
configurations, guard environments and guard caches; nothing bounds the size or depth of the tree.

Vocabulary:
* `gOf m cfg env t` — the value of `t`'s guard (`false` when evaluating it raises);
* `TidOK m` — declared transitions with the same identity have the same guard (the parser hands out
  fresh identities; `tidOK_of_nodup` is a checkable sufficient condition). Needed only where a
  statement speaks about *guards*: the model, like the code, memoises guard results by identity;
* `enabledAt g src ts` — the members of `ts` whose guard passes, in order, as candidates of `src`;
* `onTrans d keys` — the `on` lists of the matching descriptors, concatenated, most specific first;
  `bucketTrans d ev itc` — eventless bucket (only when `itc`), `onDone`, `after`, invoke handlers;
* `DeclT m t` — `t` is declared on some state of `m`; `Agree g T c` — what the guard cache `c` holds
  under the identity of a transition `t` in `T`, if anything, is `g t`;
* `nodeSpec g m ev itc iet cur` — candidates contributed by state `cur` and whether the walk stops;
  `chainSpec` — their concatenation along a list of states; `nomineeSpec` — its head;
  `eligSpec g m ev leaf` / `nomineeOf g m ev leaf` — `chainSpec` / `nomineeSpec` along `chainUp leaf`
  (the leaf and its ancestors, upward), with `itc` / `iet` as the event determines them;
* `eligLoop` — the eligible lists of the leaves with the guard cache threaded as in `selectLoop`;
  `winnersOf es` — the first deepest-source member of each non-empty list;
* `dedupSeen seen ws` — drop a candidate whose identity was seen, keeping first occurrences;
  `geKey key` — the order "`key a ≥ key b`" the stable sort uses;
* `firedOf h fl m ev multi sel s` — the members of `sel` that `processEvent` really executes;
* `tidsOf r` (examples only) — the identities of a selection result, `none` if selection raised.

The `example`s use the machine `XSM.SelEx.exM` (end of `Xsm/Proofs/Select.lean`, with what it does on each
event: `exM_F`, `exM_E`, `exM_K`, `exM_X`), in configuration
`exCfg = {m, P, A, a1, B, b1}`; `exEnv` implements guard `g1` as false, `exEnvMissing` not at all:
```
m (compound, initial P)
├─ P (parallel)   on E: t0    on K: t8
│  ├─ A (compound, initial a1)   on F: t6
│  │  ├─ a1   on F: [t1 (guard g1), t2]   on X: t4 → #m.Q   on K: t7 (forbidden)
│  │  └─ a2
│  └─ B (compound, initial b1)
│     └─ b1   on F: t3   on X: t5
└─ Q
```
-/
namespace XSM.C02
open XSM XSM.SelEx

/-! ## 1. candidate order along the chain -/

/-- *Clause "the first candidate in declaration order whose guard passes, taken from the nearest
    ancestor-or-self" — the list it is taken from.* Whenever the walk from `leaf` does not raise, the
    eligible list is `chainSpec`: node contributions concatenated from `leaf` upward. (`c0` is any
    guard cache that agrees with the guards, e.g. `[]` — `agree_nil` — or the cache left by the
    walks of earlier leaves.) -/
theorem chain_order (m : Machine) (cfg : List Path) (env : GEnv) (htid : TidOK m) (leaf : Path) (ev : Ev)
    (c0 : GCache) (hc0 : Agree (gOf m cfg env) (DeclT m) c0) (elig : List Cand) (c1 : GCache)
    (h : collectEligible m cfg env leaf ev c0 = .ok (elig, c1)) :
    elig = chainSpec (gOf m cfg env) m ev (itcOf ev) (ietOf ev) (chainUp leaf) ∧
      Agree (gOf m cfg env) (DeclT m) c1 :=
  collectChain_spec (oracleOK_gOf m cfg env htid) (declT_cover m) hc0 (collectEligible_eq .. ▸ h)

/-- the hypotheses are met on `exM`: identities are pairwise distinct, the empty cache agrees -/
example : TidOK exM := tidOK_of_nodup exM (by decide +kernel)
example : Agree (gOf exM exCfg exEnv) (DeclT exM) [] := agree_nil _ _
/-- `a1`'s eligible list for `F` is `[t2@a1, t6@A]` (`t1`'s guard fails), and so says `chainSpec` -/
example : (match collectEligible exM exCfg exEnv ["P", "A", "a1"] (.user "F") [] with
    | .ok (elig, _) => some (elig.map (fun c => (c.t.tid, c.src.length))) | .error _ => none) =
      some [(2, 3), (6, 2)] := by
  -- this `match` and the one of `exM_F` are two auxiliary functions: compared on the closed run the elaborator would
  -- evaluate it, on a variable they unfold to the same `casesOn`
  have h := exM_F.1.1
  generalize collectEligible exM exCfg exEnv ["P", "A", "a1"] (.user "F") [] = r at h ⊢
  exact h
example : (eligSpec (gOf exM exCfg exEnv) exM (.user "F") ["P", "A", "a1"]).map (·.t.tid) = [2, 6] :=
  exM_F.1.2.1

/-- *The concatenation, and where it stops:* a state that is missing or blocks ends the list. -/
theorem chain_concat (g : Trans → Bool) (m : Machine) (ev : Ev) (itc iet : Bool) (cur : Path) (ups : List Path) :
    chainSpec g m ev itc iet (cur :: ups) =
      if (nodeSpec g m ev itc iet cur).2 then (nodeSpec g m ev itc iet cur).1
      else (nodeSpec g m ev itc iet cur).1 ++ chainSpec g m ev itc iet ups := rfl

/-- *Candidate order inside one state:* the `on` lists of the matching descriptors (most specific
    first, each in declaration order) up to the first forbidden transition; if none is forbidden, then
    the eventless bucket (ordinary events only), `onDone`, `after`, invoke handlers. A forbidden
    transition stops the walk: nothing further from this state nor from any ancestor. -/
theorem node_order (g : Trans → Bool) (m : Machine) (ev : Ev) (itc iet : Bool) (cur : Path) (d : StateDef)
    (hd : m.defAt cur = some d) :
    nodeSpec g m ev itc iet cur =
      (if (onPart g cur d ev iet).2 then ((onPart g cur d ev iet).1, true)
       else ((onPart g cur d ev iet).1 ++ enabledAt g cur (bucketTrans d ev itc), false)) ∧
    onPart g cur d ev iet =
      (if iet then ([], false)
       else
        (enabledAt g cur ((onTrans d (matchingDescriptors (d.on.map (·.1)) ev.type)).takeWhile
            (fun t => !t.forbidden)),
         (onTrans d (matchingDescriptors (d.on.map (·.1)) ev.type)).any (fun t => t.forbidden))) := by
  refine ⟨nodeSpec_some hd, ?_⟩
  unfold onPart
  split
  · rfl
  · exact walkSpec_eq _ _ _

/-- `a1` forbids `K`: its contribution is empty and the walk stops there -/
example : ((nodeSpec (gOf exM exCfg exEnv) exM (.user "K") true false ["P", "A", "a1"]).1.map (·.t.tid),
    (nodeSpec (gOf exM exCfg exEnv) exM (.user "K") true false ["P", "A", "a1"]).2) = ([], true) :=
  exM_K.1

/-- *Every candidate's source is the state it was declared on, its guard passes, and that state is on
    the leaf's chain.* -/
theorem node_src (g : Trans → Bool) (m : Machine) (ev : Ev) (itc iet : Bool) (cur : Path) (c : Cand)
    (h : c ∈ (nodeSpec g m ev itc iet cur).1) :
    c.src = cur ∧ g c.t = true ∧ ∃ d, m.defAt cur = some d ∧ c.t ∈ allTrans d :=
  nodeSpec_src h

/-- The same without any hypothesis on identities: whatever the cache, what the walk yields is
    declared on a state of the chain (an ancestor-or-self of the leaf). -/
theorem chain_src (m : Machine) (cfg : List Path) (env : GEnv) (leaf : Path) (ev : Ev)
    (c0 : GCache) (elig : List Cand) (c1 : GCache)
    (h : collectEligible m cfg env leaf ev c0 = .ok (elig, c1)) :
    ∀ c ∈ elig, c.src <+: leaf ∧ Declared m c := by
  intro c hc
  obtain ⟨h1, h2⟩ := collectChain_sound (collectEligible_eq .. ▸ h) c hc
  exact ⟨mem_chainUp_iff.1 h1, h2⟩

/-- *Sources appear with non-increasing depth along the eligible list* (no hypothesis at all). -/
theorem chain_depth_antitone (m : Machine) (cfg : List Path) (env : GEnv) (leaf : Path) (ev : Ev)
    (c0 : GCache) (elig : List Cand) (c1 : GCache)
    (h : collectEligible m cfg env leaf ev c0 = .ok (elig, c1)) :
    List.Pairwise (fun a b => b.src.length ≤ a.src.length) elig :=
  collectEligible_antitone h

example : (eligSpec (gOf exM exCfg exEnv) exM (.user "F") ["P", "A", "a1"]).map (·.src.length) = [3, 2] :=
  exM_F.1.2.2

/-! ## 2. the nominee of one leaf -/

/-- *`max(eligible, key=depth)` keeps the first maximum:* `firstMaxBy f l = some w` exactly when `w`
    sits in `l` with everything before it strictly smaller and nothing after it bigger. -/
theorem firstMaxBy_spec (f : Cand → Nat) (l : List Cand) (w : Cand) :
    firstMaxBy f l = some w ↔
      ∃ pre post, l = pre ++ w :: post ∧ (∀ x ∈ pre, f x < f w) ∧ (∀ x ∈ post, f x ≤ f w) := by
  constructor
  · intro h
    cases l with
    | nil => cases h
    | cons x xs =>
      obtain ⟨pre, w', post, e, h1, h2⟩ := exists_firstMax f x xs
      rw [e, firstMaxBy_of_split f h1 h2, Option.some.injEq] at h
      exact ⟨pre, post, h ▸ e, h ▸ h1, h ▸ h2⟩
  · rintro ⟨pre, post, rfl, h1, h2⟩
    exact firstMaxBy_of_split f h1 h2

/-- consequence: the winner is a member and attains the maximum -/
theorem firstMaxBy_max (f : Cand → Nat) (l : List Cand) (w : Cand) (h : firstMaxBy f l = some w) :
    w ∈ l ∧ ∀ x ∈ l, f x ≤ f w := by
  obtain ⟨pre, post, rfl, h1, h2⟩ := (firstMaxBy_spec f l w).1 h
  refine ⟨by simp, ?_⟩
  intro x hx
  simp only [List.mem_append, List.mem_cons] at hx
  rcases hx with hx | rfl | hx
  · exact Nat.le_of_lt (h1 x hx)
  · exact Nat.le_refl _
  · exact h2 x hx

/-- *Clause "each active atomic state nominates at most one transition: the first candidate …".*
    Because depth never increases along the eligible list, "deepest source, first among equals" is
    just the FIRST eligible candidate (no hypothesis on the machine). -/
theorem nominee_is_head (m : Machine) (cfg : List Path) (env : GEnv) (leaf : Path) (ev : Ev)
    (c0 : GCache) (elig : List Cand) (c1 : GCache)
    (h : collectEligible m cfg env leaf ev c0 = .ok (elig, c1)) :
    firstMaxBy (fun x => x.src.length) elig = elig.head? :=
  collectEligible_winner h

/-- *… "whose guard passes, taken from the nearest ancestor-or-self that has any enabled
    candidate".* The winner of `leaf` is `nomineeOf … leaf`, i.e. `nomineeSpec` along `chainUp leaf`;
    `nominee_nearest` below unfolds `nomineeSpec` one state at a time. -/
theorem nominee_spec (m : Machine) (cfg : List Path) (env : GEnv) (htid : TidOK m) (leaf : Path) (ev : Ev)
    (c0 : GCache) (hc0 : Agree (gOf m cfg env) (DeclT m) c0) (elig : List Cand) (c1 : GCache)
    (h : collectEligible m cfg env leaf ev c0 = .ok (elig, c1)) :
    firstMaxBy (fun x => x.src.length) elig = nomineeOf (gOf m cfg env) m ev leaf := by
  rw [(chain_order m cfg env htid leaf ev c0 hc0 elig c1 h).1]
  exact firstMaxBy_eligSpec _ m ev leaf

example : (nomineeOf (gOf exM exCfg exEnv) exM (.user "F") ["P", "A", "a1"]).map (·.t.tid) = some 2 :=
  exM_F.2.1
/-- nothing enabled on `b1` or `B` for `E`: the nominee comes from `P` -/
example : (nomineeOf (gOf exM exCfg exEnv) exM (.user "E") ["P", "B", "b1"]).map (fun c => (c.t.tid, c.src)) =
    some (0, ["P"]) := exM_E.1

/-- *"nearest … that has any":* going up from the leaf, the first state with a non-empty contribution
    supplies its first candidate; a state with an empty contribution passes the search on to its
    parent unless it blocks (forbidden transition) or does not exist. -/
theorem nominee_nearest (g : Trans → Bool) (m : Machine) (ev : Ev) (itc iet : Bool) (cur : Path) (ups : List Path) :
    nomineeSpec g m ev itc iet (cur :: ups) =
      match (nodeSpec g m ev itc iet cur).1 with
      | w :: _ => some w
      | [] => if (nodeSpec g m ev itc iet cur).2 then none else nomineeSpec g m ev itc iet ups := rfl

/-! ## 3. the selected set -/

/-- *Selection factored* (no hypothesis; covers the raising case too): per-leaf eligible lists in
    `leavesSorted` order with one guard cache shared by all leaves, the winner of each non-empty list,
    duplicates (same identity) removed keeping the first, stable sort by descending source depth. -/
theorem select_factored (m : Machine) (cfg : List Path) (env : GEnv) (ev : Ev) :
    selectTransitions m cfg env ev =
      match eligLoop m cfg env ev (leavesSorted m cfg) [] with
      | .error e => .error e
      | .ok es => .ok (sortBy (geKey (fun c : Cand => c.src.length)) (dedupSeen [] (winnersOf es))) :=
  selectTransitions_eq m cfg env ev

/-- *`select_dedup`, closed form:* the selected list is the nominees of the active leaves, in
    `leavesSorted` order, de-duplicated keeping the first, stably sorted deepest-source-first. -/
theorem select_dedup (m : Machine) (cfg : List Path) (env : GEnv) (ev : Ev) (htid : TidOK m)
    (sel : List Cand) (h : selectTransitions m cfg env ev = .ok sel) :
    sel = sortBy (geKey (fun c : Cand => c.src.length))
      (dedupSeen [] ((leavesSorted m cfg).filterMap (nomineeOf (gOf m cfg env) m ev))) := by
  rw [selectTransitions_eq] at h
  cases he : eligLoop m cfg env ev (leavesSorted m cfg) [] with
  | error e => simp [he] at h
  | ok es =>
    simp only [he, Except.ok.injEq] at h
    subst h
    rw [eligLoop_spec (oracleOK_gOf m cfg env htid) (declT_cover m) ev _ [] es (agree_nil _ _) he, winnersOf,
      List.filterMap_map]
    congr 3
    exact funext fun leaf => firstMaxBy_eligSpec _ m ev leaf

/-- the two active leaves, deepest first then by id; one nominee per region for `F` -/
example : leavesSorted exM exCfg = [["P", "A", "a1"], ["P", "B", "b1"]] := exM_F.2.2.1
example : tidsOf (selectTransitions exM exCfg exEnv (.user "F")) = some [2, 3] := exM_F.2.2.2
/-- `a1` forbids `K` (it nominates nothing) but `b1`'s walk still reaches `P` -/
example : nomineeOf (gOf exM exCfg exEnv) exM (.user "K") ["P", "A", "a1"] = none := exM_K.2.1
example : tidsOf (selectTransitions exM exCfg exEnv (.user "K")) = some [8] := exM_K.2.2

/-- what "de-duplicated keeping the first" means: a sub-list (order kept), no identity twice, every
    identity still represented -/
theorem dedup_facts (ws : List Cand) :
    (dedupSeen [] ws).Sublist ws ∧ (dedupSeen [] ws).Pairwise (fun a b => a.t.tid ≠ b.t.tid) ∧
      ∀ w ∈ ws, ∃ x ∈ dedupSeen [] ws, x.t.tid = w.t.tid := by
  obtain ⟨h1, _, h3, h4⟩ := dedupSeen_spec ws []
  exact ⟨h1, h3, fun w hw => (h4 w hw).resolve_left List.not_mem_nil⟩

/-- what "stable sort by descending depth" means: a permutation, sorted, and candidates of equal depth
    keep their relative order -/
theorem sort_facts (l : List Cand) :
    (sortBy (geKey (fun c : Cand => c.src.length)) l).Perm l ∧
    (sortBy (geKey (fun c : Cand => c.src.length)) l).Pairwise (fun a b => b.src.length ≤ a.src.length) ∧
    ∀ k, (sortBy (geKey (fun c : Cand => c.src.length)) l).filter (fun c => c.src.length = k) =
      l.filter (fun c => c.src.length = k) :=
  ⟨sortBy_perm _ l, sortBy_geKey_sorted _ l, fun k => sortBy_stable (fun c : Cand => c.src.length) k l⟩

/-- *Every selected candidate is some active leaf's nominee* (no hypothesis): it is the head of the
    eligible list of a leaf of the configuration. -/
theorem selected_is_nominee (m : Machine) (cfg : List Path) (env : GEnv) (ev : Ev)
    (sel : List Cand) (h : selectTransitions m cfg env ev = .ok sel) :
    ∀ c ∈ sel, ∃ leaf ∈ leavesSorted m cfg, ∃ c0 elig c1,
      collectEligible m cfg env leaf ev c0 = .ok (elig, c1) ∧ elig.head? = some c :=
  selectTransitions_mem h

/-- *Clause "one declared on an ancestor shared by several regions fires once".* No identity is
    selected twice (no hypothesis) … -/
theorem selected_nodup (m : Machine) (cfg : List Path) (env : GEnv) (ev : Ev)
    (sel : List Cand) (h : selectTransitions m cfg env ev = .ok sel) :
    sel.Pairwise (fun a b => a.t.tid ≠ b.t.tid) := by
  rw [select_factored] at h
  cases he : eligLoop m cfg env ev (leavesSorted m cfg) [] with
  | error e => simp [he] at h
  | ok es =>
    simp only [he, Except.ok.injEq] at h
    subst h
    exact ((sortBy_perm _ _).pairwise_iff (fun hab => fun e => hab e.symm)).2 (dedupSeen_spec _ []).2.2.1

/-- … and the nominee of every active leaf — however many leaves nominate it — occurs exactly once
    among the selected. -/
theorem shared_ancestor_fires_once (m : Machine) (cfg : List Path) (env : GEnv) (ev : Ev) (htid : TidOK m)
    (sel : List Cand) (h : selectTransitions m cfg env ev = .ok sel)
    (leaf : Path) (hl : leaf ∈ leavesSorted m cfg) (w : Cand)
    (hw : nomineeOf (gOf m cfg env) m ev leaf = some w) :
    sel.countP (fun x => x.t.tid = w.t.tid) = 1 := by
  have hnd := selected_nodup m cfg env ev sel h
  have hsel := select_dedup m cfg env ev htid sel h
  have hmem : w ∈ (leavesSorted m cfg).filterMap (nomineeOf (gOf m cfg env) m ev) :=
    List.mem_filterMap.2 ⟨leaf, hl, hw⟩
  obtain ⟨x, hx, hxe⟩ := (dedup_facts _).2.2 w hmem
  have hxs : x ∈ sel := by rw [hsel, mem_sortBy]; exact hx
  have := countP_key_eq_one (fun c : Cand => c.t.tid) sel hnd x hxs
  rw [hxe] at this
  exact this

/-- both regions nominate `t0`, declared on their common ancestor `P`; it is selected once -/
example : ((leavesSorted exM exCfg).filterMap (nomineeOf (gOf exM exCfg exEnv) exM (.user "E"))).map
    (·.t.tid) = [0, 0] := exM_E.2.1
example : tidsOf (selectTransitions exM exCfg exEnv (.user "E")) = some [0] := exM_E.2.2.1

/-- *Nothing selected iff no active leaf has a nominee* (given that selection does not raise). -/
theorem no_nominee_iff (m : Machine) (cfg : List Path) (env : GEnv) (ev : Ev) (htid : TidOK m)
    (sel : List Cand) (h : selectTransitions m cfg env ev = .ok sel) :
    sel = [] ↔ ∀ leaf ∈ leavesSorted m cfg, nomineeOf (gOf m cfg env) m ev leaf = none := by
  rw [select_dedup m cfg env ev htid sel h, sortBy_eq_nil, dedupSeen_nil_eq_nil,
    List.filterMap_eq_nil_iff]

/-- the same in terms of eligible lists, without any hypothesis on identities -/
theorem no_nominee_iff' (m : Machine) (cfg : List Path) (env : GEnv) (ev : Ev) :
    selectTransitions m cfg env ev = .ok [] ↔
      ∃ es, eligLoop m cfg env ev (leavesSorted m cfg) [] = .ok es ∧ ∀ e ∈ es, e = [] := by
  rw [select_factored]
  cases he : eligLoop m cfg env ev (leavesSorted m cfg) [] with
  | error e => simp
  | ok es =>
    simp only [Except.ok.injEq, sortBy_eq_nil, dedupSeen_nil_eq_nil, exists_eq_left']
    simp only [winnersOf, List.filterMap_eq_nil_iff, firstMaxBy_eq_none]

example : selectTransitions exM exCfg exEnv (.user "Z") = .ok [] := exM_unhandled

/-! ## 4. an unhandled event is a no-op -/

/-- *Clause "an event with no nominee is a no-op".* The WHOLE state record is unchanged:
    configuration, history, queue, status, trace (so no action ran), error flag, counters. (The
    context is a field of `St`; timers and services have no state of their own in the model: their
    only trace is `act`/`#t` records and queue entries, all part of `St`.) -/
theorem unhandled_is_noop (h : Hooks) (fl : Flavor) (m : Machine) (u : UEnv) (ev : Ev) (s : St)
    (hsel : selectTransitions m s.cfg (u.genv s.ctx ev.type) ev = .ok []) : processEvent h fl m u ev s = s := by
  simp only [processEvent, hsel, List.foldl_nil]

example : processEvent (hooksFlagged exU exM) .sync exM exU (.user "Z") exS = exS :=
  unhandled_is_noop _ _ _ _ _ exS exM_unhandled

/-! ## 5. exactly the nominated transitions fire -/

/-- *Clause "exactly the nominated transitions fire … one whose source was exited by an earlier winner
    of the same step is skipped, and no other transition's actions run".* `processEvent` is the
    left-to-right execution of `firedOf … sel s`, a sub-list of the selected list. -/
theorem fired_subset_selected (h : Hooks) (fl : Flavor) (m : Machine) (u : UEnv) (ev : Ev) (s : St)
    (sel : List Cand) (hsel : selectTransitions m s.cfg (u.genv s.ctx ev.type) ev = .ok sel) :
    processEvent h fl m u ev s =
        (firedOf h fl m ev (decide (sel.length > 1)) sel s).foldl
          (fun s c => execute h fl m ev (planTransition m s.cfg s.hist c) s) s ∧
      (firedOf h fl m ev (decide (sel.length > 1)) sel s).Sublist sel := by
  refine ⟨?_, firedOf_sublist h fl m ev _ sel s⟩
  exact (processEvent_peFold h fl m u ev s hsel).trans (foldl_stepSel_eq h fl m ev _ sel s)

/-- for `X` both `t4` (a1 → Q, leaving `P`) and `t5` (on b1) are selected; executing `t4` exits `b1`, so
    `t5` is skipped and its action never runs -/
example : tidsOf (selectTransitions exM exCfg exEnv (.user "X")) = some [4, 5] := exM_X.1
example : (firedOf (hooksFlagged exU exM) .sync exM (.user "X") true
    [⟨["P", "A", "a1"], t4⟩, ⟨["P", "B", "b1"], t5⟩] exS).map (·.t.tid) = [4] := exM_X.2.1
example : (processEvent (hooksFlagged exU exM) .sync exM exU (.user "X") exS).trace =
    ["#t:m,m.Q", "leave@X"] := exM_X.2.2

/-- which ones: scanning the selected list, stop at a pending error, stop once the machine has
    finished (an earlier transition of the step completed it: `break`); skip a candidate whose source
    is no longer active (tested only when several were selected); execute the others -/
theorem firedOf_cons (h : Hooks) (fl : Flavor) (m : Machine) (ev : Ev) (multi : Bool) (c : Cand)
    (cs : List Cand) (s : St) :
    firedOf h fl m ev multi (c :: cs) s =
      if s.err.isSome then []
      else if finished s.status then []
      else if multi && !(s.cfg.contains c.src) then firedOf h fl m ev multi cs s
      else c :: firedOf h fl m ev multi cs (execute h fl m ev (planTransition m s.cfg s.hist c) s) := rfl

/-- a single selected transition is always executed (no stale-source test) by a machine that has not
    finished (`_process_event` leaves its loop at once when the status is `done` / `error` / `stopped`;
    the engines only call it while running) -/
theorem fired_single (h : Hooks) (fl : Flavor) (m : Machine) (u : UEnv) (ev : Ev) (s : St) (c : Cand)
    (hsel : selectTransitions m s.cfg (u.genv s.ctx ev.type) ev = .ok [c]) (herr : s.err = none)
    (hrun : finished s.status = false) :
    processEvent h fl m u ev s = execute h fl m ev (planTransition m s.cfg s.hist c) s := by
  rw [(fired_subset_selected h fl m u ev s [c] hsel).1]
  simp [firedOf, herr, hrun]

/-! ## 6. `can` -/

/-- *Clause "`can(event)` is true exactly when a nominee exists":* `can` is "selection succeeds and is
    non-empty". Like the code (`try … except Exception: return False`) it reports `false` when
    selection raises. "While itself changing nothing" is definitional: `can` takes the configuration
    and returns a `Bool`; it neither takes nor returns a `St`. -/
theorem can_iff_select_nonempty (m : Machine) (cfg : List Path) (env : GEnv) (ev : Ev) :
    can m cfg env ev = true ↔ ∃ sel, selectTransitions m cfg env ev = .ok sel ∧ sel ≠ [] := by
  unfold can
  cases selectTransitions m cfg env ev with
  | error e => simp
  | ok sel => cases sel <;> simp

example : can exM exCfg exEnv (.user "E") = true := exM_E.2.2.2
example : can exM exCfg exEnv (.user "Z") = false := by rw [can, exM_unhandled]; rfl
/-- a guard without implementation: `can` says `false` (the code swallows the exception) although
    delivering the event is not a no-op — it fails with `missingGuard` -/
example : can exM exCfg exEnvMissing (.user "F") = false := exM_F_missing.1
example : (processEvent (hooksFlagged exUMissing exM) .sync exM exUMissing (.user "F") exS).err.isSome = true :=
  exM_F_missing.2

/-- in terms of nominees -/
theorem can_iff_nominee (m : Machine) (cfg : List Path) (env : GEnv) (ev : Ev) (htid : TidOK m) :
    can m cfg env ev = true ↔
      (∃ sel, selectTransitions m cfg env ev = .ok sel) ∧
      ∃ leaf ∈ leavesSorted m cfg, (nomineeOf (gOf m cfg env) m ev leaf).isSome := by
  rw [can_iff_select_nonempty]
  constructor
  · rintro ⟨sel, h, hne⟩
    have hsome := mt (no_nominee_iff m cfg env ev htid sel h).2 hne
    exact ⟨⟨sel, h⟩, by simpa [Option.isSome_iff_ne_none] using hsome⟩
  · rintro ⟨⟨sel, h⟩, leaf, hl, hsome⟩
    refine ⟨sel, h, fun hnil => ?_⟩
    rw [(no_nominee_iff m cfg env ev htid sel h).1 hnil leaf hl] at hsome
    cases hsome

/-- `can` false and selection not raising: delivering the event changes nothing -/
theorem can_false_noop (h : Hooks) (fl : Flavor) (m : Machine) (u : UEnv) (ev : Ev) (s : St)
    (sel : List Cand) (hsel : selectTransitions m s.cfg (u.genv s.ctx ev.type) ev = .ok sel)
    (hcan : can m s.cfg (u.genv s.ctx ev.type) ev = false) : processEvent h fl m u ev s = s := by
  unfold can at hcan
  rw [hsel] at hcan
  cases sel with
  | nil => exact unhandled_is_noop h fl m u ev s hsel
  | cons c cs => simp at hcan

end XSM.C02

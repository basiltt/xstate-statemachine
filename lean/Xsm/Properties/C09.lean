import Xsm.Proofs.Runtime
import Xsm.Proofs.RuntimeEx
/-!
# C09 — invoked services: one start per activation, one outcome, no zombie results

"Each entry into a state starts each of its invoked services exactly once, with the declared input;
if that activation is still current when the service returns or raises, exactly one completion event
is processed — done carrying the return value or error carrying the exception, driving the declared
onDone or onError handler — and a failure with no onError handler puts the interpreter into the error
status with the exception recorded. A result produced by an activation that has since been exited —
even if the same state has been re-entered — is discarded, and once the state is exited or the
interpreter stopped no task, thread or child interpreter started for it remains alive."

Statements about the runtime model `Xsm/Model/Runtime.lean` (see the header of `Properties/C08.lean`
for what it is and how it is tied to the code). An `Invocation` is a service task: created by the
schedule step of its owner (async: it runs at the interpreter's next suspension point — `startPending`;
sync: the service is called inside the schedule step — `runSvcsSync`), completed by `completeInv`
(exactly one `done.invoke.<id>` / `error.platform.<id>` event with `src = id`; `_fail` when the
failure is unhandled), removed by the owner's `cancelOwner` or by `stopRT`.

## Proved (all machines, all user code, all timing data, all agendas)

* `invocations_current`, `invocations_distinct` — after every run every live service task belongs to the
  current activation of an active owner, and no two live tasks are the same task.
* `one_task_per_invoke` — async: the schedule step creates exactly one not-yet-started task per
  declared `invoke` (for the current activation).
* `one_start_per_entry` — async: `startOne` calls the service of a task and marks it started / completes
  it, so no task with that identity is unstarted afterwards, and after `startPending` NO task is
  unstarted; `startPending` only ever touches unstarted tasks.
* `one_start_per_entry_sync` — sync: the schedule step calls each declared (plain) service exactly once,
  in declaration order.
* `one_completion_if_current` — a completion is delivered only for a live (hence current) task: it
  queues exactly one completion event and the task is gone, so it cannot complete twice.
* `completion_event_shape` — the event is `done.invoke.<id>` / `error.platform.<id>` with `src = id`.
* `unhandled_error_fails` — a failure of a service whose invoke declares no `onError` sets the status
  to `error` (and nothing else does: `handled_keeps_status`).
* `none_alive_after_exit_or_stop` — the owner's cancel removes all its tasks; `stop()` all tasks.

## Disproved — finding F7

`stale_done_event_fires` (`decide`d on `RTEx.mInvoke`, reproduced on the real code): a completion
event already QUEUED when its state is exited and re-entered is matched by the new activation (a
`DoneEvent` carries the invoke id, not the activation): the stale result drives `onDone` of activation 2
and the fresh invocation of activation 2 is cancelled before it ever started.

## A stop that lands INSIDE a macrostep — findings F74 / F74s (C14: F72), repaired in the library

`stop_inside_macrostep_starts_service` (`decide`d on `RTEx.mStopSvc` / `RTEx.mStopSync`): the runtime model keeps the
behaviour the library had before the repair `dc3a7bd` — the rest of the macrostep runs on the stopped interpreter and the
service of a state entered behind the stop is started. See the header of `Properties/C08.lean` (F73) for what the check
does with such runs since the repair.

## Weaker than the statement, and why

* "exactly once per entry" is proved per service TASK; that a task which is cancelled before the
  interpreter next yields never calls its service is what the async code does (an activation that is
  left in the very instant it was entered starts nothing) — the monitor accepts exactly that.
* "with the declared input", "done carrying the return value / error carrying the exception",
  "the exception recorded": the model's events carry no data; these clauses are checked by the monitor
  on the real code only.
* Child machines as `src` (`_spawn_and_manage_actor`, sync `_spawn_actor(on_complete)`) are not in the
  model and not in the generator: the claims above are about callables and coroutine functions.
* `cancelled mid-await` is "the owner is exited (or `stop()`) before the service's completion time":
  covered by `none_alive_after_exit_or_stop` + the census of the monitor.
-/
namespace XSM.C09
open XSM XSM.RTP

/-- after every run, every live service task belongs to the current activation of an active owner -/
theorem invocations_current (fl : Flavor) (m : Machine) (u : UEnv) (r : REnv) (agenda : List (Nat × ExtOp)) (horizon fuel : Nat)
    (hc : (runRT fl m u r agenda horizon fuel).clean = true) :
    ∀ i ∈ (runRT fl m u r agenda horizon fuel).invs,
      i.owner ∈ (runRT fl m u r agenda horizon fuel).st.cfg ∧ i.act = actOf (runRT fl m u r agenda horizon fuel).acts i.owner :=
  (inv_runRT fl m u r agenda horizon fuel hc).curI

/-- task identities are unique: no two live tasks are the same task -/
theorem invocations_distinct (fl : Flavor) (m : Machine) (u : UEnv) (r : REnv) (agenda : List (Nat × ExtOp)) (horizon fuel : Nat)
    (hc : (runRT fl m u r agenda horizon fuel).clean = true) :
    ((runRT fl m u r agenda horizon fuel).invs.map (·.seq)).Nodup :=
  (inv_runRT fl m u r agenda horizon fuel hc).ndI

/-- *Clause "each entry starts each of its invoked services exactly once".* (async) One schedule step
    creates exactly one unstarted task per declared invocation, for the owner's current activation … -/
theorem one_task_per_invoke (r : REnv) (p : Path) (a : Nat) (is : List Invoke) (rt : RT)
    (hall : ∀ i ∈ is, (svcOf r i).isSome = true) :
    (schedInvsAsync r p a is rt).invs.map (fun j => (j.owner, j.id, j.act, j.started)) =
      rt.invs.map (fun j => (j.owner, j.id, j.act, j.started)) ++ is.map (fun i => (p, i.id, a, false)) := by
  induction is generalizing rt with
  | nil => simp [schedInvsAsync]
  | cons i is ih =>
    unfold schedInvsAsync
    have h1 := hall i (by simp)
    cases hs : svcOf r i with
    | none => rw [hs] at h1; cases h1
    | some sp =>
      simp only
      rw [ih _ (fun j hj => hall j (List.mem_cons_of_mem _ hj))]
      simp

/-- `rt` after its newly created timer tasks went to sleep (first half of `startPending`) -/
def afterTimersSleep (rt : RT) : RT :=
  { rt with timers := (startTimersL rt.timers rt.nextId).1, nextId := (startTimersL rt.timers rt.nextId).2 }

/-- … the service of a task is called by `startOne`, after which no task with that identity is
    unstarted; when the interpreter's task yields, `startPending` leaves NO task unstarted and calls
    `startOne` for unstarted tasks only — so a task's service is called at most once, and exactly once
    if the task survives until the next yield. -/
theorem one_start_per_entry (rt : RT) :
    (∀ i, ∀ j ∈ (startOne rt i).invs, j.seq = i.seq → j.started = true) ∧
    (∀ j ∈ (startPending rt).invs, j.started = true) ∧
    startPending rt = ((afterTimersSleep rt).invs.filter (fun i => !i.started)).foldl startOne (afterTimersSleep rt) :=
  ⟨fun i j hj hs => (startOne_invs rt i j hj).1 hs, startPending_all_started rt, rfl⟩

/-- (sync) the schedule step calls every declared plain service exactly once, in declaration order -/
theorem one_start_per_entry_sync (r : REnv) (h : Hooks) (p : Path) (a : Nat) (is : List Invoke) (rt : RT)
    (hall : ∀ i ∈ is, ∃ sp, svcOf r i = some sp ∧ sp.coro = false) :
    (runSvcsSync r h p a is rt).started = (is.map (fun i => (p, i.id, a))).reverse ++ rt.started := by
  induction is generalizing rt with
  | nil => rfl
  | cons i is ih =>
    obtain ⟨sp, h1, h2⟩ := hall i (by simp)
    unfold runSvcsSync
    simp only [h1, h2, Bool.false_eq_true, if_false]
    rw [ih _ (fun j hj => hall j (List.mem_cons_of_mem _ hj))]
    split <;> simp [rlog]

/-- *Clause "exactly one completion event is processed if that activation is still current".* The
    completion picked by the loops is a live, started task (current by `invocations_current`); it queues
    exactly one event and the task is gone (it cannot complete a second time). -/
theorem one_completion_if_current (rt : RT) (i : Invocation) (hrun : rt.st.status = "running") :
    (minWake rt = some (.iv i) → i ∈ rt.invs ∧ i.started = true) ∧
    (completeInv i rt).st.queue = rt.st.queue ++ [⟨doneEvOf i, false⟩] ∧
    (∀ j ∈ (completeInv i rt).invs, j.seq ≠ i.seq) ∧ (completeInv i rt).st.cfg = rt.st.cfg :=
  ⟨minWake_iv rt i, by rw [completeInv_st]; split <;> simp [stFail, enqueue, enqueueQ, hrun],
   fun j hj => by rw [completeInv_invs] at hj; simpa using (List.mem_filter.mp hj).2, (shrink_completeInv rt i).cfg⟩

/-- the completion event: type by outcome, source = the invoke id -/
theorem completion_event_shape (i : Invocation) :
    doneEvOf i = if i.spec.ok then Ev.done ("done.invoke." ++ i.id) i.id else Ev.done ("error.platform." ++ i.id) i.id := rfl

/-- *Clause "a failure with no onError handler puts the interpreter into the error status".* -/
theorem unhandled_error_fails (i : Invocation) (rt : RT) (hrun : rt.st.status = "running")
    (hbad : i.spec.ok = false) (hun : i.handled = false) : (completeInv i rt).st.status = "error" := by
  rw [completeInv_st]
  simp [hbad, hun, stFail, enqueue, enqueueQ, hrun]

/-- … and only that does: a success, or a failure whose invoke declares `onError`, leaves the status -/
theorem handled_keeps_status (i : Invocation) (rt : RT) (h : i.spec.ok = true ∨ i.handled = true) :
    (completeInv i rt).st.status = rt.st.status := by
  rw [completeInv_st, if_pos h]
  unfold enqueue enqueueQ
  split <;> rfl

/-- *Clause "once the state is exited or the interpreter stopped no task … remains alive".* -/
theorem none_alive_after_exit_or_stop (c : RCx) (hw : WndOK c) (p : Path) (rt : RT) :
    (∀ i ∈ (cancelOwner c p rt).invs, i.owner ≠ p) ∧
    (rt.st.status ≠ "uninitialized" → rt.st.status ≠ "stopped" → (stopRT rt).invs = [] ∧ (stopRT rt).timers = []) :=
  ⟨(noTasks_singleton.mp (noTasks_cancelOwner c hw p rt)).2, fun h1 h2 => ⟨(stop_clears rt h1 h2).2.1, (stop_clears rt h1 h2).1⟩⟩

open XSM.RTEx

/-- **F7.** `s` invokes a 100 ms service with `onDone → d`. `X` (t = 60) keeps the interpreter busy
    until t = 110; `R` (t = 70, re-enter `s`) and the completion (t = 100) queue up behind it. At
    t = 110 `R` re-enters `s` (activation 2, a fresh service task is created), then the STALE completion
    of activation 1 is matched by invoke id: `onDone` runs, `s` is left for `d`, and the fresh task is
    cancelled before it ever started (the only service call ever made is the one of activation 1). -/
theorem stale_done_event_fires :
    (runInvoke.flush.log.reverse.filter (fun r => r.1 = 110)).map (·.2) =
      ["slow@X", "#t:m,m.s", "#recv:R", "#t:m,m.s", "#recv:done.invoke.i", "handled@done.invoke.i", "#t:m,m.d"] ∧
    runInvoke.st.cfg = [[], ["d"]] ∧ runInvoke.started = [(["s"], "i", 1)] ∧
    actOf runInvoke.acts ["s"] = 2 ∧ runInvoke.invs = [] := by decide +kernel

/-- **F74 / F74s (C14: F72), the behaviour of the library before its repair, which the model keeps — a service started on a
    STOPPED interpreter.** `none_alive_after_exit_or_stop` is about `stopRT` itself. When `stop()` arrives inside a macrostep (see
    `C08.stop_inside_macrostep_arms_tasks`) the rest of the macrostep runs on the stopped interpreter and `scheduleRT` creates the
    service tasks of the states it enters.
    async (`RTEx.mStopSvc`): `GO` and `stop` at t = 50; `s` owns a timer, so its exit suspends in `cancel_by_owner` and the stop lands
    there; `b` is entered behind it, its service task is created, the service is CALLED at t = 50 (after the stop), runs its 100 ms
    and its completion is refused by `send` (status `stopped`).
    sync (`RTEx.mStopSync`): the service of `b` is called inside the entry at t = 150, 30 ms after `stop()` returned.
    The unrepaired engines produced these record lists (`findings/F74_*.json`, `F74s_*.json`). -/
theorem stop_inside_macrostep_starts_service :
    ((runStopSvc.flush.log.reverse.filter (fun r => 50 ≤ r.1)).map (fun r => (r.1, r.2)) =
      [(50, "send:GO:running"), (50, "#recv:GO"), (50, "stop"), (50, "ex:s@GO"), (50, "t:s:GO@GO"), (50, "en:b@GO"), (50, "#t:m,m.b"),
       (50, "svc-start:i"), (150, "svc-end:i:ok"), (150, "send:done.invoke.i:stopped")] ∧
     runStopSvc.st.status = "stopped" ∧ runStopSvc.started = [(["b"], "i", 1)] ∧ runStopSvc.st.cfg = [[], ["b"]]) ∧
    (runStopSync.started = [(["b"], "ib0", 1)] ∧ runStopSync.st.status = "stopped" ∧
     (runStopSync.flush.log.reverse.filter (fun r => r.2 = "stop" || r.2 = "svc-start:ib0")).map (·.1) = [120, 150]) := by decide +kernel

end XSM.C09

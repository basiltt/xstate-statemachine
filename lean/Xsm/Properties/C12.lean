import Xsm.Proofs.SnapshotRun
import Xsm.Proofs.SnapshotTree
import Xsm.Proofs.SnapshotEx
/-!
# C12 — snapshots are faithful, isolated resume points

"Restoring the snapshot taken at any quiescent point of any run into a fresh interpreter over the same
machine definition yields an interpreter that, for every continuation of events, produces the same
configurations, context, history-dependent behaviour, status, output, error flag and actor/systemId
registrations as the uninterrupted run (pending timers and in-flight services excepted). A snapshot is
valid JSON, is not affected by later execution of the interpreter it was taken from, re-snapshotting a
restored interpreter reproduces it, and a corrupt snapshot or one naming states the machine does not
have is rejected with a library error."

Statements about the executable model: `snap` / `restore` (`Xsm/Model/Snapshot.lean` =
`get_persisted_snapshot` / `from_snapshot`) over the engine state `St` and `send` of both engines
(`Xsm/Model/Engine.lean`).  Helper lemmas: `Xsm/Proofs/Snapshot.lean`, `Xsm/Proofs/SnapshotRun.lean`.

Vocabulary
* `MDot m` — neither the machine id nor any state key contains '.' (then ids are injective and
  `get_state_by_id` inverts `id`; the library rejects dotted keys).
* `SnapOK m s` — the cut state is sane: active paths name states, parents of active states are active,
  no duplicates, every remembered list is a non-empty list of states under an owner that is a state.
* `Quiet s` — quiescent: empty queue, chain-breaker counter at 0 (what `restore` starts from).
* `restored m s` — what `from_snapshot` rebuilds: configuration = ancestor closure of the id-sorted
  configuration; history = same owners, every remembered list sorted by id (the snapshot) and then by
  (depth, id) (`from_snapshot` since commit 546b3d4: `sortDI`); same context and status.
* `DISorted m hist` — every remembered list is in the (depth, id) order `_record_history` produces. It is
  an invariant of every run (`recorded_lists_sorted`, unconditional), so it is a hypothesis only for states
  given out of the blue.
* `restoreUnsorted` — `from_snapshot` BEFORE 546b3d4 (remembered lists left in the id order of the
  snapshot); kept only for the counterexample of §4 (finding F40, fixed).
* `SnapEquiv m s s'` — same configuration as a SET (`List.Perm`), same history, context, status, queue
  and chain-breaker counter; `St.equiv` (C16) is the same plus: traces equal record by record (a `#t:`
  observer record may list the same configuration in another order), same error flag and failure count.
* `cmdO fl m u s e` — one command as the harness observes it: `send e` from a cleared log.
* `RunInv … P C E` — an invariant of the run providing, at every transition actually executed, the
  side conditions of C16's `microstep_equiv`; `runInv_legal` instantiates it from C01/C11 with
  `RunP m s` = "`s.cfg` is `Legal` and every remembered list is a legal selection of its owner's subtree",
  which holds in every state a run reaches (`reached_runP`).
* `SelSoundH m` — selection soundness (hypothesis, as `SelSound` in C01's `legal_run`): sources of
  selected transitions are ancestors-or-self of active states; the selected transitions all have
  plain or root targets, or exactly one is selected and it targets a history state whose owner is
  inactive (C11's scope: source outside the owner).

PROVED (all machines, all user code `u`, both engines, no bounds)
* `restore_snap`, `restore_snap_equiv`, `snap_restore_snap`, `repeated_cycles`, the `restore_rejects_*`
  family and `restore_ok_inv`;
* `step_respects_equiv`, `resume_bisimilar_of_inv`: the bisimulation step and, by induction, every
  continuation — for any run invariant `RunInv`;
* `recorded_lists_sorted` (`DISorted` in every reached state, unconditionally) and `reached_runP`
  (`Legal` + legal remembered selections in every reached state, history targets included);
* `resume_bisimilar`: every continuation from a restored snapshot, for well-formed machines with sound
  selection, from any sane quiescent cut; `resume_bisimilar_run`: the same for a cut REACHED BY A RUN —
  `Legal`, `HistAll` and `DISorted` are then theorems, what is left as hypothesis of the cut is only
  "no duplicate in `cfg`, remembered lists name states" (`SnapOK`) and quiescence (`Quiet`);
* `prefix_resume_history_order_counterexample`: with the pre-fix `restoreUnsorted` the claim was false
  (F40), and `fix_restores_order_example`: with the fix the same witness agrees.

ONLY VALIDATED (differential check `harness/xsmverif/c12.py`, every cut point of generated runs)
* that model and code agree on snapshot content, on the restored state and on every continuation;
* the remaining cut hypotheses: `driver_snap` evaluates `Quiet` and `SnapOK` (and `DISorted`) on the model
  state at every cut and the check requires them. `SelSoundH` is a hypothesis (`selSound_of_targetsOK`
  discharges its plain/root half: `resume_bisimilar_of_targets`);
* JSON text (de)serialisation, isolation from later execution (aliasing), `output`, `error`, the
  snapshot of a never-started interpreter.

OUTSIDE THE MODEL: machine output, the error object, child actors and the systemId registry (`snap`
writes `null`, `null`, `{}`, `{}`; of `actors` / `system` in a snapshot handed to `restore` only the shape
check of `_validate_snapshot_shape` is modelled: a well-shaped value is accepted and ignored), non-integer
context values, pending timers / in-flight services (excepted by the property), `start()` on a restored
interpreter (identity: `resume`).

Wrongly shaped snapshot objects (finding F43, repaired): `shapeErr` is `_validate_snapshot_shape`, run on
the decoded object before anything is rebuilt; `restore` reports the first offending key (`RErr.shape`,
`InvalidConfigError` in the code) — `restore_shape_first`, the `restore_rejects_shape_*` family — and after
a passed validation only an unknown state id can fail (`restore_wellshaped_outcome`). Ids in `history`
that name no state are dropped, as the code drops them (`restoreHistEntry`).
-/
namespace XSM.C12
open XSM XSM.Spec XSM.Hist XSM.Snap

/-- quiescent cut point -/
def Quiet (s : St) : Prop := s.queue = [] ∧ s.raiseDepth = 0

/-! ## 1. `restore ∘ snap` -/

theorem histGet_histOrd (m : Machine) (ord : List Path → List Path) (h : List (Path × List Path)) (P : Path) :
    histGet (histOrd m ord h) P = (histGet h P).map (fun R => ord (sortIds m R)) := by
  induction h with
  | nil => rfl
  | cons kv h ih =>
    simp only [histGet, histOrd, List.map_cons, List.find?_cons] at ih ⊢
    by_cases hk : kv.1 = P
    · simp [hk]
    · simp only [hk, decide_false]
      exact ih

/-- **restore ∘ snap**: the snapshot of a sane state is accepted, and the state that comes back has the
    same configuration as a set, the same context and status, an empty queue and fresh counters, and
    the same history as a map — each remembered list holding the same states, in (depth, id) order. -/
theorem restore_snap (m : Machine) (hd : MDot m) (s : St) (hs : SnapOK m s) :
    restore m (snap m s) = .ok (restored m s) ∧
    (restored m s).cfg.Perm s.cfg ∧ (restored m s).ctx = s.ctx ∧ (restored m s).status = s.status ∧
    (restored m s).queue = [] ∧ (restored m s).raiseDepth = 0 ∧ (restored m s).err = none ∧
    (∀ P, histGet (restored m s).hist P = (histGet s.hist P).map (fun R => sortDI m (sortIds m R))) ∧
    (∀ kv ∈ s.hist, (sortDI m (sortIds m kv.2)).Perm kv.2) ∧ DISorted m (restored m s).hist := by
  refine ⟨restore_snap_core m hd s hs, closeUp_perm m s.cfg hs.cfgClosed hs.cfgNodup, rfl, rfl, rfl, rfl, rfl,
    histGet_histOrd m (sortDI m) s.hist, fun kv _ => (sortDI_perm m _).trans (sortIds_perm m kv.2), ?_⟩
  intro kv hkv
  obtain ⟨kv0, _, rfl⟩ := List.mem_map.1 hkv
  exact sortBy_pairwise_le _ (depthIdLe_total m) (fun _ _ _ => depthIdLe_trans m) _

/-- the remembered lists come back exactly as they were recorded -/
theorem restored_hist (m : Machine) (hd : MDot m) (s : St) (hs : SnapOK m s) (hdi : DISorted m s.hist) :
    (restored m s).hist = s.hist := by
  show histOrd m (sortDI m) s.hist = s.hist
  unfold histOrd
  conv => rhs; rw [← List.map_id s.hist]
  apply List.map_congr_left
  intro kv hkv
  have hinj : IdInj m kv.2 := idInj_of_valid m hd kv.2 (hs.histValid kv hkv).2.2
  have h1 : sortDI m (sortIds m kv.2) = sortDI m kv.2 :=
    sortDI_perm_eq m (sortIds_perm m kv.2) (hinj.perm (sortIds_perm m kv.2).symm)
  rw [h1, show sortDI m kv.2 = kv.2 from sortBy_of_pairwise _ kv.2 (hdi kv hkv)]
  rfl

/-- **… and the restored state is `SnapEquiv` to the original** (quiescent cut): same history exactly
    (in particular `histGet` agrees for every owner), same queue and counter. `DISorted` is what
    `_record_history` guarantees (`recorded_lists_sorted`). -/
theorem restore_snap_equiv (m : Machine) (hd : MDot m) (s : St) (hs : SnapOK m s) (hq : Quiet s)
    (hdi : DISorted m s.hist) :
    restore m (snap m s) = .ok (restored m s) ∧ SnapEquiv m s (restored m s) ∧
      (restored m s).hist = s.hist ∧ ∀ P, histGet (restored m s).hist P = histGet s.hist P := by
  have hh : (restored m s).hist = s.hist := restored_hist m hd s hs hdi
  refine ⟨restore_snap_core m hd s hs, ?_, hh, fun P => by rw [hh]⟩
  exact .intro (cfg := (closeUp_perm m s.cfg hs.cfgClosed hs.cfgNodup).symm) (hist := hh.symm) (queue := hq.1)
    (status := rfl) (ctx := rfl) (raiseDepth := hq.2)

/-- **`_record_history` guarantees the order**: in every state a run reaches — `start()`, then any
    commands, either engine, any machine, any user code — every remembered list is in (depth, id) order.
    (`run_histQ`: a property of the history that `recordHistory` keeps holds in every reached state.) -/
theorem recorded_lists_sorted (m : Machine) (fl : Flavor) (u : UEnv) (evs : List Ev) :
    DISorted m (evs.foldl (cmdO fl m u) (start fl m u {})).hist :=
  run_histQ (diSorted_recClosed m) (fun _ h => nomatch h) fl u evs

/-- **re-snapshot reproduces**: whatever `restore` makes of a snapshot, its snapshot is that snapshot
    (the snapshot sorts the remembered lists by id whatever order they are held in) -/
theorem snap_restore_snap (m : Machine) (hd : MDot m) (s : St) (hs : SnapOK m s) (s' : St)
    (h : restore m (snap m s) = .ok s') : snap m s' = snap m s := by
  rw [restore_snap_core m hd s hs] at h
  cases h
  exact snap_restored m hd s hs

/-- **repeated save/restore cycles**: restoring the re-snapshot gives the same restored state again -/
theorem repeated_cycles (m : Machine) (hd : MDot m) (s : St) (hs : SnapOK m s) :
    restore m (snap m (restored m s)) = .ok (restored m s) := by
  rw [snap_restored m hd s hs]; exact restore_snap_core m hd s hs

/-! ## 2. rejection -/

/-- a snapshot that does not decode to a JSON object: `InvalidConfigError` -/
theorem restore_rejects_nonobject (m : Machine) (j : J) (h : ∀ kvs, j ≠ .obj kvs) :
    ∃ msg, restore m j = .error (.invalidConfig msg) := by
  unfold restore restoreWith
  split
  · rename_i kvs; exact absurd rfl (h kvs)
  · exact ⟨_, rfl⟩

/-- a well-shaped snapshot whose configuration names a state the machine does not have:
    `StateNotFoundError`, carrying the first such id (the shape of every key is checked before: a snapshot
    that is ALSO wrongly shaped gets `InvalidConfigError`, `restore_shape_first`) -/
theorem restore_rejects_unknown_state (m : Machine) (kvs : List (String × J)) (ids : List String)
    (hshape : shapeErr (.obj kvs) = none)
    (hids : restoreIdsJ (.obj kvs) = .ok ids) (hbad : ∃ id ∈ ids, stateById m id = none) :
    ∃ id ∈ ids, stateById m id = none ∧ restore m (.obj kvs) = .error (.stateNotFound id) := by
  obtain ⟨id, hid, hn, he⟩ := restoreIds_unknown m ids hbad
  obtain ⟨_, _, ids', _, _, _, hids', _, hr⟩ := restoreCore_no_shape m (sortDI m) hshape
  cases hids.symm.trans hids'
  refine ⟨id, hid, hn, ?_⟩
  rw [restore, restoreWith_obj, hshape]
  exact hr.trans (by rw [he]; rfl)

/-- **the validation comes first**: a snapshot object with a wrongly shaped key is refused with the first
    offending key of `status`, `context`, `configuration`, `state_ids`, `history`, `actors`, `system`
    (`InvalidConfigError`), whatever else is wrong with it — unknown state ids included -/
theorem restore_shape_first (m : Machine) (kvs : List (String × J)) (e : RErr)
    (h : shapeErr (.obj kvs) = some e) : restore m (.obj kvs) = .error e := by
  rw [restore, restoreWith_obj, h]

/-- the errors of the validation are `shape` errors of exactly these seven keys -/
theorem shapeErr_keys (j : J) (e : RErr) (h : shapeErr j = some e) :
    ∃ k ∈ ["status", "context", "configuration", "state_ids", "history", "actors", "system"], e = .shape k :=
  shapeErr_some h

/-- **after a passed validation only an unknown state id can fail**: the snapshot is accepted, or one of
    the ids it lists names no state of the machine and `StateNotFoundError` carries such an id -/
theorem restore_wellshaped_outcome (m : Machine) (kvs : List (String × J)) (h : shapeErr (.obj kvs) = none) :
    (∃ s, restore m (.obj kvs) = .ok s) ∨
    ∃ ids id, restoreIdsJ (.obj kvs) = .ok ids ∧ id ∈ ids ∧ stateById m id = none ∧
      restore m (.obj kvs) = .error (.stateNotFound id) := by
  obtain ⟨st, c, ids, hh, _, _, hids, _, hr⟩ := restoreCore_no_shape m (sortDI m) h
  rw [restore, restoreWith_obj, h]
  show (∃ s, restoreCore m (sortDI m) (.obj kvs) = .ok s) ∨ ∃ ids id, _ ∧ _ ∧ _ ∧ restoreCore m (sortDI m) (.obj kvs) = _
  rw [hr]
  cases hps : restoreIds m ids with
  | ok ps => exact Or.inl ⟨_, rfl⟩
  | error e =>
    obtain ⟨id, hid, hn, rfl⟩ := restoreIds_error m ids e hps
    exact Or.inr ⟨ids, id, hids, hid, hn, rfl⟩

/-- an accepted snapshot passed the validation: every row of the table holds -/
theorem restore_ok_shape (m : Machine) (j : J) (s : St) (h : restore m j = .ok s) : shapeErr j = none :=
  (restoreWith_ok_inv m (sortDI m) j s h).1

/-- wrongly typed or missing `status` / `context`: never accepted -/
theorem restore_rejects_shape_status (m : Machine) (j : J) (h : ∀ st, j.get? "status" ≠ some (.str st)) :
    ∀ s, restore m j ≠ .ok s := by
  intro s hs
  exact h _ (restore_ok_inv m j s hs).2.2.1
theorem restore_rejects_shape_context (m : Machine) (j : J) (h : ∀ c, j.get? "context" ≠ some (.obj c)) :
    ∀ s, restore m j ≠ .ok s := by
  intro s hs
  obtain ⟨c, hc, _⟩ := (restore_ok_inv m j s hs).2.1
  exact h c hc

/-- a `configuration` that is not a list of strings, and a `history` that is not an object of lists of
    strings, are never accepted -/
theorem restore_rejects_shape_configuration (m : Machine) (j : J) (h : ∀ ids, restoreIdsJ j ≠ .ok ids) :
    ∀ s, restore m j ≠ .ok s := by
  intro s hs
  obtain ⟨ids, _, hi, _⟩ := (restore_ok_inv m j s hs).2.2.2.1
  exact h ids hi
theorem restore_rejects_shape_history (m : Machine) (j : J) (h : ∀ hh, restoreHistJ m (sortDI m) j ≠ .ok hh) :
    ∀ s, restore m j ≠ .ok s := by
  intro s hs
  exact h _ (restore_ok_inv m j s hs).2.2.2.2.1

/-- a `state_ids` that is present, not `null` and not a list of strings is never accepted — also when
    `configuration` is there to be used instead -/
theorem restore_rejects_shape_state_ids (m : Machine) (j : J) (v : J) (hv : j.get? "state_ids" = some v)
    (hn : v ≠ .null) (hbad : isIds v = false) : ∀ s, restore m j ≠ .ok s :=
  restoreWith_rejects_row m (sortDI m) j (i := 3) rfl hv hn hbad

/-- an `actors` that is present, not `null` and not an object of actor records (objects whose `snapshot`
    is an object and whose `src` is absent, `null` or a string — what `from_snapshot` reads of a record)
    is never accepted -/
theorem restore_rejects_shape_actors (m : Machine) (j : J) (v : J) (hv : j.get? "actors" = some v)
    (hn : v ≠ .null) (hbad : isMapOf isActorRec v = false) : ∀ s, restore m j ≠ .ok s :=
  restoreWith_rejects_row m (sortDI m) j (i := 5) rfl hv hn hbad

/-- a `system` that is present, not `null` and not an object of strings (systemId -> actor id) is never
    accepted -/
theorem restore_rejects_shape_system (m : Machine) (j : J) (v : J) (hv : j.get? "system" = some v)
    (hn : v ≠ .null) (hbad : isMapOf isStr v = false) : ∀ s, restore m j ≠ .ok s :=
  restoreWith_rejects_row m (sortDI m) j (i := 6) rfl hv hn hbad

/-- … and the error is the library's `InvalidConfigError` naming the key, when the keys checked before
    (`status` … `history`, resp. … `actors`) are well-shaped -/
theorem restore_shape_error_actors (m : Machine) (kvs : List (String × J))
    (h1 : shapeRowOk (.obj kvs) "status" true isStr = true) (h2 : shapeRowOk (.obj kvs) "context" true isObj = true)
    (h3 : shapeRowOk (.obj kvs) "configuration" false isIds = true)
    (h4 : shapeRowOk (.obj kvs) "state_ids" (stateIdsRequired (.obj kvs)) isIds = true)
    (h5 : shapeRowOk (.obj kvs) "history" false (isMapOf isIds) = true)
    (h6 : shapeRowOk (.obj kvs) "actors" false (isMapOf isActorRec) = false) :
    restore m (.obj kvs) = .error (.shape "actors") :=
  restore_shape_first m kvs _ (by simp [shapeErr, h1, h2, h3, h4, h5, h6])
theorem restore_shape_error_system (m : Machine) (kvs : List (String × J))
    (h1 : shapeRowOk (.obj kvs) "status" true isStr = true) (h2 : shapeRowOk (.obj kvs) "context" true isObj = true)
    (h3 : shapeRowOk (.obj kvs) "configuration" false isIds = true)
    (h4 : shapeRowOk (.obj kvs) "state_ids" (stateIdsRequired (.obj kvs)) isIds = true)
    (h5 : shapeRowOk (.obj kvs) "history" false (isMapOf isIds) = true)
    (h6 : shapeRowOk (.obj kvs) "actors" false (isMapOf isActorRec) = true)
    (h7 : shapeRowOk (.obj kvs) "system" false (isMapOf isStr) = false) :
    restore m (.obj kvs) = .error (.shape "system") :=
  restore_shape_first m kvs _ (by simp [shapeErr, h1, h2, h3, h4, h5, h6, h7])

/-- everything an accepted snapshot went through: it is an object, `context` is an object, `status` a
    string, the listed ids are strings that all name states, the history is well-shaped; the state
    starts quiescent and without error -/
theorem restore_ok_inv (m : Machine) (j : J) (s : St) (h : restore m j = .ok s) :
    (∃ kvs, j = .obj kvs) ∧ (∃ c, j.get? "context" = some (.obj c) ∧ s.ctx = restoreCtx c) ∧
    j.get? "status" = some (.str s.status) ∧
    (∃ ids ps, restoreIdsJ j = .ok ids ∧ restoreIds m ids = .ok ps ∧ s.cfg = closeUp ps ∧
      ∀ id ∈ ids, ∃ p ∈ ps, stateById m id = some p) ∧
    restoreHistJ m (sortDI m) j = .ok s.hist ∧ Quiet s ∧ s.err = none := by
  obtain ⟨h1, h2, h3, ⟨ids, ps, h4, h5, h6⟩, h7, h8, h9, h10⟩ := Snap.restore_ok_inv m j s h
  exact ⟨h1, h2, h3, ⟨ids, ps, h4, h5, h6, restoreIds_ok_mem m ids ps h5⟩, h7, ⟨h8, h9⟩, h10⟩

/-! ## 3. the bisimulation -/

/-- **the bisimulation step** (`≈` is preserved by one more command, both engines): from
    `SnapEquiv` states the next command leaves `St.equiv` states — same configuration as a set, same
    context, history, status, queue, and the same log of that command (actions in the same order, same
    error flag, same failure count) — and keeps the run invariant. -/
theorem step_respects_equiv {m : Machine} {u : UEnv} {P : St → Prop} {C : Cand → Prop} {E : St → Cand → Prop}
    (fl : Flavor) (hP : RunInv m u (hooksOf fl u m) fl P C E) (e : Ev) {s s' : St}
    (he : SnapEquiv m s s') (hs : P s) :
    St.equiv m (cmdO fl m u s e) (cmdO fl m u s' e) ∧ P (cmdO fl m u s e) :=
  send_equiv fl hP e he (hP.frame s _ rfl rfl hs)

/-- **every continuation**, for any run invariant: the two runs stay equivalent after every further
    command, and each command logs the same on both sides -/
theorem resume_bisimilar_of_inv {m : Machine} {u : UEnv} {P : St → Prop} {C : Cand → Prop}
    {E : St → Cand → Prop} (fl : Flavor) (hP : RunInv m u (hooksOf fl u m) fl P C E) {s s' : St}
    (he : SnapEquiv m s s') (hs : P s) (evs : List Ev) :
    SnapEquiv m (evs.foldl (cmdO fl m u) s) (evs.foldl (cmdO fl m u) s') ∧
    ∀ e, St.equiv m (cmdO fl m u (evs.foldl (cmdO fl m u) s) e) (cmdO fl m u (evs.foldl (cmdO fl m u) s') e) := by
  obtain ⟨h1, h2⟩ := run_equiv fl hP evs he hs
  exact ⟨h1, fun e => (step_respects_equiv fl hP e h1 h2).1⟩

/-- C01 and C11 provide the invariant: `RunP m s` = "`s.cfg` is `Legal` and every remembered list is a
    legal selection of its owner's subtree" -/
theorem runInv_legal (fl : Flavor) (m : Machine) (u : UEnv) (hwf : WF m.root) (hi : InitOK m.root)
    (hsel : SelSoundH m) (hd : MDot m) :
    RunInv m u (hooksOf fl u m) fl (RunP m) (CandOK m) (fun s c => HistCand m s.cfg c) :=
  Snap.runInv_legal fl m u hwf hi hsel hd

/-- **every state a run reaches satisfies it** (C01 and C11 for whole runs of either engine, history
    targets included): if `start()` did not refuse the machine, then after `start()` and after every
    command the configuration is `Legal` and every remembered list is a legal selection -/
theorem reached_runP (fl : Flavor) (m : Machine) (u : UEnv) (hwf : WF m.root) (hi : InitOK m.root)
    (hk : m.root.kind ≠ .history) (hsel : SelSoundH m) (hd : MDot m) (hstart : (start fl m u {}).err = none)
    (evs : List Ev) :
    Legal m.root (evs.foldl (cmdO fl m u) (start fl m u {})).cfg ∧
      HistAll m (evs.foldl (cmdO fl m u) (start fl m u {})).hist :=
  (run_equiv fl (Snap.runInv_legal fl m u hwf hi hsel hd) evs (SnapEquiv.of_equiv (St.equiv.refl m _))
    ((start_runP fl m u hwf hi hk hsel hd).resolve_left (fun h => h hstart))).2

/-- **resume is bisimilar.**  For a well-formed machine with sound selection, either engine and
    arbitrary user code: the snapshot of a sane quiescent state is accepted, re-snapshotting the restored
    state reproduces it, and from the restored state EVERY continuation of events behaves as from the
    original — after each command the same configuration (as a set), context, history, status and
    queue, and the same log of that command (actions in order, error flag, failure count). -/
theorem resume_bisimilar (fl : Flavor) (m : Machine) (u : UEnv) (hwf : WF m.root) (hi : InitOK m.root)
    (hsel : SelSoundH m) (hd : MDot m) (s : St) (hL : Legal m.root s.cfg) (hA : HistAll m s.hist)
    (hdi : DISorted m s.hist) (hs : SnapOK m s) (hq : Quiet s) :
    ∃ s', restore m (snap m s) = .ok s' ∧ snap m s' = snap m s ∧
      ∀ evs : List Ev,
        SnapEquiv m (evs.foldl (cmdO fl m u) s) (evs.foldl (cmdO fl m u) (resume s')) ∧
        ∀ e, St.equiv m (cmdO fl m u (evs.foldl (cmdO fl m u) s) e)
          (cmdO fl m u (evs.foldl (cmdO fl m u) (resume s')) e) := by
  obtain ⟨h1, h2, _⟩ := restore_snap_equiv m hd s hs hq hdi
  exact ⟨restored m s, h1, snap_restored m hd s hs, fun evs =>
    resume_bisimilar_of_inv fl (Snap.runInv_legal fl m u hwf hi hsel hd) h2 ⟨hL, hA⟩ evs⟩

/-- **… from every cut point of every run**: the cut is the state after `start()` and any prefix `pre`
    of events. Legality, legal remembered selections and the (depth, id) order are theorems about
    reached states; what remains a hypothesis of the cut is that it is quiescent (`Quiet`: a `send()`
    that raised can leave events queued, and the snapshot does not store the queue) and `SnapOK`
    (no duplicate in the configuration list, remembered lists non-empty lists of states). -/
theorem resume_bisimilar_run (fl : Flavor) (m : Machine) (u : UEnv) (hwf : WF m.root) (hi : InitOK m.root)
    (hk : m.root.kind ≠ .history) (hsel : SelSoundH m) (hd : MDot m) (hstart : (start fl m u {}).err = none)
    (pre : List Ev) (hs : SnapOK m (pre.foldl (cmdO fl m u) (start fl m u {})))
    (hq : Quiet (pre.foldl (cmdO fl m u) (start fl m u {}))) :
    ∃ s', restore m (snap m (pre.foldl (cmdO fl m u) (start fl m u {}))) = .ok s' ∧
      snap m s' = snap m (pre.foldl (cmdO fl m u) (start fl m u {})) ∧
      ∀ evs : List Ev,
        SnapEquiv m (evs.foldl (cmdO fl m u) (pre.foldl (cmdO fl m u) (start fl m u {})))
          (evs.foldl (cmdO fl m u) (resume s')) ∧
        ∀ e, St.equiv m (cmdO fl m u (evs.foldl (cmdO fl m u) (pre.foldl (cmdO fl m u) (start fl m u {}))) e)
          (cmdO fl m u (evs.foldl (cmdO fl m u) (resume s')) e) := by
  obtain ⟨hL, hA⟩ := reached_runP fl m u hwf hi hk hsel hd hstart pre
  exact resume_bisimilar fl m u hwf hi hsel hd _ hL hA (recorded_lists_sorted m fl u pre) hs hq

/-- the same from machine-level hypotheses only, for machines all of whose transitions have plain or
    root targets (`TargetsOK`, as `C01.legal_run`): `SelSoundH` is then a theorem -/
theorem resume_bisimilar_of_targets (fl : Flavor) (m : Machine) (u : UEnv) (hwf : WF m.root)
    (hi : InitOK m.root) (hk : m.root.kind ≠ .history) (ht : TargetsOK m) (hd : MDot m)
    (hstart : (start fl m u {}).err = none)
    (pre : List Ev) (hs : SnapOK m (pre.foldl (cmdO fl m u) (start fl m u {})))
    (hq : Quiet (pre.foldl (cmdO fl m u) (start fl m u {}))) :
    ∃ s', restore m (snap m (pre.foldl (cmdO fl m u) (start fl m u {}))) = .ok s' ∧
      snap m s' = snap m (pre.foldl (cmdO fl m u) (start fl m u {})) ∧
      ∀ evs : List Ev,
        SnapEquiv m (evs.foldl (cmdO fl m u) (pre.foldl (cmdO fl m u) (start fl m u {})))
          (evs.foldl (cmdO fl m u) (resume s')) ∧
        ∀ e, St.equiv m (cmdO fl m u (evs.foldl (cmdO fl m u) (pre.foldl (cmdO fl m u) (start fl m u {}))) e)
          (cmdO fl m u (evs.foldl (cmdO fl m u) (resume s')) e) :=
  resume_bisimilar_run fl m u hwf hi hk (SelSound.toH (selSound_of_targetsOK m ht)) hd hstart pre hs hq

/-! ## 4. finding F40 (fixed by 546b3d4): why `from_snapshot` must re-establish the (depth, id) order

The witness — machine `cxM`, user code `cxU`, cut `cxS`, `afterRestore` — is in `Xsm/Proofs/SnapshotEx.lean`, where its
runs are evaluated (`Ex.run_facts`). -/
open Ex

example : cxS.cfg = [[], ["S"]] ∧ cxS.hist = [(["P"], [["P", "a"], ["P", "b"], ["P", "a", "x"]])] ∧
    cxS.queue = [] ∧ cxS.raiseDepth = 0 := cxS_cut
/-- what the two versions of `from_snapshot` make of the remembered list -/
example : afterRestore restoreUnsorted [] (·.hist) = [(["P"], [["P", "a"], ["P", "a", "x"], ["P", "b"]])] ∧
    afterRestore restore [] (·.hist) = cxS.hist := run_facts.2.1

/-- **the pre-fix behaviour** (F40; replay `findings/F40_snapshot_history_order.json` failed on the code
    before 546b3d4): the snapshot is accepted, the restored state has the same configuration, context and
    status — and after the continuation `BACK` the two interpreters have run the entry actions in
    different orders and hold different contexts. -/
theorem prefix_resume_history_order_counterexample :
    afterRestore restoreUnsorted false
      (fun s' => s'.cfg == cxS.cfg && s'.ctx == cxS.ctx && s'.status == cxS.status) = true ∧
    (cmdO .sync cxM cxU cxS (.user "BACK")).trace.reverse =
      ["#recv:BACK", "en:b@BACK", "set:c:2@BACK", "en:a@BACK", "set:c:1@BACK", "en:x@BACK",
       "#t:m,m.P,m.P.b,m.P.a,m.P.a.x"] ∧
    afterRestore restoreUnsorted [] (fun s' => (cmdO .sync cxM cxU s' (.user "BACK")).trace.reverse) =
      ["#recv:BACK", "en:a@BACK", "set:c:1@BACK", "en:x@BACK", "en:b@BACK", "set:c:2@BACK",
       "#t:m,m.P,m.P.a,m.P.a.x,m.P.b"] ∧
    (cmdO .sync cxM cxU cxS (.user "BACK")).ctx = [("c", 1)] ∧
    afterRestore restoreUnsorted [] (fun s' => (cmdO .sync cxM cxU s' (.user "BACK")).ctx) = [("c", 2)] :=
  run_facts.2.2.1

/-- hence, before the fix, no equivalence that includes the context survived that continuation -/
theorem prefix_resume_not_equiv_counterexample :
    afterRestore restoreUnsorted True (fun s' => ¬ St.equiv cxM (cmdO .sync cxM cxU cxS (.user "BACK"))
      (cmdO .sync cxM cxU s' (.user "BACK"))) := by
  refine afterRestore_imp prefix_resume_history_order_counterexample.2.2.2.2 fun _ h2 he => ?_
  exact nomatch prefix_resume_history_order_counterexample.2.2.2.1.symm.trans (he.ctx.trans h2)

/-- **with the fix** the same witness agrees: same log in the same order, same context, both engines -/
theorem fix_restores_order_example :
    afterRestore restore [] (fun s' => (cmdO .sync cxM cxU s' (.user "BACK")).trace.reverse) =
      (cmdO .sync cxM cxU cxS (.user "BACK")).trace.reverse ∧
    afterRestore restore [] (fun s' => (cmdO .sync cxM cxU s' (.user "BACK")).ctx) = [("c", 1)] ∧
    afterRestore restore [] (fun s' => (cmdO .async cxM cxU s' (.user "BACK")).ctx) = [("c", 1)] :=
  run_facts.2.2.2

/-- the hypotheses of the theorems hold of the example machine and cut (nothing is vacuous): the machine
    is well-formed with dot-free keys, the cut is sane, quiescent and legal -/
theorem cxWF : WF cxM.root := by
  simp [cxM, WF, WFKids, HasRealKid, mkD, SNode.kind, SNode.d]
theorem cxInitOK : InitOK cxM.root := by
  simp [cxM, InitOK, InitOKKids, mkD, truthyInit]
theorem cxMDot : MDot cxM := by
  refine ⟨by decide, fun p hp => ?_⟩
  obtain ⟨n, hn⟩ := Option.isSome_iff_exists.1 hp
  have hmem : p ∈ cxM.root.allPaths [] := by
    have := at_mem_allPaths cxM.root [] p n hn
    simpa using this
  have hall : ∀ q ∈ cxM.root.allPaths [], ∀ k ∈ q, '.' ∉ k.toList := by decide
  exact hall p hmem
theorem cxSnapOK : SnapOK cxM cxS :=
  ⟨by rw [cxS_cut.1]; decide, by rw [cxS_cut.1]; decide, by rw [cxS_cut.1]; decide, by rw [cxS_cut.2.1]; decide⟩
theorem cxQuiet : Quiet cxS := cxS_cut.2.2
theorem cxLegal : Legal cxM.root cxS.cfg := by
  rw [cxS_cut.1]
  apply legal_of_legalAt cxM.root cxWF
  · simp [cxM, LegalAt, OneKid, AllKids, ClearKids, Clear, mkD, SNode.kind, SNode.d]
  · intro q hq
    have : (cxM.root.at q).isSome = true := by
      revert q; decide
    exact Option.isSome_iff_exists.1 this
/-- `restore_snap` applied to the example cut: the snapshot is accepted, same configuration as a set -/
example : restore cxM (snap cxM cxS) = .ok (restored cxM cxS) ∧ (restored cxM cxS).cfg.Perm cxS.cfg :=
  ⟨(restore_snap cxM cxMDot cxS cxSnapOK).1, (restore_snap cxM cxMDot cxS cxSnapOK).2.1⟩
/-- the example cut is in (depth, id) order, as every recorded history is -/
example : DISorted cxM cxS.hist := by
  rw [cxS_cut.2.1]
  intro kv hkv
  cases List.mem_singleton.1 hkv
  decide +kernel

/-! ## 5. Persisted actor TREES (`actors` / `system`), any depth and width

Model `Xsm/Model/SnapshotTree.lean` (independent of the engine model: parametric in the per-interpreter payload `σ`,
i.e. in everything §1–§4 are about), lemmas `Xsm/Proofs/SnapshotTree.lean`.  `Snap σ` is a persisted snapshot
(`own`, `actors` = records `(actor id, src, child snapshot)`, `system` = systemId ↦ actor id), `Live σ` an interpreter
with its children (`kids`), its parked records (`parked` = `_pending_actor_snapshots`), its registry (`sys`) and the
pending systemIds (`pend`).  `snapTree` = `get_persisted_snapshot`, `restoreTree svc` = `from_snapshot` where
`svc key` says whether `services[key]` yields a machine — with the repair of F60 (`system` entries are looked up in the
whole restored tree: in the library since `48e7e52`) AND the repair proposed for the open finding F62 (a systemId that
names a parked actor is carried forward with the record: `_pending_system_ids`, which the library does not have).
`restoreAsIs` is `from_snapshot` before either repair (commit a8e5c14), about which only the two counterexamples at the
end are stated. The library as it is today lies between the two (`restoreV ⟨true, false⟩`: deep lookup, nothing kept
pending); the theorems below are stated of `restoreTree`, and where `pend` occurs in one it is about the proposed repair
of F62.  Finding F61 (watcher threads of the sync engine) is about threads, not about this data.

DOCUMENTED EXCEPTIONS, and where they are in the statements: a record whose `src` does not resolve (its service is not
registered on the restoring interpreter; or it has no `src` at all — a machine started by `invoke` on the async engine,
an in-flight service) is not rebuilt but PARKED.  `WFLive svc t` therefore asks that every live child's key resolves
and that parked records do not; `AllAvail svc s` is "no exception applies anywhere in the tree".

* `tree_restore_snap`          restore ∘ snap = id on every well-formed live hierarchy — parked records included (they
                               stay parked, verbatim, with their systemIds)
* `tree_restore_wf`            what `from_snapshot` builds from a decoded snapshot is well-formed (for ANY `svc`)
* `tree_snap_restore`          snap ∘ restore = id (re-snapshot reproduces the snapshot) when every record resolves
* `tree_cycle_fixed`, `tree_repeated_cycles`, `tree_repeated_cycles_exact`
                               any number of save/restore cycles: from the first cycle on the snapshot no longer changes,
                               whatever services are missing; with every service present it never changes at all
* `tree_registry_after_restore`, `tree_registered_iff`
                               the registry maps exactly the systemIds of the snapshot whose actor came back alive, at any
                               depth, to the recorded ids; those that name a parked actor are kept pending; the rest is dropped
* `tree_degraded_cycle`        one cycle with services missing: live records re-snapshotted, parked records VERBATIM behind
                               them, `system` = pending ++ live = a permutation of the entries that name an actor of the tree;
                               no record id lost or invented
* `tree_asis_loses_grandchild_systemid` (F60, repaired in the library), `tree_asis_drops_systemid_of_parked_actor` (F62, open):
                               `from_snapshot` before the repairs -/
section Trees
open XSM.SnapTree
variable {σ : Type}

/-- **restore ∘ snap = id**, all hierarchies, unbounded depth and width -/
theorem tree_restore_snap (svc : String → Bool) (t : Live σ) (h : WFLive svc t) :
    restoreTree svc (snapTree t) = t :=
  restore_snapTree svc t h

/-- `from_snapshot` builds a well-formed hierarchy from any decoded snapshot, whatever services are registered -/
theorem tree_restore_wf (svc : String → Bool) (s : Snap σ) (h : WFSnap s) : WFLive svc (restoreTree svc s) :=
  wfLive_restore svc s h

/-- **re-snapshot idempotence**: `snap (restore s) = s` when no documented exception applies -/
theorem tree_snap_restore (svc : String → Bool) (s : Snap σ) (hw : WFSnap s) (ha : AllAvail svc s) (hl : SysLive svc s) :
    snapTree (restoreTree svc s) = s :=
  snap_restoreTree svc s hw ha hl

/-- whatever is missing from `services`: the snapshot after one cycle is a fixed point of further cycles -/
theorem tree_cycle_fixed (svc : String → Bool) (s : Snap σ) (h : WFSnap s) :
    cycle svc (cycle svc s) = cycle svc s := by
  unfold cycle
  rw [restore_snapTree svc (restoreTree svc s) (wfLive_restore svc s h)]

/-- **repeated cycles**, any `services`: `n+1` cycles give what one cycle gives -/
theorem tree_repeated_cycles (svc : String → Bool) (s : Snap σ) (h : WFSnap s) (n : Nat) :
    cycles svc (n + 1) s = cycle svc s := by
  induction n with
  | zero => rfl
  | succ n ih =>
    show cycle svc (cycles svc (n + 1) s) = cycle svc s
    rw [ih]
    exact tree_cycle_fixed svc s h

/-- **repeated cycles**, every service present: nothing ever changes -/
theorem tree_repeated_cycles_exact (svc : String → Bool) (s : Snap σ) (hw : WFSnap s) (ha : AllAvail svc s)
    (hl : SysLive svc s) (n : Nat) : cycles svc n s = s := by
  induction n with
  | zero => rfl
  | succ n ih =>
    show cycle svc (cycles svc n s) = s
    rw [ih]
    exact snap_restoreTree svc s hw ha hl

/-- **the registry after a restore**: exactly the entries of the snapshot whose actor came back alive (`liveIn`: its
    record and the records of all its ancestors resolve), at any depth; the entries that name a parked actor, or an actor
    inside a parked record, are kept pending; every other entry (it names nothing in the tree) is dropped -/
theorem tree_registry_after_restore (svc : String → Bool) (s : Snap σ) :
    (restoreTree svc s).sys = s.system.filter (fun e => liveIn svc s.actors e.2) ∧
    (restoreTree svc s).pend = s.system.filter (fun e => !liveIn svc s.actors e.2 && parkedIn svc s.actors e.2) ∧
    (∀ aid, (restoreTree svc s).has aid = liveIn svc s.actors aid) ∧
    (∀ aid, (restoreTree svc s).isParked aid = parkedIn svc s.actors aid) :=
  match s with
  | .mk .. => ⟨sys_restoreTree svc _, pend_restoreTree svc _, has_restoreV repaired svc _, isParked_restoreV repaired svc _⟩

/-- a systemId is registered after the restore iff the snapshot records it for an actor that is alive again -/
theorem tree_registered_iff (svc : String → Bool) (s : Snap σ) (sid aid : String) :
    (sid, aid) ∈ (restoreTree svc s).sys ↔ (sid, aid) ∈ s.system ∧ (restoreTree svc s).has aid = true := by
  rw [(tree_registry_after_restore svc s).1, (tree_registry_after_restore svc s).2.2.1 aid, List.mem_filter]

/-- **one cycle with services missing** (the documented degraded mode): the payload is untouched; the records of the
    actors that came back are re-snapshotted, the parked records follow VERBATIM; `system` is pending ++ live, a
    permutation of the snapshot's entries that name an actor of the tree; the record ids are a permutation of the
    snapshot's: nothing is lost, nothing is invented -/
theorem tree_degraded_cycle (svc : String → Bool) (s : Snap σ) (h : WFSnap s) :
    (cycle svc s).own = s.own ∧
    (cycle svc s).actors = snapKids (restoreKids repaired svc s.actors) ++ s.actors.filter (fun r => !avail svc r.2.1) ∧
    (cycle svc s).system = (restoreTree svc s).pend ++ (restoreTree svc s).sys ∧
    (cycle svc s).system.Perm (s.system.filter (fun e => liveIn svc s.actors e.2 || parkedIn svc s.actors e.2)) ∧
    ((cycle svc s).actors.map (·.1)).Perm (s.actors.map (·.1)) := by
  obtain ⟨h1, h2, h3⟩ := cycle_parts svc s h
  refine ⟨h1, h2, h3, ?_, ?_⟩
  · rw [h3, sys_restoreTree, pend_restoreTree]
    exact filter_or_perm _ _ _
  · rw [h2, List.map_append, snapKids_ids, restoreKids_ids]
    simp only [parkedOf, ← List.map_append]
    exact (List.filter_append_perm (fun r => avail svc r.2.1) s.actors).map _

/-- witnesses: a root whose child `r:a` has a child `r:a:g` registered as `G1`; a root whose child `r:a` is `S1` -/
def exDeep : Snap Unit := .mk () [("r:a", some "k1", .mk () [("r:a:g", some "k2", .mk () [] [])] [])] [("G1", "r:a:g")]
def exFlat : Snap Unit := .mk () [("r:a", some "k1", .mk () [] [])] [("S1", "r:a")]

/-- **F60** (repaired by `48e7e52`): before the repair `from_snapshot` looked a `system` entry up among the DIRECT children
    only — the grandchild is restored, its systemId is not, and the re-snapshot has lost the entry; the repaired lookup keeps it -/
theorem tree_asis_loses_grandchild_systemid :
    (restoreAsIs (fun _ => true) exDeep).has "r:a:g" = true ∧
    (restoreAsIs (fun _ => true) exDeep).sys = [] ∧
    (snapTree (restoreAsIs (fun _ => true) exDeep)).system = [] ∧
    (restoreTree (fun _ => true) exDeep).sys = [("G1", "r:a:g")] ∧
    (snapTree (restoreTree (fun _ => true) exDeep)).system = exDeep.system := by
  refine ⟨by decide, by decide, by decide, by decide, by decide⟩

/-- **F62** (open; `keepPend = false` is also what the library does today): with the service of `r:a` missing the code parks
    the record and re-emits it verbatim, but drops the systemId that names it; the proposed repair carries it forward -/
theorem tree_asis_drops_systemid_of_parked_actor :
    (restoreAsIs (fun _ => false) exFlat).parked.map (·.1) = ["r:a"] ∧
    (snapTree (restoreAsIs (fun _ => false) exFlat)).actors.map (·.1) = ["r:a"] ∧
    (snapTree (restoreAsIs (fun _ => false) exFlat)).system = [] ∧
    (snapTree (restoreTree (fun _ => false) exFlat)).system = [("S1", "r:a")] := by
  refine ⟨by decide, by decide, by decide, by decide⟩

/-- the hypotheses are satisfiable (nothing is vacuous): the witness snapshot is well-formed, every record resolves, every
    `system` entry names an actor that comes back; hence what `from_snapshot` builds from it is a well-formed hierarchy -/
theorem tree_hypotheses_hold_of_example :
    WFSnap exDeep ∧ AllAvail (fun _ => true) exDeep ∧ SysLive (fun _ => true) exDeep ∧
    WFLive (fun _ => true) (restoreTree (fun _ => true) exDeep) ∧ WFLive (fun _ => false) (restoreTree (fun _ => false) exDeep) := by
  have hw : WFSnap exDeep := by
    simp [exDeep, WFSnap, WFRecs]
  refine ⟨hw, ?_, ?_, tree_restore_wf _ _ hw, tree_restore_wf _ _ hw⟩
  · simp [exDeep, AllAvail, AllAvailRecs, avail]
  · simp [exDeep, SysLive, SysLiveRecs, liveIn, liveInSnap, avail]

end Trees

end XSM.C12

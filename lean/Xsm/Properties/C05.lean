import Xsm.Proofs.Trace
import Xsm.Proofs.Pure
import Xsm.Proofs.AgreeEx
/-!
# C05 — sync, async and pure engines compute the same behaviour

What is proved here (about the model; the tie to the code is the correspondence check, and the
cross-engine monitor compares the two real engines directly at every drained point):

* the whole transition machinery — selection, planning, exit/transition/entry execution, eventless
  settling — is ONE definition parameterised by `Flavor`, and the flavour is irrelevant whenever the
  triggering event is known (`execute_flavor_agree`, `processEvent_flavor_agree`,
  `transientLoop_flavor_agree`): since the fix commit that forwards the real event to
  default-descent entries, the two engines differ only in the synthetic event name used during
  `start()` and in queue bookkeeping (`hooksFlagged` vs `hooksAsync`: the async hooks additionally
  count and mark self-raised events for the chain breaker).
* selection does not depend on the engine at all: `selectTransitions` has no `Flavor` argument.

The pure API (`initial_transition` / `transition`, with the repairs of findings F4, F5, F32) is modelled in
`Xsm/Model/Pure.lean` FROM the sync engine's own definitions (the probe is a `SyncInterpreter` subclass):
see the second section of this file, "the pure functions".

Agreement of whole runs (drain discipline `drainLoop` vs `asyncDrain`) is proved in the last section,
"whole runs" (`send_agree`, `start_agree`, `run_agree`): the two engines bound different things once
`maxIterations` is reached (C13), so whole-run agreement holds for cut-free runs only; the monitor validates
it on the real engines. Each side condition is necessary: the three examples that close the file violate
`CutFree` (`burstM`), `StartBlind` (`uTag`) and `NoCoroutine` (`uCo`) in turn, and the runs differ.
-/
namespace XSM.C05
open XSM

/-- one entry is flavour-independent when the triggering event is known -/
theorem enterOne_flavor (h : Hooks) (m : Machine) (t : String) (s : St) (e : Entry) :
    enterOne h .sync m (some t) s e = enterOne h .async m (some t) s e := by
  unfold enterOne
  simp only [entryEvName_some]

/-- one exit is flavour-independent when the triggering event is known -/
theorem exitOne_flavor (h : Hooks) (m : Machine) (t : String) (s : St) (p : Path) :
    exitOne h .sync m (some t) s p = exitOne h .async m (some t) s p := by
  unfold exitOne
  simp only [exitEvName_some]

/-- **the same transition, executed by either engine with the same hooks, gives the same state** —
    configuration, history, context, queue, status, error flag and the ordered list of executed
    actions with their triggering event -/
theorem execute_flavor_agree (h : Hooks) (m : Machine) (ev : Ev) (pl : Plan) (s : St) :
    execute h .sync m ev pl s = execute h .async m ev pl s := by
  have hx : (fun s p => exitOne h .sync m (some ev.type) s p) = (fun s p => exitOne h .async m (some ev.type) s p) := by
    funext s p; exact exitOne_flavor h m _ s p
  have he : (fun s e => enterOne h .sync m (some ev.type) s e) = (fun s e => enterOne h .async m (some ev.type) s e) := by
    funext s e; exact enterOne_flavor h m _ s e
  unfold execute executeCore runPlan
  simp only [show exitOne h Flavor.sync m (some ev.type) = exitOne h Flavor.async m (some ev.type) from hx,
    show enterOne h Flavor.sync m (some ev.type) = enterOne h Flavor.async m (some ev.type) from he]

/-- an event is processed identically by both engines (same hooks, same state) -/
theorem processEvent_flavor_agree (h : Hooks) (m : Machine) (u : UEnv) (ev : Ev) (s : St) :
    processEvent h .sync m u ev s = processEvent h .async m u ev s := by
  unfold processEvent
  cases selectTransitions m s.cfg (u.genv s.ctx ev.type) ev with
  | error e => rfl
  | ok sel =>
    simp only [execute_flavor_agree]

/-- eventless settling is identical in both engines -/
theorem transientLoop_flavor_agree (h : Hooks) (m : Machine) (u : UEnv) :
    ∀ (n : Nat) (s : St), transientLoop h .sync m u n s = transientLoop h .async m u n s := by
  intro n
  induction n with
  | zero => intro s; rfl
  | succ n ih =>
    intro s
    simp only [transientLoop]
    split
    · rfl
    · cases selectTransitions m s.cfg (u.genv s.ctx "") (.user "") with
      | error e => rfl
      | ok sel =>
        simp only
        split
        · rw [processEvent_flavor_agree, ih]
        · rfl

/-- selection has no engine parameter at all: it is the same function for both engines (and `can`) -/
theorem selection_engine_independent (m : Machine) (cfg : List Path) (env : GEnv) (ev : Ev) :
    selectTransitions m cfg env ev = selectTransitions m cfg env ev := rfl

/-- the two engines' hooks hand the SAME user registry and the SAME guard evaluator to actions;
    they differ only in the send functions (queue bookkeeping) and in refusing coroutine actions -/
theorem hooks_differ_only_in_sends (u : UEnv) (m : Machine) :
    (hooksFlagged u m).act = (hooksAsync u m).act ∧ (hooksFlagged u m).geval = (hooksAsync u m).geval ∧
    (hooksFlagged u m).act = (hooksAsyncStart u m).act ∧ (hooksFlagged u m).geval = (hooksAsyncStart u m).geval :=
  ⟨rfl, rfl, rfl, rfl⟩

/-! ## The pure functions (`initial_transition`, `transition`; `Xsm/Model/Pure.lean`)

The probe is the sync engine over `pureEnv u` (user actions recorded, never called; `assign` / `raise` /
`choose` interpreted by the engine's own built-in path; nothing scheduled). `pureInitial m u` is
`probe.start()`, `pureTransition m u snap ev` is `probe.send(ev)` from the probe restored from `snap`,
`pureChain` chains the calls as a caller does. A call returns `.ok (snapshot, reported action names)` or
`.error e` (the exception it raises). What is proved, for every machine, user environment and event list:

* `pure_runs_no_user_code`, `pure_act_outcomes_ignored` — what an action DOES never matters;
* `pure_agrees_with_sync`, `pure_agrees_with_sync_stepwise` — the formal counterpart of the monitor
  `c05_pure`: under the API's premise `ActsQuiet u` the chained pure calls return, call by call, exactly
  what the sync engine's `start()` / `send()` produce (configuration, status, context, remembered history,
  reported = executed user actions in order) up to and including the first call that raises — bound cuts
  included, because the probe IS the engine and cuts the same chains;
* `pure_done_is_terminal` (F5 repaired), `pure_snapshot_roundtrip` (F4 repaired: the history travels).

`pure_inputs_untouched` (the machine definition and the snapshot handed in are not modified) holds by
construction in a functional model — `pureTransition` returns new values and has nothing to mutate — so no
theorem is stated for it; on the implementation it is checked by fingerprints (`multichecks.c05_pure`).

Only validated (tie `harness/xsmverif/c05pure.py`, `driver_pure`): that the model is the code; the built-in
entries of the reported list (the engine model logs user actions only); non-integer context values, `output`,
event payloads, delays, and the built-ins whose only effect is outside the engine model. -/

open XSM.Pure XSM.Snap

/-- **the pure functions run no user code (1): what an action does is never consulted.** Two user
    environments with the same guards that REGISTER the same action names (whatever those actions do:
    change the context, raise, be coroutines) give the same initial snapshot, the same result of every
    `transition()` call and hence of every chain of calls. -/
theorem pure_runs_no_user_code (m : Machine) (u1 u2 : UEnv) (hg : u1.g = u2.g) (hr : SameRegistered u1 u2) :
    pureInitial m u1 = pureInitial m u2 ∧
    (∀ p ev, pureTransition m u1 p ev = pureTransition m u2 p ev) ∧
    (∀ p evs, pureChain m u1 p evs = pureChain m u2 p evs) := by
  have h : pureEnv u1 = pureEnv u2 := pureEnv_congr hg hr
  have ht : ∀ p ev, pureTransition m u1 p ev = pureTransition m u2 p ev := by
    intro p ev; unfold pureTransition; rw [h]
  refine ⟨by unfold pureInitial; rw [h], ht, ?_⟩
  intro p evs
  induction evs generalizing p with
  | nil => rfl
  | cons e es ih => simp only [pureChain, ht, ih]

/-- **… (2), at the level of the hooks:** the only answers the probe's action hook ever gives are
    "recorded, context exactly as it was" and "not a user action" (then the name is an unregistered
    built-in and the engine's built-in path runs); it never fails, never is a coroutine, never returns
    another context. Its sends only enqueue (`enqueueQ true`: marked, as every send the sync engine makes while
    `_is_processing` is set; nothing is delivered anywhere else). -/
theorem pure_act_outcomes_ignored (u : UEnv) (m : Machine) (n : String) (c : Ctx) (e : String) :
    ((pureHooks u m).act n c e = .ok c ∨
      ((pureHooks u m).act n c e = .missing ∧ u.a n c e = .missing ∧ (canonicalBuiltin n).isSome = true)) ∧
    (pureHooks u m).snd = enqueueQ true ∧ (pureHooks u m).sndRaise = enqueueQ true :=
  ⟨pureAct_cases u n c e, rfl, rfl⟩

/-- **the pure functions agree with the sync engine** (the formal counterpart of the monitor). For a user
    environment in which context changes only through `assign` (`ActsQuiet`: every action is a registered
    function that returns normally and leaves the context alone, or a built-in the user did not override):
    `initial_transition` returns what `start()` produces, and — when `start()` does not raise — the chain
    of `transition()` calls over ANY event list returns, call by call, what `send()` produces from the
    engine's own previous state (`syncChain`: `cmdO .sync`, observed through `capture` / `reported`):
    same configuration, status, context and remembered history, the reported list equal to the executed
    user actions in order, and the same exception at the first call that raises (where both chains end).
    Covered: every run up to and including the first raising call; `maxIterations` cuts included. -/
theorem pure_agrees_with_sync (m : Machine) (u : UEnv) (hu : ActsQuiet u) (evs : List Ev) :
    pureInitial m u = observe (syncStart m u {}) ∧
    ((syncStart m u {}).err = none →
      pureChain m u (capture (syncStart m u {})) evs = syncChain m u (syncStart m u {}) evs) := by
  refine ⟨by unfold pureInitial; rw [pureEnv_of_quiet hu], fun he => ?_⟩
  exact pureChain_eq_syncChain m u hu evs _ (syncStart_quiescent m u he)

/-- the same, spelled out for runs in which no call raises: the pure API's k-th result is
    `.ok (capture sₖ, reported sₖ)` where `sₖ` is the sync engine's state after the k-th `send` -/
theorem pure_agrees_with_sync_stepwise (m : Machine) (u : UEnv) (hu : ActsQuiet u) (evs : List Ev)
    (h0 : (syncStart m u {}).err = none)
    (hok : ∀ x ∈ syncStates m u (syncStart m u {}) evs, x.err = none) :
    pureInitial m u = .ok (capture (syncStart m u {}), reported (syncStart m u {})) ∧
    pureChain m u (capture (syncStart m u {})) evs =
      (syncStates m u (syncStart m u {}) evs).map (fun x => .ok (capture x, reported x)) := by
  obtain ⟨h1, h2⟩ := pure_agrees_with_sync m u hu evs
  exact ⟨by rw [h1, observe_of_ok h0], by rw [h2 h0, syncChain_of_ok m u evs _ hok]⟩

/-- every state the sync engine is in between two calls (none of which raised) is `Quiescent`: nothing
    queued, status running or done, remembered lists in recorded order — what `capture` loses nothing of -/
theorem sync_states_quiescent (m : Machine) (u : UEnv) (h0 : (syncStart m u {}).err = none) :
    Quiescent m (syncStart m u {}) ∧
    ∀ (s : St) (e : Ev), Quiescent m s → (cmdO .sync m u s e).err = none → Quiescent m (cmdO .sync m u s e) :=
  ⟨syncStart_quiescent m u h0, fun _ e hq he => syncSend_quiescent m u e _ hq.obsReset he⟩

/-- **a finished snapshot is terminal (F5 repaired):** `transition()` on a snapshot whose status is not
    "active" returns it unchanged, reports no actions and raises nothing — whatever the event, the
    machine and the user code; so does any chain of calls. -/
theorem pure_done_is_terminal (m : Machine) (u : UEnv) (p : PureSnap) (h : p.status ≠ "active") :
    (∀ ev, pureTransition m u p ev = .ok (p, [])) ∧
    (∀ evs, pureChain m u p evs = evs.map (fun _ => .ok (p, []))) := by
  have ht : ∀ ev, pureTransition m u p ev = .ok (p, []) := by
    intro ev; unfold pureTransition; rw [if_neg h]
  refine ⟨ht, fun evs => ?_⟩
  induction evs with
  | nil => rfl
  | cons e es ih => simp only [pureChain, ht, ih, List.map_cons]

/-- **capture ∘ restore and restore ∘ capture (F4 repaired: the history travels with the snapshot).**
    Restoring an active snapshot whose remembered lists are in recorded order and capturing again gives
    the snapshot back — configuration, context, status and history; and restoring what was captured from
    a running quiescent engine state gives that state back (with the observation of the previous call
    cleared), so nothing the next call depends on is lost. `DISorted` holds for every snapshot the API
    returns (`recorded_lists_sorted`, C12: `_record_history` only ever stores such lists). -/
theorem pure_snapshot_roundtrip (m : Machine) :
    (∀ p : PureSnap, p.status = "active" → DISorted m p.hist → capture (restorePure m p) = p) ∧
    (∀ s : St, Quiescent m s → s.status = "running" → restorePure m (capture s) = obsReset s) :=
  ⟨capture_restore m, restore_capture m⟩

/-! ### Non-vacuity: a machine with a `raise`, a `choose` (with an `assign`) and a history state

The machine `pM`, the user environments `pU` / `pUwild` and the event list `pEvs` are defined (and drawn) in
`Xsm/Proofs/AgreeEx.lean`, where its runs are evaluated (`PureEx.run_facts`). -/
open PureEx

theorem pU_quiet : ActsQuiet pU := by
  intro n c e
  by_cases h : (canonicalBuiltin n).isSome = true
  · right; exact ⟨by simp only [pU, h, if_true], h⟩
  · left; simp only [pU, h]; rfl

/-- `initial_transition`: the initial configuration and the entry actions, nothing remembered yet -/
example : okOf (pureInitial pM pU) = some (snapOf [[], ["A"], ["A", "a1"]] 0 "active" [], ["en:A", "en:a1"]) := by
  rw [(pure_agrees_with_sync_stepwise pM pU pU_quiet pEvs run_facts.1.1.1 run_facts.1.1.2).1,
    run_facts.1.2.1.1, run_facts.1.2.1.2]
  rfl

/-- the chain `N, OUT, BACK, OUT, GO, X`. `BACK` (third call) re-enters `a2`: the history recorded by the
    SECOND call travelled in the snapshot (F4). `GO` (fifth call): `choose` is expanded (`yes`, not `no`),
    `assign` sets `n`, the raised `NEXT` is processed within the same call and completes the machine
    (`en:f`, status "done") (F32). `X` (sixth call) is ignored by the finished snapshot (F5). -/
example : (pureChain pM pU (snapOf [[], ["A"], ["A", "a1"]] 0 "active" []) pEvs).map okOf =
    [some (snapOf [[], ["A"], ["A", "a2"]] 0 "active" [(["A"], [["A", "a1"]])], ["en:a2"]),
     some (snapOf [[], ["o"]] 0 "active" [(["A"], [["A", "a2"]])], ["en:o"]),
     some (snapOf [[], ["A"], ["A", "a2"]] 0 "active" [(["A"], [["A", "a2"]])], ["en:A", "en:a2"]),
     some (snapOf [[], ["o"]] 0 "active" [(["A"], [["A", "a2"]])], ["en:o"]),
     some (snapOf [[], ["f"]] 1 "done" [(["A"], [["A", "a2"]])], ["tr", "yes", "after", "en:f"]),
     some (snapOf [[], ["f"]] 1 "done" [(["A"], [["A", "a2"]])], [])] := by
  -- by `pure_agrees_with_sync_stepwise` the chain is the sync engine's run, observed
  rw [← run_facts.1.2.1.1,
    (pure_agrees_with_sync_stepwise pM pU pU_quiet pEvs run_facts.1.1.1 run_facts.1.1.2).2, List.map_map]
  exact run_facts.1.2.2.1

/-- the hypotheses of `pure_agrees_with_sync_stepwise` hold on this run (no call of the sync engine raises),
    and its conclusion, evaluated: the sync engine goes through the same six observations -/
example : (syncStart pM pU {}).err = none ∧ ∀ x ∈ syncStates pM pU (syncStart pM pU {}) pEvs, x.err = none :=
  run_facts.1.1
example : (syncStates pM pU (syncStart pM pU {}) pEvs).map (fun x => ((capture x).cfg, (capture x).status, reported x)) =
    [([[], ["A"], ["A", "a2"]], "active", ["en:a2"]), ([[], ["o"]], "active", ["en:o"]),
     ([[], ["A"], ["A", "a2"]], "active", ["en:A", "en:a2"]), ([[], ["o"]], "active", ["en:o"]),
     ([[], ["f"]], "done", ["tr", "yes", "after", "en:f"]), ([[], ["f"]], "done", [])] := run_facts.1.2.2.2

/-- `pure_runs_no_user_code`, instantiated: user code that raises, rewrites the context or is a coroutine
    registers the same names as the marker actions, so the pure results are the same … -/
example : SameRegistered pU pUwild := pUwild_sameRegistered
example : (pureChain pM pUwild (snapOf [[], ["A"], ["A", "a1"]] 0 "active" []) pEvs).map okOf =
    (pureChain pM pU (snapOf [[], ["A"], ["A", "a1"]] 0 "active" []) pEvs).map okOf := by
  rw [(pure_runs_no_user_code pM pU pUwild rfl pUwild_sameRegistered).2.2]
/-- … while the REAL engine, which does run that code, ends elsewhere (the premise `ActsQuiet` of
    `pure_agrees_with_sync` is necessary: here the context differs after `GO`, and `yes` being a coroutine
    makes the sync engine raise) -/
example : ((syncStates pM pUwild (syncStart pM pUwild {}) pEvs).map (fun x => (x.ctx, x.err.isSome))) ≠
    ((syncStates pM pU (syncStart pM pU {}) pEvs).map (fun x => (x.ctx, x.err.isSome))) := run_facts.2.1

/-- `pure_done_is_terminal` and `pure_snapshot_roundtrip` on the witness: the snapshot after `GO` is not
    active; the snapshot after `OUT` is active with a sorted history and survives restore + capture -/
example : (snapOf [[], ["f"]] 1 "done" [(["A"], [["A", "a2"]])]).status ≠ "active" := by decide
example : capture (restorePure pM (snapOf [[], ["o"]] 0 "active" [(["A"], [["A", "a2"]])])) =
    snapOf [[], ["o"]] 0 "active" [(["A"], [["A", "a2"]])] := by decide
example : DISorted pM [(["A"], [["A", "a2"]])] := by
  intro kv hkv
  simp only [List.mem_singleton] at hkv
  subst hkv
  exact List.pairwise_singleton _ _

/-! ## Whole runs: the sync and the async engine agree as long as neither bound is reached

Helper lemmas: `Xsm/Proofs/Agree.lean`. The two engines are ONE set of definitions; they differ in

* **queue bookkeeping** — the async hooks count every self-sent event in `raiseDepth` and flag the queued
  entry `self := true` (for the chain breaker); the sync hooks flag it too (`_raised_in_drain`: also during
  `start()`, where the async engine flags nothing) and the sync drain counts the flagged entries it dequeues
  in a local counter instead. `eraseQ` forgets exactly the counter and the flags. `errors` (the async engine's count of logged failures; the sync
  engine raises to the caller instead) is NOT erased: under the hypotheses below it is equal on both sides.
* **the queue of an interpreter that is no longer running** — `enqueue` refuses, `send` returns at once, so
  it is never read again; the sync drain clears it, the async loop just exits and leaves it. `dropDead`
  forgets it. (`start()` is the one command that would resurrect it; runs start from the empty state.)
* **the synthetic event of `start()`** — entry actions run by `start()` are handed `entry.<state id>` by the
  sync engine and `___xstate_statemachine_init___` by the async one: the records differ in that tag
  (`StartTag`), and user code that looks at the event name could tell them apart (`StartBlind` excludes it).
* **coroutine actions** — refused by the sync engine (`NotSupportedError`; inside a `choose` branch the
  refusal is even contained and only logged), awaited by the async one: `NoCoroutine` excludes them.
* **what happens at the bound and on failure** — the sync drain purges the MARKED events (those enqueued while
  a drain was in flight, or during `start()`) when a marked event is dequeued as the `maxIterations + 1`-st of
  its drain since the last cut, and goes on with the external ones (second repair of F10), the async breaker
  purges the chain once MORE than `maxIterations` self-sent events were counted since the counter was last
  reset — the same policy, but the two counters are not the same number (the async one counts at ENQUEUE time
  and is reset when a chain ends, the sync one counts at DEQUEUE time and is reset by a cut only; the async
  `start()` marks nothing); a failing macrostep aborts the sync drain (the rest stays queued, the error
  is raised) while the async loop logs it and goes on. So agreement is claimed for runs in which neither
  bound is reached (`sendTrips … = 0`, `sendCut … = false`; `CutFree`) and the sync engine raises nothing
  (`(syncSend …).err = none`; `NoFail`) — by `Sim.err` the async engine then logs nothing either.
* **the fuel of the async MODEL** — `asyncDrain` recurses on a fuel constant the code does not have (status
  "HANG" when it runs out, C13 §3). A sync drain may legitimately run longer than that constant (the number
  of events it processes grows with the number of external events queued at its start), so wherever the queue at the start of the
  drain is not known to be empty the statements assume the model's fuel does not run out
  (`… .status ≠ "HANG"`: `send_agree_from`, `start_agree`, last clause of `CutFree`); from an idle state
  (`send_agree`, every command of a whole run) and under `ShortChains` this is proved, not assumed.

All side conditions are decidable predicates over the run; `ShortChains` ("fewer than `maxIterations` events
sent to itself per command") implies `CutFree` (`send_bounds_of_short_chain`, `run_agree_of_short_chains`). -/
section whole_runs
open XSM.Bisim XSM.Term

/-- `eraseQ`-equality, spelled out: everything equal but the counter and the `self` flags -/
theorem eraseQ_eq_iff (a b : St) :
    eraseQ a = eraseQ b ↔
      (a.cfg = b.cfg ∧ a.hist = b.hist ∧ a.status = b.status ∧ a.ctx = b.ctx ∧ a.err = b.err ∧
       a.errors = b.errors ∧ a.trace = b.trace ∧ a.queue.map (·.ev) = b.queue.map (·.ev) ∧
       a.expCut = b.expCut) := by
  rw [← sim_eq_iff]
  exact ⟨fun h => ⟨h.cfg, h.hist, h.status, h.ctx, h.err, h.errors, h.trace, h.queue, h.expCut⟩,
    fun ⟨h1, h2, h3, h4, h5, h6, h7, h8, h9⟩ => ⟨h1, h2, h3, h4, h5, h6, h7, h8, h9⟩⟩

/-- the command-level relation, spelled out: as above, the traces related by `T`, and the queues compared
    only while the interpreter is running -/
theorem agree_spelled (T : List String → List String → Prop) (a b : St) :
    Agrees T a b ↔
      (a.cfg = b.cfg ∧ a.hist = b.hist ∧ a.status = b.status ∧ a.ctx = b.ctx ∧ a.err = b.err ∧
       a.errors = b.errors ∧ T a.trace b.trace ∧
       (a.status = "running" → a.queue.map (·.ev) = b.queue.map (·.ev)) ∧ a.expCut = b.expCut) := agree_iff a b

/-- … and with equal traces it is equality of the erasures of what a caller can see -/
theorem agree_eq_eraseQ (a b : St) : Agrees Eq a b ↔ eraseQ (dropDead a) = eraseQ (dropDead b) :=
  agree_eq_iff a b

/-- **(1a) the hooks differ only in their sends, and those commute with the erasure** (up to the erasure: the
    sync hooks mark what they enqueue, too) -/
theorem sends_commute_with_eraseQ (u : UEnv) (m : Machine) (e : Ev) (s : St) :
    eraseQ ((hooksAsync u m).snd e s) = eraseQ ((hooksFlagged u m).snd e (eraseQ s)) ∧
    eraseQ ((hooksAsync u m).sndRaise e s) = eraseQ ((hooksFlagged u m).sndRaise e (eraseQ s)) ∧
    eraseQ ((hooksAsyncStart u m).snd e s) = eraseQ ((hooksFlagged u m).snd e (eraseQ s)) ∧
    eraseQ ((hooksAsyncStart u m).sndRaise e s) = eraseQ ((hooksFlagged u m).sndRaise e (eraseQ s)) := by
  -- the async sends enqueue with some flag into a state with some counter; the erasure forgets both
  have h : ∀ (b : Bool) (k : Nat),
      eraseQ (enqueueQ b e { s with raiseDepth := k }) = eraseQ (enqueueQ true e (eraseQ s)) := by
    intro b k
    unfold enqueueQ eraseQ
    by_cases hr : s.status = "running"
    · simp [hr]
    · simp [hr]
  exact ⟨h true _, h true _, h false s.raiseDepth, h false s.raiseDepth⟩

/-- **(1b) hook-level simulation.** With the async engine's hooks (`hooksAsync` while the loop is
    processing, `hooksAsyncStart` during `start()`) on one side and the sync engine's on the other, every
    layer of the EXECUTE side takes `eraseQ`-equal states to `eraseQ`-equal states — for every action list,
    plan, event and fuel (no coroutine actions: the sync engine refuses those). -/
theorem hooks_simulation (u : UEnv) (m : Machine) (hu : NoCoroutine u) (hA : Hooks)
    (hh : hA = hooksAsync u m ∨ hA = hooksAsyncStart u m) {a b : St} (h : eraseQ a = eraseQ b) :
    (∀ as evType, eraseQ (execActions hA as evType a) = eraseQ (execActions (hooksFlagged u m) as evType b)) ∧
    (∀ ev pl, eraseQ (runPlan hA .async m ev pl a) = eraseQ (runPlan (hooksFlagged u m) .sync m ev pl b)) ∧
    (∀ ev pl, eraseQ (execute hA .async m ev pl a) = eraseQ (execute (hooksFlagged u m) .sync m ev pl b)) ∧
    (∀ ev, eraseQ (processEvent hA .async m u ev a) = eraseQ (processEvent (hooksFlagged u m) .sync m u ev b)) ∧
    (∀ n, eraseQ (transientLoop hA .async m u n a) = eraseQ (transientLoop (hooksFlagged u m) .sync m u n b)) := by
  have hT : ∀ (r : String) (l1 l2 : List String), l1 = l2 → r :: l1 = r :: l2 := fun _ _ _ h => by rw [h]
  have hs : ∀ t, HSim Eq Eq hA (hooksFlagged u m) t t := by
    intro t
    rcases hh with rfl | rfl
    · exact hsim_async hT u hu m t
    · exact hsim_asyncStart hT u hu m t
  have h' := (sim_eq_iff a b).2 h
  exact ⟨fun as evType => (sim_eq_iff _ _).1 (execActions_sim (hs evType) as h'),
    fun ev pl => (sim_eq_iff _ _).1 (runPlan_sim _ _ m ev pl (hs _) h'),
    fun ev pl => (sim_eq_iff _ _).1 (execute_sim _ _ m ev pl (hs _) h'),
    fun ev => (sim_eq_iff _ _).1 (processEvent_sim _ _ m u ev (hs _) h'),
    fun n => (sim_eq_iff _ _).1 (transientLoop_sim _ _ m u (hs _) n a b h')⟩

/-- **(2, two states) one `send`.** From `Agrees`-related states (an async one and a sync one — e.g. the
    states two whole runs are in), if the async breaker does not trip while the event is digested, the sync
    drain is not cut (no marked event trips its bound), the sync `send` raises nothing, and the async
    MODEL's fuel does not run out (`hh`; the queues of `a` / `b` are arbitrary here, and the sync drain
    processes all of it), the states after the `send` are `Agrees`-related again. -/
theorem send_agree_from (m : Machine) (u : UEnv) (hu : NoCoroutine u) (T : List String → List String → Prop)
    (hT : ∀ r l1 l2, T l1 l2 → T (r :: l1) (r :: l2)) (e : Ev) {a b : St} (hs : Agrees T a b)
    (hh : (asyncSend m u e a).status ≠ "HANG")
    (ht : sendTrips m u e a = 0) (hc : sendCut m u e b = false) (he : (syncSend m u e b).err = none) :
    Agrees T (asyncSend m u e a) (syncSend m u e b) :=
  send_sim_gen hT hu e hs (fun _ => Or.inr hh) ht hc he

/-- **(2) `send_agree`.** For an idle running state `s` (nothing queued, counter 0): if the breaker does not
    trip during `asyncSend m u e s`, the drain of `syncSend m u e s` is not cut, and the sync
    `send` raises nothing (no macrostep of the drain fails — a failure would abort the sync drain with the rest
    still queued while the async loop logs it and goes on), both engines end with the same configuration,
    history, context, status, error flag and trace (same records, same order); the sync queue is empty; and if
    the machine is still running the states are `eraseQ`-equal outright, the async queue is empty too and its
    counter is back at 0 — the state is idle again. (`s.err = none` is not needed: a pending error makes the
    sync `send` raise.) -/
theorem send_agree (m : Machine) (u : UEnv) (hu : NoCoroutine u) (e : Ev) (s : St)
    (hq : s.queue = []) (hd : s.raiseDepth = 0) (_hr : s.status = "running")
    (ht : sendTrips m u e s = 0) (hc : sendCut m u e s = false) (he : (syncSend m u e s).err = none) :
    eraseQ (dropDead (asyncSend m u e s)) = eraseQ (dropDead (syncSend m u e s)) ∧
    (syncSend m u e s).queue = [] ∧
    ((asyncSend m u e s).status = "running" →
      eraseQ (asyncSend m u e s) = eraseQ (syncSend m u e s) ∧
      (asyncSend m u e s).queue = [] ∧ (asyncSend m u e s).raiseDepth = 0) := by
  have hA : Agrees Eq (asyncSend m u e s) (syncSend m u e s) :=
    send_sim_idle (fun _ _ _ h => by rw [h]) hu e (Sim.refl (fun _ => rfl) s).agree (fun _ => hq) ht hc he
  refine ⟨(agree_eq_iff _ _).1 hA, syncSend_queue_nil e (fun _ => hq) he, fun hra => ?_⟩
  obtain ⟨q1, q2⟩ := asyncSend_quiet m u e s (fun _ => ⟨hq, hd⟩) hra
  exact ⟨(sim_eq_iff _ _).1 (hA.sim hra), q1, q2⟩

/-- **(2, usable form) short chains reach neither bound.** For an idle state: if the machine sends itself
    fewer than `maxIterations` events while `e` is digested (`asyncSelfSends`: every `raise` and every
    `done.state.*` delivered while the async loop is processing, over the whole chain), the breaker does not
    trip and the sync drain is not cut (`e` itself is external and does not count; fewer than `maxIterations`
    marked events come up). -/
theorem send_bounds_of_short_chain (m : Machine) (u : UEnv) (hu : NoCoroutine u) (e : Ev) (s : St)
    (hq : s.queue = []) (hd : s.raiseDepth = 0)
    (hshort : asyncSelfSends m u (asyncFuel m) (pushExt e s) < m.maxIterations) :
    sendTrips m u e s = 0 ∧ sendCut m u e s = false :=
  send_cutFree_of_short (T := Eq) (fun _ _ _ h => by rw [h]) hu e (Sim.refl (fun _ => rfl) s).agree
    (fun _ => ⟨hq, hd⟩) (fun _ => hshort)

/-- **(3) `start_agree`.** `start()` from any state `s`: if the breaker does not trip while the async loop
    digests what the initial entry and settling queued, the sync drain is not cut on it (these events are
    MARKED on the sync engine and count towards its bound), the async MODEL's fuel does not run out
    (`hh`) and the sync `start()` raises nothing, both engines end with the same configuration, history, context, status,
    error flag, (live) queue — and traces that agree record by record up to the start tag (`StartTag`: equal,
    or the same action tagged `___xstate_statemachine_init___` by the async engine and `entry.<state id>` by
    the sync engine). The sync queue is empty; a running async interpreter is idle. -/
theorem start_agree (m : Machine) (u : UEnv) (hu : NoCoroutine u) (hb : StartBlind m u) (s : St)
    (hh : (asyncStart m u s).status ≠ "HANG")
    (ht : asyncTrips m u (asyncFuel m) (asyncStartSettled m u s) = 0)
    (hc : drainCut m u (drainFuel m (syncStartSettled m u s)) 0 (syncStartSettled m u s) = false)
    (he : (syncStart m u s).err = none) :
    Agrees (TrRel (StartTag m)) (asyncStart m u s) (syncStart m u s) ∧
    (syncStart m u s).queue = [] ∧
    (s.raiseDepth = 0 → (asyncStart m u s).status = "running" →
      (asyncStart m u s).queue = [] ∧ (asyncStart m u s).raiseDepth = 0) :=
  ⟨start_sim hu hb (Sim.refl (trRel_refl_startTag m) s) hh ht hc he, syncStart_queue_nil s he,
   fun hd hr => asyncStart_quiet m u s hd hr⟩

/-- **(3, usable form)** what `start()` queues plus what the machine then sends itself fits `maxIterations`:
    neither bound is reached, and (if the sync `start()` raises nothing) the async model's fuel does not run
    out — all the hypotheses of `start_agree` -/
theorem start_bounds_of_short_chain (m : Machine) (u : UEnv) (hu : NoCoroutine u) (hb : StartBlind m u) (s : St)
    (hd : s.raiseDepth = 0)
    (hshort : (asyncStartSettled m u s).queue.length +
      asyncSelfSends m u (asyncFuel m) (asyncStartSettled m u s) ≤ m.maxIterations) :
    asyncTrips m u (asyncFuel m) (asyncStartSettled m u s) = 0 ∧
    drainCut m u (drainFuel m (syncStartSettled m u s)) 0 (syncStartSettled m u s) = false ∧
    ((syncStart m u s).err = none → (asyncStart m u s).status ≠ "HANG") :=
  ⟨(start_cutFree_of_short hu hb (Sim.refl (trRel_refl_startTag m) s) hd hshort).1,
   (start_cutFree_of_short hu hb (Sim.refl (trRel_refl_startTag m) s) hd hshort).2.1,
   start_noHang_of_short hu hb (Sim.refl (trRel_refl_startTag m) s) hd hshort⟩

/-- **(4) `run_agree`: whole runs.** `start()`, then the events of `evs` sent one by one (each once the
    previous one is digested; `cmd`: the command clears the error flag of the previous one). If neither bound
    is reached at any step (`CutFree`, decidable; it also says that the async MODEL's fuel constant suffices
    for `start()`) and the sync engine raises at no step (`NoFail`, decidable),
    then after `start()` the engines agree up to the start tag, and after EVERY prefix of `evs` they have the
    same configuration, history, context, status, error flag (none) and live queue (empty), and their traces
    are the traces of `start()` with the SAME new records on top (`SplitAt`). The idleness `send_agree` needs
    is derived, not assumed: a running async interpreter has an empty queue and its counter at 0. -/
theorem run_agree (m : Machine) (u : UEnv) (hu : NoCoroutine u) (hb : StartBlind m u) (evs : List Ev)
    (hc : CutFree m u evs) (hf : NoFail m u evs) :
    Agrees (TrRel (StartTag m)) (asyncStart m u {}) (syncStart m u {}) ∧
    ∀ k : Nat,
      Agrees (SplitAt (asyncStart m u {}).trace (syncStart m u {}).trace)
        ((evs.take k).foldl (cmd .async m u) (asyncStart m u {}))
        ((evs.take k).foldl (cmd .sync m u) (syncStart m u {})) ∧
      ((evs.take k).foldl (cmd .sync m u) (syncStart m u {})).err = none ∧
      ((evs.take k).foldl (cmd .sync m u) (syncStart m u {})).queue = [] ∧
      (((evs.take k).foldl (cmd .async m u) (asyncStart m u {})).status = "running" →
        ((evs.take k).foldl (cmd .async m u) (asyncStart m u {})).queue = [] ∧
        ((evs.take k).foldl (cmd .async m u) (asyncStart m u {})).raiseDepth = 0) := by
  refine ⟨start_agree_core hu hb evs hc hf, fun k => ?_⟩
  obtain ⟨h1, h2, h3⟩ := run_agree_core hu hb evs hc hf k
  exact ⟨h1, h2, h3, fun hr => async_run_quiet m u (evs.take k) hr⟩

/-- **(4, usable form)** short chains at every step (`ShortChains`, decidable, counted on the async run) and
    no failure imply `CutFree`, hence the agreement of the whole run -/
theorem run_agree_of_short_chains (m : Machine) (u : UEnv) (hu : NoCoroutine u) (hb : StartBlind m u)
    (evs : List Ev) (hs : ShortChains m u evs) (hf : NoFail m u evs) :
    CutFree m u evs ∧
    ∀ k : Nat,
      Agrees (SplitAt (asyncStart m u {}).trace (syncStart m u {}).trace)
        ((evs.take k).foldl (cmd .async m u) (asyncStart m u {}))
        ((evs.take k).foldl (cmd .sync m u) (syncStart m u {})) :=
  ⟨cutFree_of_shortChains hu hb evs hs hf,
   fun k => (run_agree_core hu hb evs (cutFree_of_shortChains hu hb evs hs hf) hf k).1⟩

/-! ### Non-vacuity: a parallel state, an `always` transition, a `raise`, a final state

The machine `wM`, the event list `wEvs` and the runs `runA` / `runS` are defined (and drawn) in
`Xsm/Proofs/AgreeEx.lean`, where their runs (and those of `burstM`) are evaluated (`WholeEx.run_facts`). -/
open WholeEx

/-- the marker environment of C13 (`u0`: every guard true, every action a marker; `raise` / `assign` /
    `choose` left to the built-ins) registers no coroutine and never looks at the event name -/
theorem u0_noCoroutine : NoCoroutine XSM.Term.Ex.u0 := by
  intro n c e c'
  unfold XSM.Term.Ex.u0
  simp only
  split <;> intro h <;> cases h
theorem u0_startBlind (m : Machine) : StartBlind m XSM.Term.Ex.u0 := fun _ _ _ => ⟨rfl, rfl⟩

/-- the hypotheses of `run_agree` hold on this run (`CutFree` through the usable criterion) … -/
example : CutFree wM XSM.Term.Ex.u0 wEvs :=
  (run_agree_of_short_chains wM _ u0_noCoroutine (u0_startBlind _) wEvs WholeEx.run_facts.1.1.2 WholeEx.run_facts.1.1.1).1
example : NoFail wM XSM.Term.Ex.u0 wEvs := WholeEx.run_facts.1.1.1
/-- … also by the usable criterion (`BOOT` queued by `start()`; one self-sent `PING` while `GO` is digested) -/
example : ShortChains wM XSM.Term.Ex.u0 wEvs := WholeEx.run_facts.1.1.2
/-- … so its conclusion holds at every prefix; evaluated, after the whole list: -/
example : (runA wM XSM.Term.Ex.u0 wEvs).cfg = (runS wM XSM.Term.Ex.u0 wEvs).cfg ∧
    (runA wM XSM.Term.Ex.u0 wEvs).status = (runS wM XSM.Term.Ex.u0 wEvs).status ∧
    (runA wM XSM.Term.Ex.u0 wEvs).hist = (runS wM XSM.Term.Ex.u0 wEvs).hist ∧
    (runA wM XSM.Term.Ex.u0 wEvs).ctx = (runS wM XSM.Term.Ex.u0 wEvs).ctx ∧
    (runA wM XSM.Term.Ex.u0 wEvs).errors = (runS wM XSM.Term.Ex.u0 wEvs).errors ∧
    (runS wM XSM.Term.Ex.u0 wEvs).cfg = [[], ["f"]] ∧ (runS wM XSM.Term.Ex.u0 wEvs).status = "done" := WholeEx.run_facts.1.2.1
/-- the records of the sends are the same, in the same order, and sit on top of the records of `start()` … -/
example : ∃ new, (runA wM XSM.Term.Ex.u0 wEvs).trace = new ++ (asyncStart wM XSM.Term.Ex.u0 {}).trace ∧
    (runS wM XSM.Term.Ex.u0 wEvs).trace = new ++ (syncStart wM XSM.Term.Ex.u0 {}).trace ∧
    new = ["#t:w,w.f", "en:f@FIN", "fin@FIN", "#recv:FIN", "#recv:X",
           "#t:w,w.P,w.P.A,w.P.B,w.P.A.a3,w.P.B.b2", "en:b2@PING", "ping@PING", "#recv:PING",
           "#t:w,w.P,w.P.A,w.P.B,w.P.B.b1,w.P.A.a3", "en:a3@", "hop@",
           "#t:w,w.P,w.P.A,w.P.B,w.P.B.b1,w.P.A.a2", "en:a2@GO", "go@GO", "#recv:GO"] :=
  ⟨wNew, WholeEx.run_facts.1.2.2.1.1, WholeEx.run_facts.1.2.2.1.2, rfl⟩
/-- … which differ in the start tag only (the `BOOT` raised by `P`'s entry is digested by `start()` itself) -/
example : (asyncStart wM XSM.Term.Ex.u0 {}).trace =
      ["#t:w,w.P,w.P.A,w.P.A.a1,w.P.B,w.P.B.b1", "boot@BOOT", "#recv:BOOT", "en:b1@___xstate_statemachine_init___",
       "en:a1@___xstate_statemachine_init___", "en:P@___xstate_statemachine_init___"] ∧
    (syncStart wM XSM.Term.Ex.u0 {}).trace =
      ["#t:w,w.P,w.P.A,w.P.A.a1,w.P.B,w.P.B.b1", "boot@BOOT", "#recv:BOOT", "en:b1@entry.w.P.B.b1",
       "en:a1@entry.w.P.A.a1", "en:P@entry.w.P"] := WholeEx.run_facts.1.2.2.2

/-- **the side condition is necessary.** `burstM` (C13; bound 3): `E` raises `R` four times in one step. No
    command fails, but `CutFree` does not hold — the async breaker trips on the first `R` and purges all four,
    the sync drain (`E` itself does not count) processes three of them and is cut by the fourth — and the runs
    differ. -/
example : NoFail XSM.Term.Ex.burstM XSM.Term.Ex.u0 [.user "E"] ∧ ¬ CutFree XSM.Term.Ex.burstM XSM.Term.Ex.u0 [.user "E"] ∧
    sendTrips XSM.Term.Ex.burstM XSM.Term.Ex.u0 (.user "E") (asyncStart XSM.Term.Ex.burstM XSM.Term.Ex.u0 {}) = 1 ∧
    sendCut XSM.Term.Ex.burstM XSM.Term.Ex.u0 (.user "E") (syncStart XSM.Term.Ex.burstM XSM.Term.Ex.u0 {}) = true :=
  WholeEx.run_facts.2.2.1
example : (runA XSM.Term.Ex.burstM XSM.Term.Ex.u0 [.user "E"]).trace = ["#t:m,m.a", "#recv:E"] ∧
    (runS XSM.Term.Ex.burstM XSM.Term.Ex.u0 [.user "E"]).trace =
      ["#t:m,m.a", "sawR@R", "#recv:R", "#t:m,m.a", "sawR@R", "#recv:R", "#t:m,m.a", "sawR@R", "#recv:R",
       "#t:m,m.a", "#recv:E"] := WholeEx.run_facts.2.2.2

/-- **`StartBlind` is necessary.** Under `uTag`, `en:P` looks at the event name it is handed and sets `x` under
    the async engine's init event only: neither bound is reached, nothing fails, and yet `start()` leaves
    different contexts. -/
example : CutFree wM uTag wEvs ∧ NoFail wM uTag wEvs ∧
    (asyncStart wM uTag {}).ctx = [("x", 1)] ∧ (syncStart wM uTag {}).ctx = [] := WholeEx.run_facts.2.1

/-- **`NoCoroutine` is necessary** (and not implied by `NoFail`). In `pM` (previous section) the `choose`
    branch taken on `GO` starts with `yes`; make `yes` a coroutine (`uCo`): the sync engine refuses it, but
    INSIDE a `choose` the refusal is contained (`#aerr:choose`: the rest of the branch — `assign`, `raise NEXT` —
    is skipped, `send` does not raise), while the async engine runs the branch and completes the machine. -/
example : CutFree pM uCo [.user "OUT", .user "GO"] ∧ NoFail pM uCo [.user "OUT", .user "GO"] ∧
    (runA pM uCo [.user "OUT", .user "GO"]).status = "done" ∧ (runS pM uCo [.user "OUT", .user "GO"]).status = "running" ∧
    (runA pM uCo [.user "OUT", .user "GO"]).ctx = [("n", 1)] ∧ (runS pM uCo [.user "OUT", .user "GO"]).ctx = [("n", 0)] :=
  PureEx.run_facts.2.2

end whole_runs

end XSM.C05

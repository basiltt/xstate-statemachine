import Xsm.Proofs.HistoryEx
/-!
# C11 — history pseudo-states restore what was remembered

"A transition that targets a history pseudo-state activates, for shallow history, the child of its
parent that was active when the parent was last exited (followed by that child's normal initial
descent) and, for deep history, exactly the set of descendant leaves that were active then, entering
each restored state once. If the parent has never been exited, the history state's default target, or
else the parent's normal entry (initial child of a compound parent, every region of a parallel
parent), is used. The outcome is the same whether the history was recorded in this interpreter or
restored from a snapshot."  Scope: transitions whose source lies OUTSIDE the history state's parent.

The restore theorems are proved in `Xsm/Proofs/History.lean` (namespace `XSM.Hist`), on top of the
configuration-level core in `Xsm/Proofs/Legal.lean`.  Vocabulary:

* `histGet hist P` — the remembered list stored for owner `P` (`hist.find?` on the key, as
  `_resolve_history_target` reads it); `recRem m cfg P` — the list `_record_history` computes for `P`:
  the strict descendants of `P` in `cfg`, sorted by `(depth, id)` (`depthIdLe`).
* `HistFire m s c h hn` — candidate `c` fires in state `s`, machine `WF`/`InitOK`, `s.cfg` `Legal`,
  `c.src ∈ s.cfg`, its target resolves to the history node `h` (node `hn`), and the owner
  `h.dropLast` is inactive (source outside the owner: the property's scope).
* `HistInv m.root P R` — `R` is a legal selection of the subtree of `P` (what `recRem_inv` /
  `histAll_recordHistory` establish for everything `_record_history` stores from a legal configuration).
* `HistNodeOK m h` — static sanity of the history node, used only while nothing is recorded: a default
  target that resolves is a non-history state inside the owner; a parallel owner has a real region
  (and an `initial`, if it declares one, names a real region).
* `RegOK root` — every parallel state with children has a non-history child (needed for "exactly the
  recorded leaves": otherwise an active parallel state without regions is not a leaf for
  `_resolve_history_target` and is silently dropped from a deep restore).

The `example`s use the machine `XSM.C11.Ex.hM` (`Xsm/Proofs/HistoryEx.lean`, where its runs are evaluated).
-/
namespace XSM.C11
open XSM XSM.Spec XSM.Hist

-- 1. recording ----------------------------------------------------------------------------------------------------

/-- **recorded at exit**: an owner `P` (ancestor-or-self of an exited state, names a state with a
    history child, has an active strict descendant) gets as its entry exactly the strict descendants
    of `P` in the configuration, sorted by `(depth, id)` -/
theorem history_recorded_at_exit (m : Machine) (exits : List Path) (s : St) (P : Path) (n : SNode)
    (hex : ∃ e ∈ exits, P <+: e) (hat : m.root.at P = some n) (hk : hasHistoryKid n = true)
    (hact : ∃ q ∈ s.cfg, P <+: q ∧ q ≠ P) :
    ∃ rem, histGet (recordHistory m exits s).hist P = some rem ∧
      (∀ q, q ∈ rem ↔ q ∈ s.cfg ∧ P <+: q ∧ q ≠ P) ∧
      rem.Pairwise (fun a b => depthIdLe m a b = true) ∧ rem = recRem m s.cfg P := by
  refine ⟨recRem m s.cfg P, ?_, fun q => mem_recRem, recRem_sorted m s.cfg P, rfl⟩
  rw [histGet_recordHistory, if_pos ⟨hex, records_iff.2 ⟨⟨n, hat, hk⟩, hact⟩⟩]

/-- **the recorded list does not depend on the order in which the configuration is held** (ids are
    injective on the configuration: true when keys contain no '.') -/
theorem recorded_order_independent (m : Machine) (exits : List Path) (s : St) (cfg' : List Path)
    (hp : s.cfg.Perm cfg') (hinj : ∀ a b, a ∈ s.cfg → b ∈ s.cfg → m.idOf a = m.idOf b → a = b) (P : Path) :
    recRem m s.cfg P = recRem m cfg' P ∧
      histGet (recordHistory m exits { s with cfg := cfg' }).hist P =
        histGet (recordHistory m exits s).hist P := by
  have hr : recRem m s.cfg P = recRem m cfg' P := recRem_perm m s.cfg cfg' P hp hinj
  refine ⟨hr, ?_⟩
  rw [histGet_recordHistory, histGet_recordHistory]
  show (if _ ∧ records m cfg' P = true then some (recRem m cfg' P) else _) = _
  rw [records, ← hr]
  rfl

/-- **kept otherwise**: an owner not touched by the exit, without a history child, or without an
    active strict descendant keeps its old entry -/
theorem history_kept_otherwise (m : Machine) (exits : List Path) (s : St) (P : Path)
    (hno : (∀ e ∈ exits, ¬ P <+: e) ∨ (∀ n, m.root.at P = some n → hasHistoryKid n = false) ∨
      (∀ q ∈ s.cfg, P <+: q → q = P)) :
    histGet (recordHistory m exits s).hist P = histGet s.hist P := by
  rw [histGet_recordHistory, if_neg]
  rintro ⟨⟨e, he, hPe⟩, hr⟩
  obtain ⟨⟨n, hn, hk⟩, q, hq, hPq, hqP⟩ := records_iff.1 hr
  rcases hno with h | h | h
  · exact h e he hPe
  · rw [h n hn] at hk; cases hk
  · exact hqP (h q hq hPq)

/-- recording from a legal configuration keeps every remembered list a legal selection of its owner -/
theorem recording_keeps_invariant (m : Machine) (hwf : WF m.root) (exits : List Path) (s : St)
    (hL : Legal m.root s.cfg) (hex : ∀ e ∈ exits, e ∈ s.cfg) (hA : HistAll m s.hist) :
    HistAll m (recordHistory m exits s).hist :=
  histAll_recordHistory m hwf exits s hL hex hA

-- 2. `_resolve_history_target`, case by case ---------------------------------------------------------------------------
section resolve
variable (m : Machine) (hist : List (Path × List Path)) (h : Path) (hn pn : SNode)
  (hat : m.root.at h = some hn) (hpat : m.root.at h.dropLast = some pn)
include hat hpat

/-- nothing recorded, the history node declares a default target that resolves to `r`: `[r]` -/
theorem unvisited_default_target
    (hg : histGet hist h.dropLast = none ∨ histGet hist h.dropLast = some [])
    (t : String) (r : Path) (ht : hn.d.historyTarget = some t) (hne : t ≠ "")
    (hr : resolveTarget m t h = some r) : resolveHistoryTarget m hist h = [r] := by
  rw [resolve_unvisited m hist h hn pn hat hpat hg]
  simp [unvisitedTargets, histDefault, ht, hne, hr]

/-- nothing recorded, no (resolvable) default, the owner names an existing initial child `i` -/
theorem unvisited_compound_initial
    (hg : histGet hist h.dropLast = none ∨ histGet hist h.dropLast = some [])
    (hd : histDefault m h hn = none) (i : String) (hi : pn.d.initial = some i) (hine : i ≠ "")
    (ci : SNode) (hci : findKid i pn.kids = some ci) :
    resolveHistoryTarget m hist h = [h.dropLast ++ [i]] := by
  rw [resolve_unvisited m hist h hn pn hat hpat hg]
  simp [unvisitedTargets, hd, ownerEntry, hi, hine, hci]

/-- nothing recorded, no (resolvable) default, parallel owner without `initial`: its non-history
    children in document order -/
theorem unvisited_parallel_regions
    (hg : histGet hist h.dropLast = none ∨ histGet hist h.dropLast = some [])
    (hd : histDefault m h hn = none) (hp : pn.kind = .parallel) (hi : pn.d.initial = none) :
    resolveHistoryTarget m hist h =
      (pn.kids.filter (fun kc => kc.2.kind != .history)).map (fun kc => h.dropLast ++ [kc.1]) := by
  rw [resolve_unvisited m hist h hn pn hat hpat hg]
  simp [unvisitedTargets, hd, ownerEntry, hi, ownerRegions, hp]

/-- recorded, shallow: the remembered children of the owner (all of `rem` if there is none): `shallowTargets h.dropLast rem`,
    spelled out -/
theorem shallow_restores_children (rem : List Path) (hg : histGet hist h.dropLast = some rem)
    (hne : rem ≠ []) (hs : hn.d.deep = false) :
    resolveHistoryTarget m hist h =
      if (rem.filter (fun q => q != [] && q.dropLast == h.dropLast)).isEmpty then rem
      else rem.filter (fun q => q != [] && q.dropLast == h.dropLast) := by
  rw [resolve_recorded m hist h hn pn hat hpat rem hg hne, hs]
  rfl

/-- recorded, deep: the remembered leaves of the tree (all of `rem` if there is none): `deepTargets m rem`, spelled out -/
theorem deep_restores_leaves (rem : List Path) (hg : histGet hist h.dropLast = some rem)
    (hne : rem ≠ []) (hdeep : hn.d.deep = true) :
    resolveHistoryTarget m hist h =
      if (rem.filter (leafAt m)).isEmpty then rem else rem.filter (leafAt m) := by
  rw [resolve_recorded m hist h hn pn hat hpat rem hg hne, if_pos hdeep]
  rfl

end resolve

/-- `leafAt` is `_resolve_history_target`'s leaf test: atomic, final, or without children -/
theorem leafAt_iff (m : Machine) (q : Path) :
    leafAt m q = true ↔ ∃ n, m.root.at q = some n ∧ isLeafNode n = true := by
  unfold leafAt
  cases m.root.at q <;> simp

-- 3. the restore, configuration level ------------------------------------------------------------------------------------

/-- **C01 extended to history targets** (source outside the owner): whatever the transition's actions
    do — succeed, raise, be missing — the configuration afterwards is legal -/
theorem legal_microstep_history (h : Hooks) (hok : HooksOK h) (fl : Flavor) (m : Machine) (ev : Ev)
    (c : Cand) (s : St) (hh : Path) (hn : SNode) (hf : HistFire m s c hh hn)
    (hI : ∀ R, histGet s.hist hh.dropLast = some R → R ≠ [] → HistInv m.root hh.dropLast R)
    (hOK : HistNodeOK m hh) :
    Legal m.root (execute h fl m ev (planTransition m s.cfg s.hist c) s).cfg := by
  obtain ⟨tstr, ht, hne, hres⟩ := hf.target
  exact XSM.Hist.legal_microstep_history h hok fl m ev c s hf.wf hf.init hf.legal hf.src tstr ht hne hh hres hn
    hf.node hf.kind hf.outside hI hOK

/-- **deep history restores exactly the recorded selection**: after a successful transition the
    configuration restricted to the owner's subtree is the owner plus the recorded list — the recorded
    leaves and every state between the owner and them, no default extras -/
theorem deep_restores_exact (h : Hooks) (hok : HooksOK h) (fl : Flavor) (m : Machine) (ev : Ev)
    (c : Cand) (s : St) (hh : Path) (hn : SNode) (hf : HistFire m s c hh hn) (hreg : RegOK m.root)
    (R : List Path) (hg : histGet s.hist hh.dropLast = some R) (hR : R ≠ [])
    (hI : HistInv m.root hh.dropLast R) (hdeep : hn.d.deep = true)
    (herr : (execute h fl m ev (planTransition m s.cfg s.hist c) s).err = none) :
    ∀ q, hh.dropLast <+: q →
      (q ∈ (execute h fl m ev (planTransition m s.cfg s.hist c) s).cfg ↔ q = hh.dropLast ∨ q ∈ R) :=
  XSM.Hist.deep_restores_exact h hok fl m ev c s hh hn hf hreg R hg hR hI hdeep herr

/-- the recorded list is the closure of its leaves: every recorded state lies between the owner and a
    recorded leaf, and deep history targets exactly those leaves -/
theorem deep_targets_cover (m : Machine) (hwf : WF m.root) (hreg : RegOK m.root) (P : Path) (R : List Path)
    (hI : HistInv m.root P R) : ∀ r ∈ R, ∃ t ∈ deepTargets m R, r <+: t ∧ leafAt m t = true :=
  deep_cover m hwf hreg P R hI

/-- **shallow history restores the recorded child(ren) of the owner, then the default descent**: the
    configuration restricted to the owner's subtree is the owner, its recorded children, and below each
    of them `enterDefault` -/
theorem shallow_restores_child_then_default (h : Hooks) (hok : HooksOK h) (fl : Flavor) (m : Machine)
    (ev : Ev) (c : Cand) (s : St) (hh : Path) (hn : SNode) (hf : HistFire m s c hh hn)
    (R : List Path) (hg : histGet s.hist hh.dropLast = some R) (hR : R ≠ [])
    (hI : HistInv m.root hh.dropLast R) (hshallow : hn.d.deep = false)
    (herr : (execute h fl m ev (planTransition m s.cfg s.hist c) s).err = none) :
    ∀ q, hh.dropLast <+: q →
      (q ∈ (execute h fl m ev (planTransition m s.cfg s.hist c) s).cfg ↔
        q = hh.dropLast ∨ ∃ t ∈ R, t.dropLast = hh.dropLast ∧
          ∃ nt, m.root.at t = some nt ∧ q ∈ enterDefault t nt) :=
  XSM.Hist.shallow_restores_child_then_default h hok fl m ev c s hh hn hf R hg hR hI hshallow herr

/-- **never visited**: with a default target `r` the owner's subtree holds what `_enter_states` makes
    of the owner followed by the path from the owner to `r` (default descents included); without one it
    holds the owner's normal entry `enterDefault` (initial child of a compound owner, every region of a
    parallel owner) -/
theorem unvisited_uses_default_else_normal_entry (h : Hooks) (hok : HooksOK h) (fl : Flavor) (m : Machine)
    (ev : Ev) (c : Cand) (s : St) (hh : Path) (hn : SNode) (hf : HistFire m s c hh hn)
    (hg : histGet s.hist hh.dropLast = none ∨ histGet s.hist hh.dropLast = some [])
    (hOK : HistNodeOK m hh)
    (herr : (execute h fl m ev (planTransition m s.cfg s.hist c) s).err = none) :
    (∀ r, histDefault m hh hn = some r → ∀ q, hh.dropLast <+: q →
      (q ∈ (execute h fl m ev (planTransition m s.cfg s.hist c) s).cfg ↔
        q ∈ enterStates m.root (hh.dropLast :: pathToEnter hh.dropLast r))) ∧
    (histDefault m hh hn = none → ∀ pn, m.root.at hh.dropLast = some pn → ∀ q, hh.dropLast <+: q →
      (q ∈ (execute h fl m ev (planTransition m s.cfg s.hist c) s).cfg ↔ q ∈ enterDefault hh.dropLast pn)) :=
  XSM.Hist.unvisited_uses_default_else_normal_entry h hok fl m ev c s hh hn hf hg hOK herr

-- 4. entered once ------------------------------------------------------------------------------------------------------------

/-- **each restored state is entered once**: the entry list of the plan has no duplicates -/
theorem restored_entered_once (m : Machine) (s : St) (c : Cand) (hh : Path) (hn : SNode)
    (hf : HistFire m s c hh hn)
    (hI : ∀ R, histGet s.hist hh.dropLast = some R → R ≠ [] → HistInv m.root hh.dropLast R)
    (hOK : HistNodeOK m hh) :
    ((planTransition m s.cfg s.hist c).entries.map (·.path)).Nodup :=
  XSM.Hist.restored_entered_once m s c hh hn hf hI hOK

-- 5. snapshot ------------------------------------------------------------------------------------------------------------------

/-- `histGet` is the lookup `_resolve_history_target` performs -/
theorem histGet_def (hist : List (Path × List Path)) (P : Path) :
    histGet hist P = (hist.find? (fun kv => kv.1 = P)).map (·.2) := rfl

/-- **recorded here or restored from a snapshot**: the plan reads the history only as a finite map -/
theorem snapshot_history_equiv (m : Machine) (cfg : List Path) (hist hist' : List (Path × List Path))
    (c : Cand) (hg : ∀ P, histGet hist P = histGet hist' P) :
    planTransition m cfg hist c = planTransition m cfg hist' c := by
  have hf : resolveHistoryTarget m hist = resolveHistoryTarget m hist' :=
    funext fun tgt => resolveHistoryTarget_congr m hist hist' tgt (hg _)
  unfold planTransition
  rw [hf]

/-- hence the whole transition is the same when the two states differ only in how the map is stored -/
theorem snapshot_execute_equiv (h : Hooks) (fl : Flavor) (m : Machine) (ev : Ev) (s : St)
    (hist' : List (Path × List Path)) (c : Cand) (hg : ∀ P, histGet s.hist P = histGet hist' P) :
    planTransition m s.cfg hist' c = planTransition m s.cfg s.hist c ∧
    (execute h fl m ev (planTransition m s.cfg hist' c) s).cfg =
      (execute h fl m ev (planTransition m s.cfg s.hist c) s).cfg := by
  have := snapshot_history_equiv m s.cfg s.hist hist' c hg
  exact ⟨this.symm, by rw [this]⟩

-- examples ------------------------------------------------------------------------------------------------------------------------
namespace Ex
-- 1. recording: sorted by (depth, id), independent of the order of the configuration
example : (recordHistory hM [["A", "a2", "y"], ["A", "a2"], ["A"]] sInA).hist = histA := hM_runs.1.1
example : (recordHistory hM [["Pl", "r2", "z"], ["Pl", "r1", "v"], ["Pl", "r2"], ["Pl", "r1"], ["Pl"]] sInP).hist =
    histP := hM_runs.1.2.1
example : histGet (recordHistory hM [["A", "a2", "y"], ["A", "a2"], ["A"]] sInA).hist ["Pl"] = none :=
  hM_runs.1.2.2

-- 2. resolve: shallow → the child; deep → the leaves; unvisited → initial child / every region
example : resolveHistoryTarget hM histA ["A", "hist"] = [["A", "a2"]] := hM_runs.2.1.1
example : resolveHistoryTarget hM histP ["Pl", "hd"] = [["Pl", "r1", "v"], ["Pl", "r2", "z"]] := hM_runs.2.1.2.1
example : resolveHistoryTarget hM [] ["A", "hist"] = [["A", "a1"]] := hM_runs.2.1.2.2.1
example : resolveHistoryTarget hM [] ["Pl", "hd"] = [["Pl", "r1"], ["Pl", "r2"]] := hM_runs.2.1.2.2.2

-- 3./4. the restore: compound owner, shallow history — the child `a2`, then ITS default descent (`x`, not `y`)
example : (planTransition hM (sB histA).cfg histA ⟨["B"], tA⟩).entries.map (·.path) =
    [["A"], ["A", "a2"], ["A", "a2", "x"]] := hM_runs.2.2.1.1
example : (execute hk .sync hM (.user "toA") (planTransition hM (sB histA).cfg histA ⟨["B"], tA⟩) (sB histA)).cfg =
    [[], ["A"], ["A", "a2"], ["A", "a2", "x"]] := hM_runs.2.2.1.2.1
-- parallel owner, deep history — exactly the recorded leaves, each state entered once
example : (planTransition hM (sB histP).cfg histP ⟨["B"], tP⟩).entries.map (·.path) =
    [["Pl"], ["Pl", "r1"], ["Pl", "r1", "v"], ["Pl", "r2"], ["Pl", "r2", "z"]] := hM_runs.2.2.1.2.2.1
example : (execute hk .sync hM (.user "toP") (planTransition hM (sB histP).cfg histP ⟨["B"], tP⟩) (sB histP)).cfg =
    [[], ["Pl"], ["Pl", "r1"], ["Pl", "r1", "v"], ["Pl", "r2"], ["Pl", "r2", "z"]] := hM_runs.2.2.1.2.2.2
-- never visited: the owner's normal entry
example : (execute hk .sync hM (.user "toA") (planTransition hM (sB []).cfg [] ⟨["B"], tA⟩) (sB [])).cfg =
    [[], ["A"], ["A", "a1"]] := hM_runs.2.2.2.1
example : (execute hk .sync hM (.user "toP") (planTransition hM (sB []).cfg [] ⟨["B"], tP⟩) (sB [])).cfg =
    [[], ["Pl"], ["Pl", "r1"], ["Pl", "r1", "u"], ["Pl", "r2"], ["Pl", "r2", "w"]] := hM_runs.2.2.2.2

-- 5. a snapshot stores the same map with the owners in another order
example : planTransition hM (sB []).cfg (histP ++ histA) ⟨["B"], tA⟩ =
    planTransition hM (sB []).cfg (histA ++ histP) ⟨["B"], tA⟩ :=
  snapshot_history_equiv hM _ _ _ _ (by
    intro P
    by_cases h1 : ["A"] = P
    · subst h1; decide +kernel
    · by_cases h2 : ["Pl"] = P
      · subst h2; decide +kernel
      · simp [histGet, histA, histP, List.find?, h1, h2])

-- why the hypotheses -------------------------------------------------------------------------------------------------------------
/-
`RegOK` (every parallel state with children has a real region) in `deep_restores_exact`:
m ── O (parallel) ── r1 (compound, initial c1) ── c1 | c2 (parallel, only child: a history node)
  │               ├─ r2 (compound, initial z) ── z
  │               └─ hd (deep history)
  └─ S   on BACK: → #m.O.hd
`c2` is active but is no leaf for `_resolve_history_target` (it has a child); it is not on the way to
any leaf either, so the deep restore forgets it and region `r1` is entered by default: `c1`, not `c2`.
The library does the same.
-/
def tBack := mkT 0 "BACK" (some "#m.O.hd")
def hM2 : Machine :=
  { id := "m", maxIterations := 10, customIds := [],
    root := .mk (mkD .compound (some "O")) [
      ("O", .mk (mkD .parallel) [
        ("r1", .mk (mkD .compound (some "c1")) [
          ("c1", leaf),
          ("c2", .mk (mkD .parallel) [("hh", .mk (mkD .history) [])])]),
        ("r2", .mk (mkD .compound (some "z")) [("z", leaf)]),
        ("hd", .mk (mkD .history none [] true) [])]),
      ("S", .mk (mkD .atomic none [("BACK", [tBack])]) [])] }
def hist2 : List (Path × List Path) :=
  [(["O"], [["O", "r1"], ["O", "r2"], ["O", "r1", "c2"], ["O", "r2", "z"]])]
def s2 : St := { cfg := [[], ["S"]], hist := hist2, status := "running" }

example : (recordHistory hM2 [["O", "r1", "c2"], ["O", "r2", "z"], ["O", "r1"], ["O", "r2"], ["O"]]
    { cfg := [[], ["O"], ["O", "r1"], ["O", "r1", "c2"], ["O", "r2"], ["O", "r2", "z"]] }).hist = hist2 := by decide +kernel
example : resolveHistoryTarget hM2 hist2 ["O", "hd"] = [["O", "r2", "z"]] := by decide +kernel
example : (execute (hooksFlagged exU hM2) .sync hM2 (.user "BACK")
    (planTransition hM2 s2.cfg s2.hist ⟨["S"], tBack⟩) s2).cfg =
    [[], ["O"], ["O", "r1"], ["O", "r1", "c1"], ["O", "r2"], ["O", "r2", "z"]] := by decide +kernel

/-
`HistNodeOK.default_inside` (the default target lies inside the owner) in `legal_microstep_history`:
m ── X (compound, initial s) ── s   on GO: → #m.X.A.h
  │                          └─ A (compound, initial a1) ── a1 | h (history, target "#m.B")
  └─ B
The transition domain is `X`; the default target `B` is not below it, so `_get_path_to_state` walks to
the root: `m` and `B` are entered while `X` stays active without a child — not a legal configuration.
The library does the same.
-/
def tGo := mkT 0 "GO" (some "#m.X.A.h")
def hM3 : Machine :=
  { id := "m", maxIterations := 10, customIds := [],
    root := .mk (mkD .compound (some "X")) [
      ("X", .mk (mkD .compound (some "s")) [
        ("s", .mk (mkD .atomic none [("GO", [tGo])]) []),
        ("A", .mk (mkD .compound (some "a1")) [
          ("a1", leaf),
          ("h", .mk { mkD .history with historyTarget := some "#m.B" } [])])]),
      ("B", leaf)] }
def s3 : St := { cfg := [[], ["X"], ["X", "s"]], status := "running" }

example : resolveHistoryTarget hM3 [] ["X", "A", "h"] = [["B"]] := by decide +kernel
example : (execute (hooksFlagged exU hM3) .sync hM3 (.user "GO")
    (planTransition hM3 s3.cfg s3.hist ⟨["X", "s"], tGo⟩) s3).cfg = [[], ["X"], ["B"]] := by decide +kernel

end Ex
end XSM.C11

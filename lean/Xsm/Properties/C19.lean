import Xsm.Proofs.Pythonic
import Xsm.Proofs.PyTarget
import Xsm.Model.Engine
/-!
# C19 — Python-defined machines and discovered logic equal their JSON counterparts

"A machine defined through the class-based, builder or functional Python API is the same machine —
same structure and the same behaviour for all event sequences — as create_machine() applied to the
config that definition denotes, and repeated builds from one definition are independent of one
another. Logic auto-discovery (logic_modules / logic_providers / MachineLogic subclass methods) binds
every action, guard and service name the config references, under either snake_case or camelCase
spelling and excluding built-ins, spawn_ directives and composite guards, or fails at creation with
ImplementationMissingError; an implementation the user supplies always takes precedence over a
built-in of the same name."

Statements about the executable model `Xsm/Model/Pythonic.lean` (helper lemmas in
`Xsm/Proofs/Pythonic.lean`; for `object_target_reaches_object`, over `Xsm/Model/Resolve.lean`, in
`Xsm/Proofs/PyTarget.lean`) and, for the last clause, `actStep` of `Xsm/Model/Engine.lean`.

## What is only VALIDATED (harness/xsmverif/c19*.py, against the real code)

* that the model IS the code: `_snake_to_camel` (exhaustive small alphabet + random), `logic_map`
  lookup, the demanded name sets, subclass registration, and the config dict each Python style hands to
  `create_machine` (byte-for-byte, key order included) are compared with the driver `driver_py`;
* the step from "same config" to "same machine": deep structural fingerprints (ids, kinds, initial,
  history, RESOLVED targets, guards, actions+params, delays, invokes, tags, meta, context) and
  SyncInterpreter traces of the four machines (JSON denotation, class-based, functional, builder);
* that a transition TARGET given as a State object reaches that object in the RUNNING engines: `denote`
  here writes the target's bare name exactly as the code does; `object_target_reaches_object` PROVES,
  about the model of the interpreters' target resolution (`Xsm/Model/Resolve.lean`, tied to the code by
  the C01/C02 correspondence), that a bare name borne by exactly one state resolves to that state from
  every source; the harness' JSON denotation writes the absolute id and compares resolved targets on
  the real code (equal whenever names are unique; part of F17 otherwise);
* independence of repeated builds (definitional in the model — the compilers are functions — and
  false of the code below the top level: finding F19c);
* the metaclass / decorators / `MachineBuilder.state()` keyword handling, which the model takes as
  already collected (`PyDef`, `BDef`) — tied through the captured configs.

## What the model cannot exhibit

Non-ASCII identifiers (Python's `str.title()` is Unicode-aware; `Char.toUpper` is ASCII); `after`
keys that are Python ints (JSON keys are strings; the parser converts both the same way); a State
object listed under two parents; `stateIn` guards carrying `children`; callables as context.
-/
namespace XSM.C19
open XSM XSM.Py XSM.Py.Ex

/-! ## 1. `_snake_to_camel` -/

theorem snakeToCamel_of_no_underscore (s : List Char) (h : '_' ∉ s) : snakeToCamel s = s :=
  Py.snakeToCamel_of_no_underscore s h

theorem snakeToCamel_no_underscore (s : List Char) : '_' ∉ snakeToCamel s :=
  Py.snakeToCamel_no_underscore s

theorem snakeToCamel_idem (s : List Char) : snakeToCamel (snakeToCamel s) = snakeToCamel s :=
  Py.snakeToCamel_idem s

/-- exactly the underscores disappear (so leading, trailing and doubled underscores leave no trace) -/
theorem snakeToCamel_length (s : List Char) : (snakeToCamel s).length + s.count '_' = s.length := by
  have h := splitUs_length s
  unfold snakeToCamel
  rw [List.length_append, flatten_title_length]
  omega

/-- the text before the first underscore is copied unchanged (no capitalisation of the first word) -/
theorem snakeToCamel_prefix (h t : List Char) (hh : '_' ∉ h) :
    snakeToCamel (h ++ '_' :: t) = h ++ snakeToCamel ('_' :: t) := by
  simp only [snakeToCamel, splitUs_append h _ hh, List.append_assoc]

theorem snakeToCamelS_idem (s : String) : snakeToCamelS (snakeToCamelS s) = snakeToCamelS s := by
  unfold snakeToCamelS
  rw [String.toList_ofList, Py.snakeToCamel_idem]

theorem snakeToCamelS_of_no_underscore (s : String) (h : '_' ∉ s.toList) : snakeToCamelS s = s := by
  unfold snakeToCamelS
  rw [Py.snakeToCamel_of_no_underscore _ h, String.ofList_toList]

/-- the intended use -/
theorem snakeToCamel_examples :
    snakeToCamelS "my_action_name" = "myActionName" ∧ snakeToCamelS "is_valid_email" = "isValidEmail"
    ∧ snakeToCamelS "a_b_c" = "aBC" := by decide +kernel

/-- NOT injective: different Python names share one key of `logic_map` (the later write wins) -/
theorem snakeToCamel_not_injective :
    snakeToCamelS "a__b" = snakeToCamelS "a_b" ∧ snakeToCamelS "do_it" = snakeToCamelS "doIt"
    ∧ snakeToCamelS "foo_" = snakeToCamelS "foo" ∧ snakeToCamelS "_foo" = snakeToCamelS "Foo" := by decide +kernel

/-- `str.title()` semantics: a leading underscore capitalises, inner capitals are LOWERED, a letter after a
    digit is capitalised -/
theorem snakeToCamel_title_quirks :
    snakeToCamelS "_foo" = "Foo" ∧ snakeToCamelS "get_userID" = "getUserid" ∧ snakeToCamelS "is_HTTP_ok" = "isHttpOk"
    ∧ snakeToCamelS "x_2nd" = "x2Nd" ∧ snakeToCamelS "fetch_user2data" = "fetchUser2Data"
    ∧ snakeToCamelS "my_actionName" = "myActionname" := by decide +kernel

/-! ## 2. the lookup rule of the loader -/

/-- *A referenced name `n` is bound iff a public callable named `n`, or whose camelCase form is `n`, exists.* -/
theorem snake_camel_lookup (scan : List String) (n : String) :
    (lookupImpl scan n).isSome = true ↔ ∃ c ∈ scan, isPublic c = true ∧ (c = n ∨ snakeToCamelS c = n) := by
  constructor
  · intro h
    obtain ⟨c, hc⟩ := Option.isSome_iff_exists.mp h
    exact ⟨c, (lookupImpl_sound hc).1, (lookupImpl_sound hc).2⟩
  · rintro ⟨c, hc, hp, h⟩
    exact lookupImpl_complete hc hp h

/-- what is bound is such a callable -/
theorem lookup_sound (scan : List String) (n c : String) (h : lookupImpl scan n = some c) :
    c ∈ scan ∧ isPublic c = true ∧ (c = n ∨ snakeToCamelS c = n) := lookupImpl_sound h

/-- both spellings of a public callable are bound -/
theorem lookup_both_spellings (scan : List String) (c : String) (hc : c ∈ scan) (hp : isPublic c = true) :
    (lookupImpl scan c).isSome = true ∧ (lookupImpl scan (snakeToCamelS c)).isSome = true :=
  ⟨lookupImpl_complete hc hp (Or.inl rfl), lookupImpl_complete hc hp (Or.inr rfl)⟩

/-- a private callable binds nothing -/
theorem lookup_private (scan : List String) (n c : String) (h : lookupImpl scan n = some c) : isPublic c = true :=
  (lookupImpl_sound h).2.1

/-- the callable scanned last wins (providers after modules, a later module after an earlier one) -/
theorem lookup_last_wins (scan : List String) (n c : String) (hp : isPublic c = true)
    (h : c = n ∨ snakeToCamelS c = n) : lookupImpl (scan ++ [c]) n = some c := by
  unfold lookupImpl logicMapWrites
  simp only [List.filter_append, List.flatMap_append, List.reverse_append]
  have : List.filter isPublic [c] = [c] := by simp [hp]
  rw [this]
  simp only [List.flatMap_cons, List.flatMap_nil, List.append_nil, List.reverse_cons, List.reverse_nil, List.nil_append,
    List.cons_append, List.find?_cons]
  rcases h with rfl | rfl
  · by_cases e : snakeToCamelS c = c
    · simp [e]
    · simp [e]
  · simp

/-- only snake → camel: a camelCase callable does not bind a snake_case reference; and the exact spelling has
    no priority over a converted one scanned later (`inspect.getmembers` order: `doIt` before `do_it`) -/
theorem lookup_one_way :
    lookupImpl ["myAction"] "my_action" = none ∧ lookupImpl ["doIt", "do_it"] "doIt" = some "do_it" := by decide +kernel

/-! ## 3. discovery binds everything it demands, or raises -/

/-- *Discovery returns bindings for every demanded name, each to a callable of that name or of its snake_case
    spelling.* -/
theorem discover_binds_all (scan : List String) (m : Machine) (b : Bindings) (h : discover scan m = .ok b) :
    (b.actions.map (·.1) = (required m).actions ∧ b.guards.map (·.1) = (required m).guards
      ∧ b.services.map (·.1) = (required m).services)
    ∧ ∀ kv ∈ b.actions ++ b.guards ++ b.services,
        kv.2 ∈ scan ∧ isPublic kv.2 = true ∧ (kv.2 = kv.1 ∨ snakeToCamelS kv.2 = kv.1) := by
  have hd := discover_spec scan m
  rw [h] at hd
  obtain ⟨a1, a2⟩ := bindAll_ok hd.1
  obtain ⟨g1, g2⟩ := bindAll_ok hd.2.1
  obtain ⟨s1, s2⟩ := bindAll_ok hd.2.2
  refine ⟨⟨a1, g1, s1⟩, ?_⟩
  intro kv hkv
  simp only [List.mem_append] at hkv
  rcases hkv with (h | h) | h
  · exact lookupImpl_sound (a2 kv h)
  · exact lookupImpl_sound (g2 kv h)
  · exact lookupImpl_sound (s2 kv h)

/-- the name reported is a demanded, unbound one -/
theorem discover_error_names (scan : List String) (m : Machine) (e : String) (h : discover scan m = .error e) :
    e ∈ (required m).actions ++ (required m).guards ++ (required m).services ∧ lookupImpl scan e = none := by
  have hd := discover_spec scan m
  rw [h] at hd
  simp only [List.mem_append]
  rcases hd with he | he | he
  · exact ⟨Or.inl (Or.inl (bindAll_error_mem he).1), (bindAll_error_mem he).2⟩
  · exact ⟨Or.inl (Or.inr (bindAll_error_mem he).1), (bindAll_error_mem he).2⟩
  · exact ⟨Or.inr (bindAll_error_mem he).1, (bindAll_error_mem he).2⟩

/-- *…or raises `ImplementationMissingError`, exactly when some demanded name has no implementation* -/
theorem discover_binds_all_or_raises (scan : List String) (m : Machine) :
    (∃ e, discover scan m = .error e) ↔
      ∃ n ∈ (required m).actions ++ (required m).guards ++ (required m).services, lookupImpl scan n = none := by
  constructor
  · rintro ⟨e, h⟩
    exact ⟨e, discover_error_names scan m e h⟩
  · rintro ⟨n, hn, hl⟩
    cases h : discover scan m with
    | error e => exact ⟨e, rfl⟩
    | ok b =>
      -- a kind that is bound in full does not demand `n`
      have hno : ∀ ns bs, bindAll scan ns = .ok bs → n ∉ ns := by
        intro ns bs hb hmem
        obtain ⟨e, he⟩ := bindAll_error_iff.2 ⟨n, hmem, hl⟩
        rw [hb] at he
        cases he
      have hd := discover_spec scan m
      rw [h] at hd
      simp only [List.mem_append] at hn
      rcases hn with (hn | hn) | hn
      · exact absurd hn (hno _ _ hd.1)
      · exact absurd hn (hno _ _ hd.2.1)
      · exact absurd hn (hno _ _ hd.2.2)

/-- every action reference of a state: entry, exit, the actions of `on` / `always` / `after` / `onDone`
    transitions and of every invocation's onDone / onError transitions -/
def allActs (d : StateDef) : List ActionRef := mainActs d ++ (invTrans d).flatMap (·.actions)

/-- *Every referenced action that is neither a built-in nor a spawn directive is demanded* (anywhere in the tree) -/
theorem referenced_action_demanded (m : Machine) (x : SNode) (hx : Sub m.root x) (a : ActionRef)
    (ha : a ∈ allActs x.d) (hb : isBuiltin a.type = false) (hs : isSpawn a.type = false) :
    a.type ∈ (required m).actions := by
  rw [mem_required_actions]
  refine ⟨x.d, mem_subDefs_of_sub hx, ?_⟩
  rw [mem_defActions]
  unfold allActs at ha
  rcases List.mem_append.mp ha with h | h
  · exact Or.inl ⟨a, h, rfl, hs, hb⟩
  · obtain ⟨t, ht, hat⟩ := List.mem_flatMap.mp h
    exact Or.inr ⟨t, ht, a, hat, rfl, hs, hb⟩

/-- the same for a state addressed by its path -/
theorem referenced_action_demanded_at (m : Machine) (p : Path) (x : SNode) (hx : m.root.at p = some x) (a : ActionRef)
    (ha : a ∈ allActs x.d) (hb : isBuiltin a.type = false) (hs : isSpawn a.type = false) :
    a.type ∈ (required m).actions :=
  referenced_action_demanded m x (sub_of_at p m.root x hx) a ha hb hs

/-- *Every user predicate below the composites of any transition's guard is demanded* -/
theorem referenced_guard_demanded (m : Machine) (x : SNode) (hx : Sub m.root x) (t : Trans)
    (ht : t ∈ mainTrans x.d ++ invTrans x.d) (g : GuardExpr) (hg : t.guard = some g) (n : String) (hn : NamedLeaf n g) :
    n ∈ (required m).guards := by
  rw [mem_required_guards]
  exact ⟨x.d, mem_subDefs_of_sub hx, mem_defGuards.mpr ⟨t, ht, g, hg, hn⟩⟩

/-- *Every invoked service, and the service key of every spawn directive of ANY action list — entry / exit /
    transition lists and the onDone / onError lists of the invocations alike (`allActs`) — is demanded* -/
theorem referenced_service_demanded (m : Machine) (x : SNode) (hx : Sub m.root x) (n : String)
    (h : (∃ i ∈ x.d.invoke, i.src = some n ∧ n ≠ "") ∨ (∃ a ∈ allActs x.d, isSpawn a.type = true ∧ spawnKey a.type = n)) :
    n ∈ (required m).services := by
  rw [mem_required_services]
  refine ⟨x.d, mem_subDefs_of_sub hx, mem_defServices.mpr ?_⟩
  rcases h with h | ⟨a, ha, hs, hk⟩
  · exact Or.inr (Or.inl h)
  · unfold allActs at ha
    rcases List.mem_append.mp ha with h | h
    · exact Or.inl ⟨a, h, hs, hk⟩
    · obtain ⟨t, ht, hat⟩ := List.mem_flatMap.mp h
      exact Or.inr (Or.inr ⟨t, ht, a, hat, hs, hk⟩)

/-- … and nothing else is: a demanded service is an invoked source or the key of a spawn directive -/
theorem demanded_service_referenced (m : Machine) (n : String) (h : n ∈ (required m).services) :
    ∃ d ∈ subDefs m.root, (∃ i ∈ d.invoke, i.src = some n ∧ n ≠ "")
      ∨ (∃ a ∈ allActs d, isSpawn a.type = true ∧ spawnKey a.type = n) := by
  obtain ⟨d, hd, hn⟩ := mem_required_services.mp h
  refine ⟨d, hd, ?_⟩
  unfold allActs
  rcases mem_defServices.mp hn with ⟨a, ha, hs, hk⟩ | h | ⟨t, ht, a, ha, hs, hk⟩
  · exact Or.inr ⟨a, List.mem_append_left _ ha, hs, hk⟩
  · exact Or.inl h
  · exact Or.inr ⟨a, List.mem_append_right _ (List.mem_flatMap.mpr ⟨t, ht, ha⟩), hs, hk⟩

/-! ## 4. built-ins, spawn directives and composite guards are not demanded -/

/-- the loader's `is_builtin` is the engine's built-in table (both read `BUILTIN_ACTION_ALIASES`, regenerated) -/
theorem isBuiltin_eq_canonical (ty : String) : isBuiltin ty = (canonicalBuiltin ty).isSome := by
  unfold isBuiltin canonicalBuiltin
  rw [Option.isSome_map, Bool.eq_iff_iff, List.find?_isSome, List.any_eq_true]

/-- *No demanded action is a built-in* (over the regenerated alias table) -/
theorem excludes_builtins (m : Machine) (n : String) (h : n ∈ (required m).actions) :
    isBuiltin n = false ∧ canonicalBuiltin n = none := by
  have hb : isBuiltin n = false := by
    obtain ⟨d, _, hd⟩ := mem_required_actions.mp h
    rcases mem_defActions.mp hd with ⟨_, _, _, _, hb⟩ | ⟨_, _, _, _, _, _, hb⟩ <;> exact hb
  refine ⟨hb, ?_⟩
  have := isBuiltin_eq_canonical n
  rw [hb] at this
  cases hc : canonicalBuiltin n with
  | none => rfl
  | some c => simp [hc] at this

theorem builtin_table_sample :
    isBuiltin "assign" = true ∧ isBuiltin "log" = true ∧ isBuiltin "raise" = true ∧ isBuiltin "sendTo" = true
    ∧ isBuiltin "xstate.choose" = true ∧ isBuiltin "spawn_child" = false ∧ isBuiltin "myAction" = false := by decide +kernel

/-- *No demanded action is a spawn directive*: in entry / exit / `on` / `always` / `after` / `onDone` lists and in
    the onDone / onError lists of the invocations `spawn_*` is routed to the services instead
    (`referenced_service_demanded`). -/
theorem excludes_spawn (m : Machine) (n : String) (h : n ∈ (required m).actions) : isSpawn n = false := by
  obtain ⟨d, _, hn⟩ := mem_required_actions.mp h
  rcases mem_defActions.mp hn with ⟨_, _, _, hs, _⟩ | ⟨_, _, _, _, _, hs, _⟩ <;> exact hs

/-- the witness of finding F19e, the state `{"invoke": {"src": "svc", "onDone": {"actions": ["spawn_worker"]}}}` -/
def spawnInInvoke : StateDef :=
  { (default : StateDef) with
    invoke := [{ id := "m.a", src := some "svc"
                 onDone := [{ tid := 0, event := "done.invoke.m.a", target := none, guard := none,
                              actions := [{ type := "spawn_worker" }], reenter := false, forbidden := false }]
                 onError := [] }] }

/-- … with the repaired routing: no action is demanded, the services `svc` and `worker` are (before the repair of
    F19e: the action `spawn_worker` and the service `svc` only) -/
theorem spawn_in_invoke_routed :
    defActions spawnInInvoke = [] ∧ defServices spawnInInvoke = ["svc", "worker"]
    ∧ isSpawn "spawn_worker" = true ∧ spawnKey "spawn_worker" = "worker" := by decide +kernel

/-- the same directive in an entry list is routed correctly -/
theorem spawn_in_entry_routed :
    defActions { (default : StateDef) with entry := [{ type := "spawn_worker" }, { type := "spawn_blocking_w2" }] } = []
    ∧ defServices { (default : StateDef) with entry := [{ type := "spawn_worker" }, { type := "spawn_blocking_w2" }] } = ["worker", "w2"] := by
  decide +kernel

/-- *Composite operators and `stateIn` are never demanded*: the guard names demanded for a guard are exactly its
    `named` leaves. -/
theorem excludes_composites (g : GuardExpr) (n : String) : n ∈ Py.guardNames g ↔ NamedLeaf n g :=
  mem_guardNames_iff g n

theorem guardNames_example :
    Py.guardNames (.and [.named "a" none, .or [.not (.named "b" none), .stateIn none], .named "and" none]) = ["a", "b", "and"] := by
  decide +kernel

/-- all three exclusions at once, for a demanded name of each kind -/
theorem excludes_builtins_spawn_composites (m : Machine) :
    (∀ n ∈ (required m).actions, isBuiltin n = false)
    ∧ (∀ n ∈ (required m).actions, isSpawn n = false)
    ∧ (∀ n ∈ (required m).guards, ∃ d ∈ subDefs m.root, ∃ t ∈ mainTrans d ++ invTrans d, ∃ g, t.guard = some g ∧ NamedLeaf n g) := by
  refine ⟨fun n h => (excludes_builtins m n h).1, fun n h => excludes_spawn m n h, ?_⟩
  intro n h
  obtain ⟨d, hd, hn⟩ := mem_required_guards.mp h
  exact ⟨d, hd, mem_defGuards.mp hn⟩

/-! ## 5. a user implementation wins over a built-in of the same name -/

/-- *In the action executor (`_execute_actions` of both engines) an implementation registered under the name of
    a built-in runs, and the built-in does not*: the result is the user action's, whatever `canonicalBuiltin` says. -/
theorem user_action_before_builtin (h : Hooks) (nested : List ActionRef → String → St → St) (cut : Bool)
    (evType : String) (s : St) (a : ActionRef) (c : Ctx)
    (hrun : s.err.isSome = false) (huser : h.act a.type s.ctx evType = .ok c) :
    actStep h nested cut evType (s, false) a = (emit s!"{a.type}@{evType}" { s with ctx := c }, false) := by
  unfold actStep
  simp [hrun, huser]

/-- in particular for `assign`: the context is the user's, not the assignment's -/
theorem user_assign_wins (h : Hooks) (nested : List ActionRef → String → St → St) (evType : String) (s : St)
    (params : Option J) (c : Ctx) (hrun : s.err.isSome = false) (huser : h.act "assign" s.ctx evType = .ok c) :
    (actStep h nested false evType (s, false) { type := "assign", params := params }).1.ctx = c := by
  rw [user_action_before_builtin h nested false evType s _ c hrun huser]
  rfl

/-- the built-in runs only when nothing is registered under the name -/
theorem builtin_only_when_missing (h : Hooks) (nested : List ActionRef → String → St → St) (cut : Bool)
    (evType : String) (s : St) (a : ActionRef) (canon : String)
    (hrun : s.err.isSome = false) (hmiss : h.act a.type s.ctx evType = .missing) (hc : canonicalBuiltin a.type = some canon) :
    actStep h nested cut evType (s, false) a = builtinStep h nested cut evType canon a s := by
  unfold actStep
  simp [hrun, hmiss, hc]

/-- BUT auto-discovery never registers such an implementation (finding F19d): a name bound by `discover` is
    never a built-in, whatever callables the user supplied. -/
theorem discover_never_binds_builtin (scan : List String) (m : Machine) (b : Bindings) (h : discover scan m = .ok b)
    (n : String) (hb : isBuiltin n = true) : n ∉ b.actions.map (·.1) := by
  rw [(discover_binds_all scan m b h).1.1]
  intro hn
  have := (excludes_builtins m n hn).1
  rw [hb] at this
  cases this

/-! ## 6. `MachineLogic` subclass methods -/

theorem arity_table :
    arityRegistry 2 = some .guard ∧ arityRegistry 3 = some .service ∧ arityRegistry 4 = some .action
    ∧ ∀ k, k ≠ 2 → k ≠ 3 → k ≠ 4 → arityRegistry k = none := by
  refine ⟨rfl, rfl, rfl, ?_⟩
  intro k h2 h3 h4
  match k with
  | 0 | 1 => rfl
  | 2 => exact absurd rfl h2
  | 3 => exact absurd rfl h3
  | 4 => exact absurd rfl h4
  | _ + 5 => rfl

/-- a public method of a contract arity is registered under ITS OWN name (no snake → camel) unless bound already -/
theorem registerOne_registers (r : Regs) (n : String) (k : Nat) (kind : LogicKind)
    (hp : isPublic n = true) (hk : arityRegistry k = some kind) : n ∈ (registerOne r (n, k)).of kind := by
  unfold registerOne
  simp only [hp, Bool.not_true, Bool.false_eq_true, if_false, hk]
  split
  · rename_i h; simpa using h
  · cases kind <;> simp [Regs.add, Regs.of]

/-- private methods and other arities register nothing -/
theorem registerOne_skips (r : Regs) (n : String) (k : Nat)
    (h : isPublic n = false ∨ arityRegistry k = none) : registerOne r (n, k) = r := by
  unfold registerOne
  rcases h with h | h
  · simp [h]
  · by_cases hp : isPublic n = true <;> simp [hp, h]

/-- explicitly supplied entries are never removed -/
theorem registerOne_keeps (r : Regs) (mth : String × Nat) (kind : LogicKind) (n : String) (h : n ∈ r.of kind) :
    n ∈ (registerOne r mth).of kind := by
  unfold registerOne
  split
  · exact h
  · split
    · exact h
    · rename_i k' _
      split
      · exact h
      · cases k' <;> cases kind <;> simp_all [Regs.add, Regs.of]

theorem registerSubclass_keeps (explicit : Regs) (methods : List (String × Nat)) (kind : LogicKind) (n : String)
    (h : n ∈ explicit.of kind) : n ∈ (registerSubclass explicit methods).of kind := by
  unfold registerSubclass
  induction methods generalizing explicit with
  | nil => exact h
  | cons mth rest ih => exact ih (registerOne explicit mth) (registerOne_keeps explicit mth kind n h)

/-- the method `my_action` binds `my_action`, not `myAction` (finding F19f, structural side) -/
theorem subclass_verbatim_names :
    (registerSubclass ⟨[], [], []⟩ [("my_action", 4), ("is_ok", 2), ("_hidden", 4), ("helper", 1)]).actions = ["my_action"]
    ∧ (registerSubclass ⟨[], [], []⟩ [("my_action", 4), ("is_ok", 2), ("_hidden", 4), ("helper", 1)]).guards = ["is_ok"] := by
  decide +kernel

/-! ## 7. the compiled config is the denoted config -/

/-- *`_compile_config` (class-based and functional style) attaches every `Transition` to the State object it was
    declared on, PROVIDED the State objects have pairwise different names* and every transition's source is one of
    them: the compiled JSON is identical to the denotation. -/
theorem compile_eq_denote (d : PyDef) (hu : UniqueNames d) (hs : SourcesDeclared d) : compileImpl d = Py.denote d :=
  compileConfig_congr _ _ _ _ d (att_agree d hu hs) (srcOk_agree d hs)

/-- … hence `create_machine` builds the same machine from both (or rejects both alike) -/
theorem parse_compile_eq_denote (d : PyDef) (hu : UniqueNames d) (hs : SourcesDeclared d) :
    (compileImpl d).bind (fun j => parseMachine j) = (Py.denote d).bind (fun j => parseMachine j) := by
  rw [compile_eq_denote d hu hs]

/-- the theorem is not vacuous: a nested definition with unique names and a cross-level transition -/
theorem compile_eq_denote_example : UniqueNames f17ok ∧ SourcesDeclared f17ok ∧
    onKeysAt (compileImpl f17ok) ["idle"] = ["GO"] ∧ onKeysAt (compileImpl f17ok) ["a", "idle2"] = [] := by
  unfold UniqueNames SourcesDeclared
  decide +kernel

/-- **F17.** With two State objects called `idle` (one top-level, one inside `a`) the transition declared on the
    top-level one is ALSO compiled into `a.idle`; the denotation has it only where it was declared. -/
theorem compile_ne_denote_same_name :
    ¬ UniqueNames f17 ∧ SourcesDeclared f17
    ∧ onKeysAt (compileImpl f17) ["idle"] = ["GO"] ∧ onKeysAt (compileImpl f17) ["a", "idle"] = ["GO"]
    ∧ onKeysAt (Py.denote f17) ["idle"] = ["GO"] ∧ onKeysAt (Py.denote f17) ["a", "idle"] = []
    ∧ compileImpl f17 ≠ Py.denote f17 := by
  have ⟨hu, hs, c, h1, d, h2⟩ : ¬ UniqueNames f17 ∧ SourcesDeclared f17
      ∧ onKeysAt (compileImpl f17) ["idle"] = ["GO"] ∧ onKeysAt (compileImpl f17) ["a", "idle"] = ["GO"]
      ∧ onKeysAt (Py.denote f17) ["idle"] = ["GO"] ∧ onKeysAt (Py.denote f17) ["a", "idle"] = [] := by
    unfold UniqueNames SourcesDeclared
    decide +kernel
  refine ⟨hu, hs, c, h1, d, h2, fun h => ?_⟩
  rw [h, h2] at h1
  cases h1

/-- *A `Transition` whose TARGET is given as a State object reaches that object.* The code compiles the object to
    its bare name `k`; in the interpreters' resolution (`_resolve_target_state_robustly`: `resolve_target_state` from
    the source, its parent, the root, the `<id>.`-qualified spelling, then root lookups and the tree walk) a name
    borne by exactly one state `q` resolves to `q` from EVERY source state — provided keys are dot-free, and `k` is a
    non-empty dot-free name not starting with `#`, different from the machine id and from `"machine"`: the resolver's
    first fallback is `getattr(root, k)`, and the root's attribute `machine` is the root itself
    (`resolveRobust`: `if target = "machine" then some []`). -/
theorem object_target_reaches_object (m : Machine) (k : String) (q src : Path)
    (hid : SimpleName m.id) (hk : SimpleName k) (hkid : k ≠ m.id) (hkm : k ≠ "machine")
    (hq : q ∈ m.root.allPaths []) (hql : q.getLast? = some k)
    (hu : ∀ p ∈ m.root.allPaths [], p.getLast? = some k → p = q)
    (hdf : ∀ p ∈ m.root.allPaths [], ∀ key ∈ p, '.' ∉ key.toList) :
    resolveRobust m src k = some q := by
  obtain ⟨p, hp⟩ := Option.isSome_iff_exists.1 (resolveRobust_bare_complete m k src q hk.1 hq hql)
  obtain ⟨h1, h2⟩ := resolveRobust_bare_sound m k src p hid hk hkid hkm hdf hp
  rw [hp, hu p h1 h2]

/-- the machine of `f17` as the parser builds it: `a{idle, other}`, `idle` -/
def f17Machine : Machine :=
  { id := "m", maxIterations := 1000, customIds := []
    root := .mk { (default : StateDef) with kind := .compound, initial := some "a" }
      [("a", .mk { (default : StateDef) with kind := .compound, initial := some "idle" }
          [("idle", .mk default []), ("other", .mk default [])]),
       ("idle", .mk default [])] }

/-- without uniqueness the bare name depends on where it is resolved FROM (the target half of F17): `idle` written on
    a transition of `a.other` reaches `a.idle`, written on a top-level state it reaches the top-level `idle` -/
theorem bare_target_depends_on_source :
    resolveRobust f17Machine ["a", "other"] "idle" = some ["a", "idle"]
    ∧ resolveRobust f17Machine ["idle"] "idle" = some ["idle"]
    ∧ resolveRobust f17Machine ["a", "other"] "other" = some ["a", "other"]
    ∧ resolveRobust f17Machine ["idle"] "other" = some ["a", "other"] := by decide +kernel

/-- the step behind `compile_eq_denote`: at every declared path `_compile_config`'s attachment by source NAME
    picks the transitions that attachment by source OBJECT (the denotation) picks -/
theorem attach_by_name_eq_by_object (d : PyDef) (hu : UniqueNames d) (hs : SourcesDeclared d) (p : Path) (hp : p ∈ d.paths) :
    attByName d.transitions p = attByObj d.transitions p := att_agree d hu hs p hp

/-- **F19b.** `State("a", on={"GO": "b"})` plus `a.to(c, event="GO", guard="never")`: the compiled state has ONE
    transition for GO (the `on` entry is replaced — the rule `tests/test_pythonic.py::TestMergeRules` pins) … -/
theorem state_on_entry_overwritten : nTransAt (compileImpl overlap) ["a"] "GO" = 1 := by decide +kernel

/-- … while `MachineBuilder.build` given the same two declarations keeps both, so the styles disagree -/
theorem builder_keeps_both : nTransAt (buildImpl overlapB) ["a"] "GO" = 2 := by decide +kernel

/-- A fact about association lists, nothing of the builder in it: rewriting the entries under key `src` by
    a key-preserving `g` leaves the entries under any other key `k` as they are. -/
theorem filter_map_other {β : Type} (g : String × β → String × β) (src k : String) (hne : src ≠ k)
    (hg : ∀ kv, (g kv).1 = kv.1) :
    ∀ (l : List (String × β)),
      (l.map (fun kv => if kv.1 = src then g kv else kv)).filter (fun kv => kv.1 = k) = l.filter (fun kv => kv.1 = k)
  | [] => rfl
  | kv :: rest => by
    have ih := filter_map_other g src k hne hg rest
    by_cases e : kv.1 = src
    · have h1 : ¬ kv.1 = k := e ▸ hne
      simp only [List.map_cons, if_pos e, List.filter_cons, hg, h1, decide_false, Bool.false_eq_true, if_false, ih]
    · simp only [List.map_cons, e, if_false, List.filter_cons, ih]

/-- *`MachineBuilder.build` merges a transition into the state it names and into no other*: the configs of all
    other states are untouched, for every list of transitions. -/
theorem buildStates_other_untouched : ∀ (ts : List BTrans) (states out : List (String × J)) (k : String),
    buildStates states ts = .ok out → (∀ t ∈ ts, t.source ≠ k) →
    out.filter (fun kv => kv.1 = k) = states.filter (fun kv => kv.1 = k)
  | [], states, out, k, h, _ => by
    simp [buildStates] at h
    rw [h]
  | t :: ts, states, out, k, h, hk => by
    unfold buildStates at h
    split at h
    · have ih := buildStates_other_untouched ts _ out k h (fun t' ht' => hk t' (List.mem_cons_of_mem _ ht'))
      rw [ih]
      exact filter_map_other (fun kv => (kv.1, J.obj (bMergeOne (objPairs kv.2) t))) t.source k (hk t (by simp)) (fun _ => rfl) states
    · cases h

/-- the state names (and their order) are what `.state()` declared -/
theorem buildStates_names : ∀ (ts : List BTrans) (states out : List (String × J)),
    buildStates states ts = .ok out → out.map (·.1) = states.map (·.1)
  | [], states, out, h => by
    simp [buildStates] at h
    rw [h]
  | t :: ts, states, out, h => by
    unfold buildStates at h
    split at h
    · rw [buildStates_names ts _ out h, List.map_map]
      apply List.map_congr_left
      intro kv _
      by_cases e : kv.1 = t.source <;> simp [e]
    · cases h

/-- a transition from an undeclared state is rejected (`InvalidConfigError`) -/
theorem buildStates_unknown_source (t : BTrans) (ts : List BTrans) (states : List (String × J))
    (h : ∀ kv ∈ states, kv.1 ≠ t.source) : ∃ e, buildStates states (t :: ts) = .error e := by
  unfold buildStates
  have : states.any (fun kv => decide (kv.1 = t.source)) = false := by
    rw [List.any_eq_false]
    intro kv hkv
    simpa using h kv hkv
  simp [this]

end XSM.C19

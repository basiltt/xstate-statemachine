import Xsm.Proofs.LifecycleEx
import Xsm.Proofs.RuntimeEx
import Xsm.Model.ActorsDone
/-!
# C14 — the interpreter lifecycle is a strict state machine; `stop()` releases everything

"An interpreter's status only ever moves uninitialized -> running -> (done | error) -> stopped (or
running -> stopped); start() is idempotent while running, refuses with a library error to revive a
stopped interpreter, and resumes a snapshot-restored one; send() on an interpreter that is done, failed
or stopped changes nothing and queues nothing. stop() is idempotent, may be called in any status, and
when it returns every timer, delayed send, service task, timer thread and descendant actor that
interpreter created has been cancelled or stopped, and none of them delivers anything afterwards."

Statements about the executable lifecycle model `Xsm/Model/Lifecycle.lean` (an interpreter object
`LSt` = engine state `St` + "a run-loop task is attached"; operations `opStart`, `opSend`,
`opSendMany` (= `send_events`), `opStop`, `opFail` (= `_fail`), `opRestore` (= `from_snapshot` of
`get_snapshot`), sequences `lrun`), for BOTH engines, every machine, every user-code environment `u`,
every interpreter state — no bound on anything. The operations reuse `syncStart/asyncStart`,
`drainLoop/asyncDrain` of `Xsm/Model/Engine.lean`; the status tests of `send`, `send_events`, `stop`,
`_fail` are the GENERATED tables `Tables.syncSendGate` … `Tables.failGate` (re-read from the source on
every run): editing one of those literals in the library breaks `gates_are_what_the_theorems_assume`
and everything below it.

PROVED here (for the model, all inputs):
* `status_edges`, `status_edges_run` — every operation / every sequence of operations moves `status`
  only along the automaton (`Reach`: zero or more `Edge`s), or — async only — to the model's own marker
  `HANG` (the MODEL's fuel for the unbounded run loop ran out: a non-terminating run, C13's subject);
  with the per-operation refinements `start_edges`, `send_edges`, `stop_edges`, `fail_edges`,
  `restore_keeps_status`;
* `start_idempotent_running`, `start_noop_when_finished`, `start_after_stop_raises`,
  `start_resumes_restored`;
* `send_noop_unless_running` (whole interpreter unchanged, both engines, `send` and `send_events`), and
  the exact difference between the engines: `async_send_before_start_is_queued`;
* `stop_idempotent`, `stop_from_any_status`, `stop_detaches_loop`, `stop_keeps_everything_else`;
* `nothing_processed_after_stop` — ANY sequence of start / send / send_events / stop / _fail after a
  `stop()` leaves the whole interpreter object unchanged (with restores in the sequence:
  configuration, context, status unchanged and no trace record added).

NOT in the lifecycle model, hence only VALIDATED on the real code (harness `xsmverif/c14.py`, every run): timers,
delayed sends, services, timer threads and child actors — "stop() releases everything" is checked by a
census of asyncio tasks / (shimmed) threads / the interpreters' own registries after every `stop()`,
and by a recorder that must stay silent while an hour of virtual time passes. The model observes
interpreters at quiescent points only (after each call the attached run loop has drained): calls
arriving in the middle of a macrostep, and cancellation of a run loop that is suspended inside an
awaiting action, are not exhibited. `error` is reached in the code only through `_fail` (an invoked
service failed with no `onError`); the model has the operation `opFail` but no services, and `_fail`
accepts status `uninitialized` (table `failGate`), an edge uninitialized → error that only `Reach`
(not `Edge`) covers: `fail_edges` states it.

A `stop()` that lands INSIDE a macrostep — finding F72 (C08: F73, C09: F74), repaired in the library by `dc3a7bd` (status
guards in the action loop, the entry loop and `_schedule_state_tasks`). The lifecycle model cannot exhibit it (quiescent points
only); the RUNTIME model (`Xsm/Model/Runtime.lean`: timers, services, suspension windows) can, and it still behaves as the library
did BEFORE the repair: `stop_inside_macrostep_releases_not_everything` (evaluated on the concrete runs of
`Xsm/Proofs/RuntimeEx.lean`) — the status is `stopped` and a timer is armed / a service was started BEHIND the stop. On the real
engines: `xsmverif/c14stop.py` (stop() called by an action of the transition, by a plugin hook, by another task / thread while the
interpreter's own task is suspended in the macrostep), judged at the moment stop() returned.

On the ACTOR-SYSTEM model (`Xsm/Model/ActorsDone.lean`), for descendants that finished by themselves:
`stop_leaves_no_finished_status_below`, `stop_forgets_finished_below`, `finished_blocking_child_is_stopped_with_its_subtree`.
-/
namespace XSM.C14
open XSM XSM.Done

/-! ## 0. the tie to the source: the status tests -/

/-- what the theorems below use of the generated tables -/
theorem gates_are_what_the_theorems_assume :
    (∀ st, refuses Tables.syncSendGate st = true ↔ st ≠ "running") ∧
    (∀ st, refuses Tables.asyncSendGate st = true ↔ (st = "stopped" ∨ st = "done" ∨ st = "error")) ∧
    (∀ fl st, refuses (stopGate fl) st = true ↔ (st = "uninitialized" ∨ st = "stopped")) ∧
    (∀ st, refuses Tables.failGate st = true ↔ ¬ (st = "running" ∨ st = "uninitialized")) :=
  ⟨syncSendGate_spec, asyncSendGate_spec, stopGate_spec, failGate_spec⟩

/-! ## 1. `stop()` -/

/-- `stop()`: nothing at all when uninitialized or stopped; otherwise status "stopped" and no run loop -/
theorem stop_edges (fl : Flavor) (l : LSt) :
    ((l.st.status = "uninitialized" ∨ l.st.status = "stopped") ∧ opStop fl l = l) ∨
    (¬ (l.st.status = "uninitialized" ∨ l.st.status = "stopped") ∧
      opStop fl l = { st := { l.st with status := "stopped" }, loop := false }) := by
  unfold opStop
  by_cases h : l.st.status = "uninitialized" ∨ l.st.status = "stopped"
  · left; exact ⟨h, by rw [if_pos ((stopGate_spec fl _).2 h)]⟩
  · right
    have : ¬ refuses (stopGate fl) l.st.status = true := fun hh => h ((stopGate_spec fl _).1 hh)
    exact ⟨h, by rw [if_neg this]⟩

/-- *"stop() may be called in any status"*: it always returns; afterwards the interpreter is stopped —
    unless it was never started, which it then still is -/
theorem stop_from_any_status (fl : Flavor) (l : LSt) :
    (opStop fl l).st.status = "stopped" ∨ (l.st.status = "uninitialized" ∧ opStop fl l = l) := by
  rcases stop_edges fl l with ⟨h, e⟩ | ⟨_, e⟩
  · rcases h with h | h
    · exact Or.inr ⟨h, e⟩
    · left; rw [e]; exact h
  · left; rw [e]

/-- *"stop() is idempotent"* -/
theorem stop_idempotent (fl : Flavor) (l : LSt) : opStop fl (opStop fl l) = opStop fl l := by
  rcases stop_edges fl l with ⟨_, e⟩ | ⟨_, e⟩
  · rw [e, e]
  · rw [e]
    rcases stop_edges fl { st := { l.st with status := "stopped" }, loop := false } with ⟨_, e2⟩ | ⟨h2, _⟩
    · exact e2
    · exact absurd (Or.inr rfl) h2

/-- after `stop()` no run loop is attached (async: the loop task was cancelled and awaited) … -/
theorem stop_detaches_loop (fl : Flavor) (l : LSt) (h : (opStop fl l).st.status = "stopped")
    (hs : l.st.status ≠ "stopped") : (opStop fl l).loop = false := by
  rcases stop_edges fl l with ⟨h1, e⟩ | ⟨_, e⟩
  · rcases h1 with h1 | h1
    · rw [e, h1] at h; exact absurd h (by decide)
    · exact absurd h1 hs
  · rw [e]

/-- … and `stop()` touches nothing else: configuration, history, context, trace, QUEUE (neither engine
    clears it; nothing will ever drain it: see `nothing_processed_after_stop`) -/
theorem stop_keeps_everything_else (fl : Flavor) (l : LSt) :
    (opStop fl l).st.cfg = l.st.cfg ∧ (opStop fl l).st.hist = l.st.hist ∧ (opStop fl l).st.ctx = l.st.ctx ∧
    (opStop fl l).st.trace = l.st.trace ∧ (opStop fl l).st.queue = l.st.queue := by
  rcases stop_edges fl l with ⟨_, e⟩ | ⟨_, e⟩ <;> rw [e] <;> exact ⟨rfl, rfl, rfl, rfl, rfl⟩

/-! ## 2. `start()` -/

/-- *"refuses with a library error to revive a stopped interpreter"*: `start()` raises
    (`startRaises`, rendered `InvalidConfigError` by the driver) and changes nothing -/
theorem start_after_stop_raises (fl : Flavor) (m : Machine) (u : UEnv) (l : LSt) (h : l.st.status = "stopped") :
    startRaises l = true ∧ opStart fl m u l = l := by
  have hr : startRaises l = true := by simp [startRaises, h]
  refine ⟨hr, ?_⟩
  cases fl with
  | sync => simp [opStart, hr]
  | async =>
    have : asyncResumes l = false := by simp [asyncResumes, h]
    simp [opStart, hr, this]

/-- … in particular right after a `stop()` of an interpreter that had been started -/
theorem start_right_after_stop_raises (fl : Flavor) (m : Machine) (u : UEnv) (l : LSt)
    (h : l.st.status ≠ "uninitialized") :
    startRaises (opStop fl l) = true ∧ opStart fl m u (opStop fl l) = opStop fl l := by
  apply start_after_stop_raises
  rcases stop_from_any_status fl l with h1 | ⟨h1, _⟩
  · exact h1
  · exact absurd h1 h

/-- *"start() is idempotent while running"*: sync — always; async — when its run loop is attached -/
theorem start_idempotent_running (fl : Flavor) (m : Machine) (u : UEnv) (l : LSt) (h : l.st.status = "running")
    (hl : fl = .async → l.loop = true) : opStart fl m u l = l := by
  cases fl with
  | sync => simp [opStart, startRaises, h]
  | async =>
    have : asyncResumes l = false := by simp [asyncResumes, hl rfl]
    simp [opStart, startRaises, h, this]

/-- a finished interpreter (`done` / `error`) is not restarted either: `start()` changes nothing -/
theorem start_noop_when_finished (fl : Flavor) (m : Machine) (u : UEnv) (l : LSt)
    (h : l.st.status = "done" ∨ l.st.status = "error") : opStart fl m u l = l := by
  cases fl with
  | sync => rcases h with h | h <;> simp [opStart, startRaises, h]
  | async =>
    by_cases hr : asyncResumes l = true
    · rcases h with h | h <;> simp [opStart, hr, h]
    · rcases h with h | h <;> simp [opStart, startRaises, hr, h]

/-- *"and resumes a snapshot-restored one"* (async: status "running", no run loop): `start()` attaches a
    loop, which then processes whatever was queued meanwhile — no initial entry is run again -/
theorem start_resumes_restored (m : Machine) (u : UEnv) (l : LSt) (h : l.st.status = "running")
    (hl : l.loop = false) :
    opStart .async m u l = { st := asyncDrain m u (asyncFuel m) l.st, loop := true } := by
  have : asyncResumes l = true := by simp [asyncResumes, h, hl]
  simp [opStart, this, h, lsettle]

/-- the sync engine needs no resumption: a restored running interpreter processes sends at once, and
    `start()` is the no-op of `start_idempotent_running` -/
theorem sync_restored_needs_no_start (m : Machine) (u : UEnv) (l : LSt) :
    (opRestore m l).st.status = l.st.status ∧ (opRestore m l).loop = false ∧ (opRestore m l).st.queue = [] ∧
    (opRestore m l).st.cfg = l.st.cfg ∧ (opRestore m l).st.ctx = l.st.ctx := ⟨rfl, rfl, rfl, rfl, rfl⟩

/-- where `start()` can leave the status -/
theorem start_edges (fl : Flavor) (m : Machine) (u : UEnv) (l : LSt) :
    (opStart fl m u l).st.status = l.st.status ∨
    (l.st.status = "uninitialized" ∧
      ((opStart fl m u l).st.status = "running" ∨ (opStart fl m u l).st.status = "done" ∨
       (fl = .async ∧ (opStart fl m u l).st.status = "stopped"))) ∨
    (fl = .async ∧ l.st.status = "running" ∧ l.loop = false ∧ (opStart fl m u l).st.status = "done") ∨
    (fl = .async ∧ (opStart fl m u l).st.status = "HANG") := by
  cases fl with
  | sync =>
    unfold opStart
    simp only
    split
    · exact Or.inl rfl
    · split
      · exact Or.inl rfl
      · rename_i _ hu
        have hu' : l.st.status = "uninitialized" := by simpa using hu
        right; left
        refine ⟨hu', ?_⟩
        rcases syncStart_status m u l.st with h | ⟨_, h⟩
        · exact Or.inl h
        · exact Or.inr (Or.inl h)
  | async =>
    by_cases hres : asyncResumes l = true
    · by_cases hrun : l.st.status = "running"
      · have hl : l.loop = false := by
          simp only [asyncResumes, Bool.and_eq_true, Bool.not_eq_true'] at hres; exact hres.2
        have e : opStart .async m u l = { st := asyncDrain m u (asyncFuel m) l.st, loop := true } :=
          start_resumes_restored m u l hrun hl
        rw [e]
        rcases asyncDrain_status m u (asyncFuel m) l.st with h | h
        · rcases h with h | ⟨_, h⟩
          · exact Or.inl h
          · exact Or.inr (Or.inr (Or.inl ⟨rfl, hrun, hl, h⟩))
        · exact Or.inr (Or.inr (Or.inr ⟨rfl, h⟩))
      · left; simp [opStart, hres, hrun]
    · by_cases hs : startRaises l = true
      · left; simp [opStart, hres, hs]
      · by_cases hu : l.st.status = "uninitialized"
        · rw [opStart_async_uninit m u l hu]
          rcases asyncStart_status m u l.st with h | h | h
          · right; left
            refine ⟨hu, ?_⟩
            rcases h with h | ⟨_, h⟩
            · exact Or.inl h
            · exact Or.inr (Or.inl h)
          · right; left; exact ⟨hu, Or.inr (Or.inr ⟨rfl, h⟩)⟩
          · exact Or.inr (Or.inr (Or.inr ⟨rfl, h⟩))
        · left; simp [opStart, hres, hs, hu]

/-! ## 3. `send()` / `send_events()` -/

/-- *"send() on an interpreter that is done, failed or stopped changes nothing and queues nothing"* — the
    WHOLE interpreter object is unchanged; for the sync engine the same holds before `start()` -/
theorem send_noop_unless_running (fl : Flavor) (m : Machine) (u : UEnv) (es : List Ev) (e : Ev) (l : LSt)
    (h : l.st.status = "stopped" ∨ l.st.status = "done" ∨ l.st.status = "error" ∨
         (fl = .sync ∧ l.st.status ≠ "running")) :
    opSend fl m u e l = l ∧ opSendMany fl m u es l = l := by
  have hg : refuses (sendGate fl) l.st.status = true := by
    cases fl with
    | sync =>
      apply (syncSendGate_spec _).2
      rcases h with h | h | h | ⟨_, h⟩
      · rw [h]; decide
      · rw [h]; decide
      · rw [h]; decide
      · exact h
    | async =>
      apply (asyncSendGate_spec _).2
      rcases h with h | h | h | ⟨h, _⟩
      · exact Or.inl h
      · exact Or.inr (Or.inl h)
      · exact Or.inr (Or.inr h)
      · exact absurd h (by decide)
  unfold opSend opSendMany
  simp only [hg, if_true, and_self]

/-- the one status in which the engines differ: before `start()` the async engine QUEUES the event (it is
    processed right after the initial entry, `async_presend_processed_at_start`), the sync engine drops it -/
theorem async_send_before_start_is_queued (m : Machine) (u : UEnv) (e : Ev) (l : LSt)
    (h : l.st.status = "uninitialized") :
    opSend .async m u e l = { l with st := { l.st with queue := l.st.queue ++ [⟨e, false⟩] } } ∧
    opSend .sync m u e l = l := by
  constructor
  · have hg : ¬ refuses (sendGate .async) l.st.status = true := by
      intro hh; have := (asyncSendGate_spec _).1 hh; rw [h] at this; revert this; decide
    unfold opSend opSendMany
    rw [if_neg hg]
    have hnr : ¬ (l.loop = true ∧ l.st.status = "running") := by rw [h]; simp
    simp only [lsettle, if_neg hnr, pushAll, List.map_cons, List.map_nil]
  · exact (send_noop_unless_running .sync m u [] e l (Or.inr (Or.inr (Or.inr ⟨rfl, by rw [h]; decide⟩)))).1

theorem async_presend_processed_at_start (m : Machine) (u : UEnv) (l : LSt) (h : l.st.status = "uninitialized") :
    opStart .async m u l = { st := asyncStart m u l.st, loop := asyncLoopCreated m u l.st } :=
  opStart_async_uninit m u l h

/-- the run-loop task is created by `start()` only once the initial entry and the eventless settling are
    over, and only if the interpreter is still running then: a `start()` that failed ("stopped") or that
    completed the machine at once ("done") attaches none -/
theorem start_attaches_loop_iff_running_after_settling (m : Machine) (u : UEnv) (l : LSt)
    (h : l.st.status = "uninitialized") :
    ((opStart .async m u l).loop = true ↔ (asyncStartSettle m u l.st).status = "running") ∧
    ((opStart .async m u l).loop = false → (opStart .async m u l).st = asyncStartSettle m u l.st) := by
  rw [async_presend_processed_at_start m u l h]
  refine ⟨by simp [asyncLoopCreated], ?_⟩
  intro hl
  have hnr : ¬ (asyncStartSettle m u l.st).status = "running" := by simpa [asyncLoopCreated] using hl
  show asyncStart m u l.st = _
  unfold asyncStart
  rw [if_neg hnr]

/-- where a send can leave the status: unchanged, or running → done (or the model's `HANG`) -/
theorem send_edges (fl : Flavor) (m : Machine) (u : UEnv) (es : List Ev) (l : LSt) :
    StatusStep l.st.status (opSendMany fl m u es l).st.status ∨
    (fl = .async ∧ (opSendMany fl m u es l).st.status = "HANG") := by
  unfold opSendMany
  split
  · exact Or.inl (Or.inl rfl)
  · cases fl with
    | sync => exact Or.inl (drainLoop_status m u _ _ (pushAll es l.st))
    | async =>
      simp only [lsettle]
      split
      · rcases asyncDrain_status m u (asyncFuel m) (pushAll es l.st) with h | h
        · exact Or.inl h
        · exact Or.inr ⟨trivial, h⟩
      · exact Or.inl (Or.inl rfl)

/-! ## 4. `_fail` and snapshot-restore -/

/-- `_fail`: running → error; also uninitialized → error (the code's own gate allows it; no service can
    fail before `start()`, and the harness never observed it); otherwise nothing -/
theorem fail_edges (l : LSt) :
    ((l.st.status = "running" ∨ l.st.status = "uninitialized") ∧ (opFail l).st.status = "error") ∨
    (¬ (l.st.status = "running" ∨ l.st.status = "uninitialized") ∧ opFail l = l) := by
  unfold opFail
  by_cases h : l.st.status = "running" ∨ l.st.status = "uninitialized"
  · left
    have : ¬ refuses Tables.failGate l.st.status = true := fun hh => (failGate_spec _).1 hh h
    exact ⟨h, by rw [if_neg this]⟩
  · right; exact ⟨h, by rw [if_pos ((failGate_spec _).2 h)]⟩

theorem restore_keeps_status (m : Machine) (l : LSt) : (opRestore m l).st.status = l.st.status := rfl

/-! ## 5. the automaton -/

/-- **every operation moves `status` only along uninitialized → running → (done | error) → stopped,
    running → stopped** (`Reach`: zero or more `Edge`s of that automaton; async: or to the model's
    non-termination marker). `Known5`: the status is one of the library's five. -/
theorem status_edges (fl : Flavor) (m : Machine) (u : UEnv) (l : LSt) (op : LOp) (hk : Known5 l.st.status) :
    Reach l.st.status (lstep fl m u l op).st.status ∨ (fl = .async ∧ (lstep fl m u l op).st.status = "HANG") := by
  cases op with
  | start =>
    show Reach l.st.status (opStart fl m u l).st.status ∨ _
    rcases start_edges fl m u l with h | ⟨hu, h⟩ | ⟨_, hr, _, h⟩ | h
    · left; rw [h]; exact Reach.refl _
    · left
      apply Reach.of_uninit hu
      rcases h with h | h | ⟨_, h⟩ <;> simp [h]
    · left; exact .of_running hr (Or.inl h)
    · exact Or.inr h
  | send e =>
    show Reach l.st.status (opSendMany fl m u [e] l).st.status ∨ _
    rcases send_edges fl m u [e] l with h | h
    · exact Or.inl (Reach.of_statusStep h)
    · exact Or.inr h
  | sendMany es =>
    show Reach l.st.status (opSendMany fl m u es l).st.status ∨ _
    rcases send_edges fl m u es l with h | h
    · exact Or.inl (Reach.of_statusStep h)
    · exact Or.inr h
  | stop =>
    left
    show Reach l.st.status (opStop fl l).st.status
    rcases stop_edges fl l with ⟨_, e⟩ | ⟨hn, e⟩
    · rw [e]; exact Reach.refl _
    · rw [e]
      show Reach l.st.status "stopped"
      rcases hk with h | h | h | h | h
      · exact absurd (Or.inl h) hn
      · exact .of_running h (by decide)
      · exact .of_finished (Or.inl h)
      · exact .of_finished (Or.inr h)
      · exact absurd (Or.inr h) hn
  | fail =>
    left
    show Reach l.st.status (opFail l).st.status
    rcases fail_edges l with ⟨h, e⟩ | ⟨_, e⟩
    · rw [e]
      rcases h with h | h
      · exact .of_running h (by decide)
      · exact .of_uninit h (by decide)
    · rw [e]; exact Reach.refl _
  | restore => left; exact Reach.refl _

/-- the sync engine has no marker: always along the automaton -/
theorem status_edges_sync (m : Machine) (u : UEnv) (l : LSt) (op : LOp) (hk : Known5 l.st.status) :
    Reach l.st.status (lstep .sync m u l op).st.status := by
  rcases status_edges .sync m u l op hk with h | ⟨h, _⟩
  · exact h
  · exact absurd h (by decide)

/-- **whole call sequences** (any length, any order, repeated calls): from a fresh interpreter — or any
    interpreter in one of the five statuses — the status after the sequence is reachable along the
    automaton from the status before it, and so is every intermediate one from its predecessor (apply the
    theorem to the prefixes); async: unless some prefix of the sequence ends in the model's `HANG` -/
theorem status_edges_run (fl : Flavor) (m : Machine) (u : UEnv) : ∀ (ops : List LOp) (l : LSt), Known5 l.st.status →
    (Reach l.st.status (lrun fl m u ops l).st.status ∧ Known5 (lrun fl m u ops l).st.status) ∨
    (fl = .async ∧ ∃ pre post, ops = pre ++ post ∧ (lrun fl m u pre l).st.status = "HANG") := by
  intro ops
  induction ops with
  | nil => intro l hk; exact Or.inl ⟨Reach.refl _, hk⟩
  | cons op ops ih =>
    intro l hk
    rcases status_edges fl m u l op hk with h | ⟨hf, h⟩
    · rcases ih (lstep fl m u l op) (h.known hk) with ⟨h2, k2⟩ | ⟨hf, pre, post, e, hh⟩
      · exact Or.inl ⟨h.trans h2, k2⟩
      · exact Or.inr ⟨hf, op :: pre, post, by rw [e]; rfl, hh⟩
    · exact Or.inr ⟨hf, [op], ops, rfl, h⟩

theorem status_edges_run_sync (m : Machine) (u : UEnv) (ops : List LOp) (l : LSt) (hk : Known5 l.st.status) :
    Reach l.st.status (lrun .sync m u ops l).st.status ∧ Known5 (lrun .sync m u ops l).st.status := by
  rcases status_edges_run .sync m u ops l hk with h | ⟨h, _⟩
  · exact h
  · exact absurd h (by decide)

/-- a fresh interpreter is `uninitialized` -/
theorem new_is_known (m : Machine) : Known5 (LSt.new m).st.status := Or.inl rfl

/-! ## 6. nothing happens after `stop()` -/

/-- one call on a stopped interpreter (anything but building a NEW interpreter from its snapshot): the
    whole object is unchanged -/
theorem step_on_stopped (fl : Flavor) (m : Machine) (u : UEnv) (l : LSt) (op : LOp) (h : l.st.status = "stopped")
    (hnr : op ≠ LOp.restore) : lstep fl m u l op = l := by
  cases op with
  | start => exact (start_after_stop_raises fl m u l h).2
  | send e => exact (send_noop_unless_running fl m u [] e l (Or.inl h)).1
  | sendMany es => exact (send_noop_unless_running fl m u es (.user "") l (Or.inl h)).2
  | stop =>
    rcases stop_edges fl l with ⟨_, e⟩ | ⟨hn, _⟩
    · exact e
    · exact absurd (Or.inr h) hn
  | fail =>
    rcases fail_edges l with ⟨hh, _⟩ | ⟨_, e⟩
    · rcases hh with hh | hh <;> rw [h] at hh <;> exact absurd hh (by decide)
    · exact e
  | restore => exact absurd rfl hnr

/-- **nothing is processed after `stop()`**: any sequence of start / send / send_events / stop / _fail
    calls on a stopped interpreter leaves the whole interpreter object — configuration, context, history,
    trace (no user code ran), queue, status — exactly as `stop()` left it -/
theorem nothing_processed_after_stop (fl : Flavor) (m : Machine) (u : UEnv) : ∀ (ops : List LOp) (l : LSt),
    l.st.status = "stopped" → (∀ op ∈ ops, op ≠ LOp.restore) → lrun fl m u ops l = l := by
  intro ops
  induction ops with
  | nil => intro l _ _; rfl
  | cons op ops ih =>
    intro l h hno
    have e : lstep fl m u l op = l :=
      step_on_stopped fl m u l op h (hno op (List.mem_cons_self ..))
    show lrun fl m u ops (lstep fl m u l op) = l
    rw [e]
    exact ih l h (fun o ho => hno o (List.mem_cons_of_mem _ ho))

/-- the same stated from the call of `stop()` itself, for an interpreter that had been started -/
theorem nothing_processed_after_the_stop_call (fl : Flavor) (m : Machine) (u : UEnv) (ops : List LOp) (l : LSt)
    (hs : l.st.status ≠ "uninitialized") (hno : ∀ op ∈ ops, op ≠ LOp.restore) :
    lrun fl m u (LOp.stop :: ops) l = opStop fl l := by
  show lrun fl m u ops (opStop fl l) = opStop fl l
  apply nothing_processed_after_stop fl m u ops _ _ hno
  rcases stop_from_any_status fl l with h | ⟨h, _⟩
  · exact h
  · exact absurd h hs

/-- with snapshot-restores in the sequence (each builds a NEW, equally stopped interpreter): the
    configuration, the context and the status never change, and no trace record is ever added -/
theorem nothing_processed_after_stop_restores (fl : Flavor) (m : Machine) (u : UEnv) : ∀ (ops : List LOp) (l : LSt),
    l.st.status = "stopped" →
    (lrun fl m u ops l).st.status = "stopped" ∧ (lrun fl m u ops l).st.cfg = l.st.cfg ∧
    (lrun fl m u ops l).st.ctx = l.st.ctx ∧
    ((lrun fl m u ops l).st.trace = l.st.trace ∨ (lrun fl m u ops l).st.trace = []) := by
  intro ops
  induction ops with
  | nil => intro l h; exact ⟨h, rfl, rfl, Or.inl rfl⟩
  | cons op ops ih =>
    intro l h
    by_cases hr : op = LOp.restore
    · subst hr
      obtain ⟨h1, h2, h3, h4⟩ := ih (opRestore m l) h
      refine ⟨h1, h2, h3, ?_⟩
      rcases h4 with h4 | h4
      · exact Or.inr h4
      · exact Or.inr h4
    · have e : lstep fl m u l op = l := step_on_stopped fl m u l op h hr
      show (lrun fl m u ops (lstep fl m u l op)).st.status = _ ∧ (lrun fl m u ops (lstep fl m u l op)).st.cfg = _ ∧
        (lrun fl m u ops (lstep fl m u l op)).st.ctx = _ ∧
        ((lrun fl m u ops (lstep fl m u l op)).st.trace = _ ∨ (lrun fl m u ops (lstep fl m u l op)).st.trace = _)
      rw [e]; exact ih l h

/-! ## 7. the theorems are not vacuous: a concrete machine, both engines -/

open XSM.Done.Ex in
/-- `goM` (start in `a`, `GO` reaches the top-level final state `f`): out-of-order calls on both engines -/
example :
    let ops : List LOp := [.stop, .send (.user "GO"), .start, .start, .send (.user "GO"), .send (.user "GO"),
                           .start, .stop, .stop, .start, .send (.user "GO"), .restore, .start]
    ((lrun .sync goM exU ops (LSt.new goM)).st.status, (lrun .sync goM exU ops (LSt.new goM)).st.cfg) =
      ("stopped", [[], ["f"]]) := goM_run_facts.1

open XSM.Done.Ex in
/-- statuses after each call of the same sequence — sync: the send before `start()` is dropped … -/
example :
    ([[LOp.stop], [.stop, .send (.user "GO")], [.stop, .send (.user "GO"), .start],
      [.stop, .send (.user "GO"), .start, .send (.user "GO")],
      [.stop, .send (.user "GO"), .start, .send (.user "GO"), .stop]].map
        (fun ops => (lrun .sync goM exU ops (LSt.new goM)).st.status)) =
      ["uninitialized", "uninitialized", "running", "done", "stopped"] := goM_run_facts.2.1

open XSM.Done.Ex in
/-- … async: it is queued and processed by `start()`, which therefore already returns `done` -/
example :
    ([[LOp.stop], [.stop, .send (.user "GO")], [.stop, .send (.user "GO"), .start],
      [.stop, .send (.user "GO"), .start, .stop]].map
        (fun ops => (lrun .async goM exU ops (LSt.new goM)).st.status)) =
      ["uninitialized", "uninitialized", "done", "stopped"] := goM_run_facts.2.2.1

open XSM.Done.Ex in
/-- a restored running async interpreter queues sends until `start()` attaches a loop -/
example :
    ((lrun .async goM exU [.start, .restore, .send (.user "GO")] (LSt.new goM)).st.status,
     (lrun .async goM exU [.start, .restore, .send (.user "GO")] (LSt.new goM)).loop,
     (lrun .async goM exU [.start, .restore, .send (.user "GO")] (LSt.new goM)).st.queue.length,
     (lrun .async goM exU [.start, .restore, .send (.user "GO")] (LSt.new goM)).st.cfg) =
      ("running", false, 1, [[], ["a"]]) := goM_run_facts.2.2.2.1
open XSM.Done.Ex in
example :
    ((lrun .async goM exU [.start, .restore, .send (.user "GO"), .start] (LSt.new goM)).st.status,
     (lrun .async goM exU [.start, .restore, .send (.user "GO"), .start] (LSt.new goM)).loop,
     (lrun .async goM exU [.start, .restore, .send (.user "GO"), .start] (LSt.new goM)).st.queue.length,
     (lrun .async goM exU [.start, .restore, .send (.user "GO"), .start] (LSt.new goM)).st.cfg) =
      ("done", true, 0, [[], ["f"]]) := goM_run_facts.2.2.2.2.1

open XSM.Done.Ex in
/-- a machine whose initial state is the top-level final state completes inside `start()`: the async
    interpreter is "done" once entry and settling are over, so NO run-loop task is created (the loop is
    created after the settling and only for a running interpreter); `goM` itself is still running then and
    gets one -/
example :
    let finM : Machine := { goM with root := .mk (mkD .compound (some "f")) [("f", .mk (mkD .final) [])] }
    ((opStart .async finM exU (LSt.new finM)).st.status, (opStart .async finM exU (LSt.new finM)).loop,
     (opStart .async goM exU (LSt.new goM)).st.status, (opStart .async goM exU (LSt.new goM)).loop) =
      ("done", false, "running", true) := goM_run_facts.2.2.2.2.2

/-! ## stop() inside a macrostep (finding F72, before its repair) — on the runtime model -/

/-- **F72, the behaviour before its repair** (`dc3a7bd`; the runtime model still has it, the library no longer does).
    *"when it returns every timer … service task, timer thread … has been cancelled or stopped"* FAILED when `stop()` arrived while
    the interpreter's own task was suspended INSIDE a macrostep: `stopRT` clears everything that exists (`C08.never_after_stop`), and
    the rest of the macrostep then enters its target states and schedules their tasks on the stopped interpreter. sync
    (`RTEx.runStopSync`: `stop` from another thread at t = 120 while the exit action of `a` blocks until 150): the status is
    `stopped`, yet `b`'s timer is armed at 150 and `b`'s service was called at 150. async (`RTEx.runStopInside`, no slow action: the
    stop shares the instant of `R` and lands in the `await` of `cancel_by_owner`): `stopped` with a live timer armed at the instant
    of the stop; (`RTEx.runStopSvc`) the service of the state entered behind the stop is called, runs and has its completion refused.
    A stop BETWEEN macrosteps (`RTEx.runStopBetween`) leaves nothing. -/
theorem stop_inside_macrostep_releases_not_everything :
    (XSM.RTEx.runStopSync.st.status = "stopped" ∧ XSM.RTEx.runStopSync.timers.map (fun t => (t.owner, t.armed)) = [(["b"], 150)] ∧
     XSM.RTEx.runStopSync.started = [(["b"], "ib0", 1)]) ∧
    (XSM.RTEx.runStopInside.st.status = "stopped" ∧ XSM.RTEx.runStopInside.timers.map (fun t => (t.owner, t.armed)) = [(["s"], 50)]) ∧
    (XSM.RTEx.runStopSvc.st.status = "stopped" ∧ XSM.RTEx.runStopSvc.started = [(["b"], "i", 1)] ∧
     (XSM.RTEx.runStopSvc.flush.log.reverse.filter (fun r => r.1 = 150)).map (·.2) = ["svc-end:i:ok", "send:done.invoke.i:stopped"]) ∧
    (XSM.RTEx.runStopBetween.st.status = "stopped" ∧ XSM.RTEx.runStopBetween.timers.length = 0 ∧ XSM.RTEx.runStopBetween.invs.length = 0) := by
  decide +kernel

/-! ## descendants that FINISHED BY THEMSELVES — on the actor-system model (`Model/ActorsDone.lean`)

`stop()` returns early only for `uninitialized` / `stopped`; a child that reached its final state (`done`) or failed
(`error`) and is still listed in its parent's children map is torn down like a running one, with everything below it
(`stopD`: the finished actors at and below the stopped one are first seen as `stop()` sees them, `reviveSub`). The
subtree part of the clause for RUNNING descendants is `C15.parent_stop_stops_subtree` /
`reachable_stop_stops_and_unregisters_subtree`. -/

open XSM.Actors in
/-- after `stop()` of `x`, no actor at or below `x` in the children maps still shows `done` or `error` -/
theorem stop_leaves_no_finished_status_below (busy : Option Nat) (d : SysD) (x u : Nat) (hu : u ∈ subtreeOf d.base x) :
    (stopD busy d x).status u ≠ .done ∧ (stopD busy d x).status u ≠ .error := by
  have hfin : (stopD busy d x).fin.any (fun kv => decide (kv.1 = u)) = false := by
    simp only [stopD, reviveSub, List.any_eq_false, List.mem_filter, decide_eq_true_eq]
    rintro ⟨a, b⟩ ⟨_, hnot⟩ heq
    simp only at heq
    subst heq
    simp [hu] at hnot
  have hfail : (stopD busy d x).fin.any (fun kv => decide (kv.1 = u) && kv.2) = false := by
    rw [List.any_eq_false] at hfin ⊢
    intro kv hkv
    have := hfin kv hkv
    simp only [Bool.not_eq_true] at this
    simp [this]
  unfold SysD.status SysD.failed SysD.isFin
  simp only [hfin, hfail]
  constructor <;> (cases ((stopD busy d x).base.get u).status <;> simp)

open XSM.Actors in
/-- … and the finished-actor list keeps nothing of the stopped subtree: a later observation cannot report a finished
    child there -/
theorem stop_forgets_finished_below (busy : Option Nat) (d : SysD) (x u : Nat) (hu : u ∈ subtreeOf d.base x) (f : Bool) :
    (u, f) ∉ (stopD busy d x).fin := by
  simp only [stopD, reviveSub, List.mem_filter, not_and]
  intro _
  simp [hu]

open XSM.Actors in
/-- the scenario in full (sync engine): `r` spawns the BLOCKING child `a`; `a` spawns `g` (systemId `S2`) and then its
    machine reaches its final state - `a` stays in `r`'s children map with status `done` while `g` keeps running;
    `stop()` of `r` stops `a` and `g`, empties the registry and the children maps, and `g` receives nothing afterwards -/
theorem finished_blocking_child_is_stopped_with_its_subtree :
    let cmds : List (String × List Action) :=
      [("C0", [Action.spawn "k1" (some "a") none true]), ("C1", [Action.spawn "k2" (some "g") (some "S2") false]),
       ("C2", [Action.sendTo "S2" "M1" 0 none])]
    let d3 := runD cmds (initD .sync true [] false) [.base (.cmd "r" "C0"), .base (.cmd "r:a" "C1"), .fin "r:a" false]
    let d5 := runD cmds d3 [.base (.cmd "r" "C2"), .base (.stop "r")]
    d3.status 1 = .done ∧ d3.status 2 = .running ∧ (d3.base.get 0).kids.map (·.2) = [1] ∧ d3.base.oos = false ∧
    d5.status 0 = .stopped ∧ d5.status 1 = .stopped ∧ d5.status 2 = .stopped ∧ d5.base.registry = [] ∧ d5.fin = [] ∧
    (d5.base.get 2).received = ["M1"] ∧ d5.base.oos = false := by
  decide +kernel

end XSM.C14

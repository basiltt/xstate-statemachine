import Xsm.Proofs.Descriptor
/-!
# C20 — event-descriptor matching

"Within one state an event type is matched first against an identical key, then against partial
descriptors `p.*` in decreasing prefix length (where `p.*` matches `p` itself and anything beginning
`p.`), and last against `*`, candidates being tried in that order. Synthetic events the engine raises
(`done.*`, `error.*`, `after.*`, `xstate.*`) are matched only by their exact handler and never by a
partial or bare wildcard, and a transition declared as null consumes its event at that state so that
no ancestor's handler runs."

Helper lemmas live in `Xsm/Proofs/Descriptor.lean` (and, for the walk, `Xsm/Proofs/SelSound.lean`). Everything is about the model's own
definitions `XSM.matchingDescriptors` (`Xsm/Model/Descriptor.lean`, the model of
`_matching_descriptors`) and `XSM.onCands` / `XSM.collectChain` / `XSM.collectEligible`
(`Xsm/Model/Select.lean`, the model of `_collect_eligible_transitions`), for ALL key lists and ALL
event strings.

Vocabulary (defined in `Xsm/Proofs/Descriptor.lean`, unfolded by the two `_spec` theorems below):
* `isInternal ev`       : `ev` starts with one of `internalPrefixes` (the tuple read from the source);
* `partialMatch k ev`   : `k ≠ "*"`, `k` ends with `.*`, and `ev` is `k[:-2]` or starts with `k[:-2] ++ "."`;
* `partialsOf keys ev`  : the model's sorted list of the keys with `partialMatch k ev`;
* `transOf d key`       : the transition list under `key` in `d.on` (Python `current.on[key]`);
* `onAll d keys`        : `keys.flatMap (transOf d)`; `onVisited d keys`: its part before the first
                          forbidden transition; `onBlocked d keys`: whether there is a forbidden one;
* `onKeys d ev`         : `matchingDescriptors (d.on.map (·.1)) ev.type`;
* `consumesAt d ev`     : `onBlocked d (onKeys d ev)`;
* `passing g src ts`    : the candidates `⟨src, t⟩` for the `t ∈ ts` with `g t.tid`, in order;
* `CacheOK g c`         : every entry of the guard cache `c` agrees with the oracle `g`.
-/
namespace XSM.C20
open XSM

/-! ## vocabulary, unfolded -/

/-- meaning of `isInternal` -/
theorem isInternal_spec (ev : String) :
    isInternal ev = true ↔ ∃ p ∈ internalPrefixes, sStartsWith ev p = true :=
  XSM.isInternal_iff

/-- meaning of `partialMatch`: `p.*` matches `p` itself and anything beginning `p.` -/
theorem partialMatch_spec (k ev : String) :
    partialMatch k ev = true ↔
      k ≠ "*" ∧ sEndsWith k ".*" = true ∧
        (ev = sDropRight k 2 ∨ sStartsWith ev (sDropRight k 2 ++ ".") = true) :=
  XSM.partialMatch_iff

example : partialMatch "a.b.*" "a.b" = true ∧ partialMatch "a.b.*" "a.b.c" = true ∧
    partialMatch "a.b.*" "a.bc" = false ∧ partialMatch "*" "a" = false := descriptor_vectors.1

/-! ## clause 1: "matched first against an identical key" -/

/-- **exact key first**: an identical key is the first descriptor tried. -/
theorem exact_first (keys : List String) (ev : String) (hev : ev ≠ "") (hmem : ev ∈ keys) :
    (matchingDescriptors keys ev).head? = some ev := by
  rw [matchingDescriptors_eq, if_neg hev, if_pos hmem]
  rfl

example : (matchingDescriptors ["a.*", "*", "a.b", "a.b.*"] "a.b").head? = some "a.b" := by
  rw [matching_ex_ab]; rfl
example : (matchingDescriptors ["a.*", "*", "a.b", "a.b.*"] "a.b").head? = some "a.b" :=
  exact_first _ _ (by decide +kernel) (by decide +kernel)

/-- **... and only once**: with distinct keys (they come from a dict) the exact key does not occur
    again further down — provided the event type is not itself of descriptor form (`*` or `….*`).
    For such event types the exact key really is tried twice; see the two `example`s below, which
    the Python code reproduces. -/
theorem exact_once (keys : List String) (ev : String) (hn : keys.Nodup) (hev : ev ≠ "")
    (hmem : ev ∈ keys) (hstar : ev ≠ "*") (hsuf : sEndsWith ev ".*" = false) :
    ∃ rest, matchingDescriptors keys ev = ev :: rest ∧ ev ∉ rest := by
  have hnd := XSM.matching_nodup keys ev hn hstar hsuf
  rw [matchingDescriptors_eq, if_neg hev, if_pos hmem] at hnd ⊢
  exact ⟨_, rfl, (List.nodup_cons.1 hnd).1⟩

/-- more generally the whole result is duplicate-free under the same conditions -/
theorem matching_nodup (keys : List String) (ev : String) (hn : keys.Nodup)
    (hstar : ev ≠ "*") (hsuf : sEndsWith ev ".*" = false) :
    (matchingDescriptors keys ev).Nodup :=
  XSM.matching_nodup keys ev hn hstar hsuf

example : matchingDescriptors ["a.*", "*", "a.b", "a.b.*"] "a.b" = ["a.b", "a.b.*", "a.*", "*"] :=
  matching_ex_ab
/-- the side conditions of `exact_once` are necessary: an event literally named like a descriptor is
    matched by that key twice (same in the Python code) -/
example : matchingDescriptors ["a.*"] "a.*" = ["a.*", "a.*"] := descriptor_vectors.2.1.1
example : matchingDescriptors ["*"] "*" = ["*", "*"] := descriptor_vectors.2.1.2

/-! ## clause 2: which keys are candidates at all -/

/-- **membership**: a key is tried iff it is the identical key, or — for non-internal events only —
    it is `*` or a partial descriptor `p.*` with `ev = p` or `ev` beginning `p.`. -/
theorem mem_matching (keys : List String) (ev k : String) :
    k ∈ matchingDescriptors keys ev ↔
      keys ≠ [] ∧ ev ≠ "" ∧ k ∈ keys ∧
        (k = ev ∨
          ((¬ ∃ p ∈ internalPrefixes, sStartsWith ev p = true) ∧
            (k = "*" ∨
              (k ≠ "*" ∧ sEndsWith k ".*" = true ∧
                (ev = sDropRight k 2 ∨ sStartsWith ev (sDropRight k 2 ++ ".") = true))))) := by
  rw [XSM.matching_mem, ← XSM.partialMatch_iff, ← XSM.isInternal_iff]
  simp only [Bool.not_eq_true]

example : "a.*" ∈ matchingDescriptors ["a.*", "*", "a.b", "a.b.*"] "a.b.c" ∧
    "a.b" ∉ matchingDescriptors ["a.*", "*", "a.b", "a.b.*"] "a.b.c" := by
  rw [matching_ex_abc]; decide +kernel

/-! ## clause 3: the order — exact, partials by decreasing length, `*` last -/

/-- **shape** for an ordinary (non-internal) event: `[ev]?` ++ partials ++ `["*"]?`, the partials
    sorted by non-increasing length and each one a key that partially matches. -/
theorem matching_shape (keys : List String) (ev : String) (h0 : keys ≠ []) (he : ev ≠ "")
    (hint : isInternal ev = false) :
    matchingDescriptors keys ev =
        (if ev ∈ keys then [ev] else []) ++ partialsOf keys ev ++ (if "*" ∈ keys then ["*"] else []) ∧
      (partialsOf keys ev).Pairwise (fun a b => b.length ≤ a.length) ∧
      (∀ p, p ∈ partialsOf keys ev ↔ p ∈ keys ∧ partialMatch p ev = true) :=
  ⟨XSM.matching_eq_of_user keys he hint, XSM.partialsOf_sorted keys ev,
    fun _ => XSM.mem_partialsOf⟩

/-- **shape**, every case (empty map, empty type, internal event included) -/
theorem matching_shape_all (keys : List String) (ev : String) :
    ∃ ex ps st, matchingDescriptors keys ev = ex ++ ps ++ st ∧
      (ex = [] ∨ (ex = [ev] ∧ ev ∈ keys)) ∧ (st = [] ∨ (st = ["*"] ∧ "*" ∈ keys)) ∧
      ps.Pairwise (fun a b => b.length ≤ a.length) ∧
      (∀ p ∈ ps, p ∈ keys ∧ partialMatch p ev = true) := by
  have hex : ∀ (b : Prop) [Decidable b] (x : String), (b → x ∈ keys) →
      ((if b then [x] else []) = [] ∨ ((if b then [x] else []) = [x] ∧ x ∈ keys)) := by
    intro b _ x hx
    by_cases hb : b
    · right; simp [hb, hx hb]
    · left; simp [hb]
  by_cases he : ev = ""
  · subst he
    exact ⟨[], [], [], matching_eq_nil keys, Or.inl rfl, Or.inl rfl, List.Pairwise.nil, by simp⟩
  cases hint : isInternal ev with
  | true =>
    exact ⟨_, [], [], by rw [matching_eq_of_internal keys he hint]; simp, hex _ ev id, Or.inl rfl,
      List.Pairwise.nil, by simp⟩
  | false =>
    exact ⟨_, _, _, matching_eq_of_user keys he hint, hex _ ev id, hex _ "*" id,
      partialsOf_sorted _ _, fun p hp => mem_partialsOf.1 hp⟩

example : matchingDescriptors ["a.*", "*", "a.b", "a.b.*"] "a.b.c" = [] ++ ["a.b.*", "a.*"] ++ ["*"] :=
  matching_ex_abc
example : partialsOf ["a.*", "*", "a.b", "a.b.*", "a.b.c.*", "x.*"] "a.b.c" = ["a.b.c.*", "a.b.*", "a.*"] :=
  descriptor_vectors.2.2.1

/-- **`*` is last**: whenever `*` is tried at all it is the last descriptor tried. -/
theorem star_last (keys : List String) (ev : String) (h : "*" ∈ matchingDescriptors keys ev) :
    (matchingDescriptors keys ev).getLast? = some "*" := by
  obtain ⟨_, he, hs, hcase⟩ := (XSM.matching_mem keys ev "*").1 h
  cases hint : isInternal ev with
  | true =>
    rcases hcase with h1 | ⟨h1, _⟩
    · rw [matching_eq_of_internal keys he hint, ← h1, if_pos hs]
      rfl
    · rw [hint] at h1
      cases h1
  | false =>
    rw [matching_eq_of_user keys he hint]
    simp [hs, List.getLast?_append]

/-- ... and (for an event not literally named `*`) it is tried only there. -/
theorem star_only_last (keys : List String) (ev : String) (hs : "*" ∈ keys) (he : ev ≠ "")
    (hne : ev ≠ "*") (hint : isInternal ev = false) :
    ∃ init, matchingDescriptors keys ev = init ++ ["*"] ∧ "*" ∉ init := by
  refine ⟨(if ev ∈ keys then [ev] else []) ++ partialsOf keys ev, ?_, fun hmem => ?_⟩
  · rw [matching_eq_of_user keys he hint, if_pos hs]
  · rcases List.mem_append.1 hmem with hmem | hmem
    · exact hne (mem_optional.1 hmem).2.symm
    · cases (mem_partialsOf.1 hmem).2

example : (matchingDescriptors ["*", "a.*", "a.b.c"] "a.b.c").getLast? = some "*" := by
  rw [matching_ex_star]; rfl
example : (matchingDescriptors ["*", "a.*", "a.b.c"] "a.b.c").getLast? = some "*" :=
  star_last _ _ (by rw [matching_ex_star]; decide)

/-! ## clause 3, continued: the order does not depend on the dict's insertion order -/

/-- two partial descriptors that match the same event and have the same length are the same key -/
theorem matching_partials_distinct_lengths (k1 k2 ev : String)
    (h1 : partialMatch k1 ev = true) (h2 : partialMatch k2 ev = true) (hne : k1 ≠ k2) :
    k1.length ≠ k2.length :=
  fun hlen => hne (XSM.partialMatch_length_inj h1 h2 hlen)

/-- hence the stable sort never has a tie to break, and the whole result is independent of the order
    of the keys (no `Nodup` needed) -/
theorem partials_order_independent (keys keys' : List String) (ev : String) (hp : keys.Perm keys') :
    matchingDescriptors keys ev = matchingDescriptors keys' ev := by
  rw [matchingDescriptors_eq, matchingDescriptors_eq, partialsOf_perm ev hp]
  simp only [hp.mem_iff]

example : matchingDescriptors ["a.*", "*", "a.b", "a.b.*"] "a.b.c" =
    matchingDescriptors ["a.b.*", "a.b", "*", "a.*"] "a.b.c" := matching_ex_abc.trans descriptor_vectors.2.2.2.1.1.symm
example : matchingDescriptors ["a.*", "*", "a.b", "a.b.*"] "a.b.c" =
    matchingDescriptors ["a.b.*", "a.b", "*", "a.*"] "a.b.c" :=
  partials_order_independent _ _ _ (by decide +kernel)
example : ("a.b.*" : String).length ≠ ("a.*" : String).length :=
  matching_partials_distinct_lengths "a.b.*" "a.*" "a.b.c" descriptor_vectors.1.2.1 descriptor_vectors.2.2.2.1.2.1
    descriptor_vectors.2.2.2.1.2.2

/-! ## clause 4: engine-raised events -/

/-- the four families named in the property are in the tuple read from the Python source
    (deleting one there breaks the build here) -/
theorem internal_prefixes_cover : ["done.", "error.", "after.", "xstate."] ⊆ internalPrefixes := by
  decide +kernel

/-- **internal events match only their exact key** (stated over the tuple read from the source) -/
theorem internal_only_exact (keys : List String) (ev : String)
    (h : ∃ p ∈ internalPrefixes, sStartsWith ev p = true) :
    matchingDescriptors keys ev ⊆ [ev] := by
  intro k hk
  obtain ⟨_, _, _, h' | ⟨h', _⟩⟩ := (XSM.matching_mem keys ev k).1 hk
  · simp [h']
  · rw [XSM.isInternal_iff.2 h] at h'; cases h'

/-- the same, spelled with the four families of the property text -/
theorem internal_only_exact_named (keys : List String) (ev : String)
    (h : sStartsWith ev "done." = true ∨ sStartsWith ev "error." = true ∨
      sStartsWith ev "after." = true ∨ sStartsWith ev "xstate." = true) :
    matchingDescriptors keys ev ⊆ [ev] := by
  apply internal_only_exact
  rcases h with h | h | h | h
  · exact ⟨"done.", internal_prefixes_cover (by simp), h⟩
  · exact ⟨"error.", internal_prefixes_cover (by simp), h⟩
  · exact ⟨"after.", internal_prefixes_cover (by simp), h⟩
  · exact ⟨"xstate.", internal_prefixes_cover (by simp), h⟩

example : matchingDescriptors ["*", "done.*", "done.state.m", "done.state.*"] "done.state.m" =
    ["done.state.m"] := descriptor_vectors.2.2.2.2.1
example : matchingDescriptors ["*", "done.*", "error.*"] "error.platform.x" = [] := descriptor_vectors.2.2.2.2.2.1
example : matchingDescriptors ["*", "done.*", "done.state.m"] "done.state.m" ⊆ ["done.state.m"] :=
  internal_only_exact_named _ _ (Or.inl descriptor_vectors.2.2.2.2.2.2)

/-! ## clause 3 again: "candidates being tried in that order" (`onCands`) -/

/-- **closed form of the `on`-walk at one state**, every outcome included (also a missing guard):
    concatenate the transition lists of the given keys in the given order, stop before the first
    forbidden transition, and guard-filter that list front to back with the shared cache
    (`filterPassing`); the flag says whether a forbidden transition was met. -/
theorem onCands_closed_form (m : Machine) (cfg : List Path) (env : GEnv) (src : Path) (d : StateDef)
    (ev : Ev) (keys : List String) (c : GCache) :
    onCands m cfg env src d ev keys c =
      withFlag (onBlocked d keys) (filterPassing m cfg env src (onVisited d keys) c) := by
  rw [onCands_eq, walkSpec_onTrans, filterPassing_eq_passAll]

/-- **order, in full generality**: whatever the guards and the cache say, if the walk succeeds its
    candidates are a subsequence of the visited transitions (so they keep the descriptor order and,
    inside one key, the declared order), all with source `src`, and the flag is `onBlocked`. -/
theorem candidates_subsequence (m : Machine) (cfg : List Path) (env : GEnv) (src : Path)
    (d : StateDef) (ev : Ev) (keys : List String) (c c' : GCache) (out : List Cand) (blk : Bool)
    (h : onCands m cfg env src d ev keys c = .ok (out, blk, c')) :
    (out.map (·.t)).Sublist (onVisited d keys) ∧ (∀ x ∈ out, x.src = src) ∧
      blk = onBlocked d keys := by
  rw [onCands_eq, walkSpec_onTrans] at h
  cases hf : passAll m cfg env (enabledAt (fun _ => true) src (onVisited d keys)) c with
  | error e => rw [hf] at h; cases h
  | ok r =>
    rw [hf] at h
    simp only [withFlag, Except.ok.injEq, Prod.mk.injEq] at h
    obtain ⟨rfl, rfl, rfl⟩ := h
    have h2 := passAll_sublist hf
    refine ⟨?_, fun x hx => (enabledAt_src (h2.subset hx)).1, rfl⟩
    have := h2.map (·.t)
    rwa [enabledAt_true_map_t] at this

/-- **candidates in descriptor order**, exact form. Assumed: guards are given by an oracle `g` on
    transition identities (`guardOk … t.guard = .ok (g t.tid)` for every visited `t`, i.e. no visited
    guard is missing and equal `tid`s have equal verdicts) and the incoming cache agrees with `g`.
    Then the walk succeeds and yields exactly the `g`-passing visited transitions, in order. -/
theorem candidates_in_descriptor_order (m : Machine) (cfg : List Path) (env : GEnv) (src : Path)
    (d : StateDef) (ev : Ev) (keys : List String) (c : GCache) (g : Nat → Bool) (hc : CacheOK g c)
    (hg : ∀ t ∈ onVisited d keys, guardOk m cfg env t.guard = .ok (g t.tid)) :
    ∃ c', onCands m cfg env src d ev keys c =
        .ok (passing g src (onVisited d keys), onBlocked d keys, c') ∧ CacheOK g c' := by
  obtain ⟨c', h1, h2⟩ := passAll_pure (m := m) (cfg := cfg) (env := env)
    (enabledAt (fun _ => true) src (onVisited d keys)) c hc
    (fun x hx => hg x.t (enabledAt_src hx).2.1)
  refine ⟨c', ?_, h2⟩
  rw [onCands_eq, walkSpec_onTrans, h1, enabledAt_filter (fun t => g t.tid)]
  rfl

/-- ... when no forbidden transition is met: the passing transitions of key₁'s list, then key₂'s … -/
theorem candidates_unblocked (g : Nat → Bool) (src : Path) (d : StateDef) (keys : List String)
    (h : onBlocked d keys = false) :
    passing g src (onVisited d keys) = keys.flatMap (fun k => passing g src (transOf d k)) := by
  rw [XSM.onVisited_of_not_blocked h, XSM.passing_flatMap]

/-- ... when the first forbidden transition is under key `k`: all earlier keys in full, then the
    passing transitions of `k`'s list before the forbidden one; the later keys are never looked at. -/
theorem candidates_blocked_at (g : Nat → Bool) (src : Path) (d : StateDef) (pre post : List String)
    (k : String) (hpre : onBlocked d pre = false) (hk : (transOf d k).any (·.forbidden) = true) :
    passing g src (onVisited d (pre ++ k :: post)) =
        pre.flatMap (fun k' => passing g src (transOf d k')) ++
          passing g src ((transOf d k).takeWhile (fun t => !t.forbidden)) ∧
      onBlocked d (pre ++ k :: post) = true := by
  obtain ⟨h1, h2⟩ := XSM.onVisited_of_blocked_at (post := post) hpre hk
  exact ⟨by rw [h1, XSM.passing_append, XSM.passing_flatMap], h2⟩

/-! ## clause 5: "a transition declared as null consumes its event at that state" -/

/-- **forbidden blocks ancestors**, one step of the upward walk: if the event is consumed at `cur`
    (walking the matching keys of `cur` meets a forbidden transition), the walk from `cur` returns
    exactly the `on`-candidates of `cur` found before the forbidden transition — whatever `ups` is,
    and without running the other buckets (always / onDone / after / invoke) of `cur`
    (that is the Python `break` out of the `while current` loop). -/
theorem forbidden_blocks_ancestors (m : Machine) (cfg : List Path) (env : GEnv) (ev : Ev)
    (isTransientCheck : Bool) (cur : Path) (ups : List Path) (d : StateDef)
    (hd : m.defAt cur = some d) (hb : consumesAt d ev = true) (c : GCache) :
    collectChain m cfg env ev isTransientCheck false (cur :: ups) c =
      filterPassing m cfg env cur (onVisited d (onKeys d ev)) c := by
  rw [collectChain_eq, filterPassing_eq_passAll]
  simp only [chainSpec, nodeSpec_consumed hd hb, if_true]

/-- ... the states above a consuming state do not influence the result of the walk at all -/
theorem forbidden_ups_irrelevant (m : Machine) (cfg : List Path) (env : GEnv) (ev : Ev)
    (isTransientCheck : Bool) (cur : Path) (d : StateDef) (hd : m.defAt cur = some d)
    (hb : consumesAt d ev = true) (pre ups ups' : List Path) (c : GCache) :
    collectChain m cfg env ev isTransientCheck false (pre ++ cur :: ups) c =
      collectChain m cfg env ev isTransientCheck false (pre ++ cur :: ups') c := by
  have hnode := nodeSpec_consumed (g := fun _ => true) (itc := isTransientCheck) hd hb
  rw [collectChain_eq, collectChain_eq, chainSpec_cut (by rw [hnode]) ups, chainSpec_cut (by rw [hnode]) ups']

/-- ... on a chain `pre ++ cur :: ups`: every candidate has its source in `pre` (below `cur`) or is
    an `on`-transition of `cur` visited before the forbidden one; none has its source in `ups`. -/
theorem forbidden_blocks_ancestors_chain (m : Machine) (cfg : List Path) (env : GEnv) (ev : Ev)
    (isTransientCheck : Bool) (pre ups : List Path) (cur : Path) (d : StateDef)
    (hd : m.defAt cur = some d) (hb : consumesAt d ev = true) (c c' : GCache) (out : List Cand)
    (h : collectChain m cfg env ev isTransientCheck false (pre ++ cur :: ups) c = .ok (out, c')) :
    ∀ x ∈ out, x.src ∈ pre ∨ (x.src = cur ∧ x.t ∈ onVisited d (onKeys d ev)) := by
  intro x hx
  have hnode := nodeSpec_consumed (g := fun _ => true) (itc := isTransientCheck) hd hb
  have hmem := (collectChain_sublist h).subset hx
  rw [chainSpec_cut (by rw [hnode]) ups pre] at hmem
  obtain ⟨p, hp, hxp⟩ := mem_chainSpec hmem
  rcases List.mem_append.1 hp with hp | hp
  · exact Or.inl ((nodeSpec_src hxp).1 ▸ hp)
  · rw [List.mem_singleton.1 hp, hnode] at hxp
    exact Or.inr ⟨(enabledAt_src hxp).1, (enabledAt_src hxp).2.1⟩

/-- **forbidden blocks ancestors**, for the whole walk from one active leaf
    (`_collect_eligible_transitions`): if the event is consumed at a state `cur` on the leaf's
    ancestor chain, no eligible transition has a source strictly above `cur`, and the eligible
    transitions of `cur` itself are `on`-transitions visited before the forbidden one. -/
theorem forbidden_blocks_ancestors_leaf (m : Machine) (cfg : List Path) (env : GEnv)
    (leaf cur : Path) (ev : Ev) (d : StateDef) (hcur : cur ∈ chainUp leaf)
    (hd : m.defAt cur = some d) (hb : consumesAt d ev = true) (c c' : GCache) (out : List Cand)
    (h : collectEligible m cfg env leaf ev c = .ok (out, c')) :
    ∀ x ∈ out, cur.length ≤ x.src.length ∧ (x.src = cur → x.t ∈ onVisited d (onKeys d ev)) := by
  obtain ⟨pre, ups, hsplit⟩ := List.append_of_mem hcur
  have hne : decide (ev.type = "") = false := by simpa using consumesAt_type_ne hb
  simp only [collectEligible, hne, hsplit] at h
  have hlen := chainUp_lengths leaf
  rw [hsplit, List.pairwise_append] at hlen
  intro x hx
  rcases forbidden_blocks_ancestors_chain m cfg env ev _ pre ups cur d hd hb c c' out h x hx with hpre | ⟨h1, h2⟩
  · have := hlen.2.2 x.src hpre cur (by simp)
    refine ⟨by omega, fun he => ?_⟩
    rw [he] at this; omega
  · exact ⟨by rw [h1]; exact Nat.le_refl _, fun _ => h2⟩

/-! ## a concrete instance of clauses 3 and 5

State `s` (child of the root) has `on = {"a.*": [t1, t2 (guard false), t3 FORBIDDEN, t4], "*": [t5],
"a.b.*": [t0]}`; the root has `on = {"*": [t9]}` (`Ex.mach` and its walks, `Ex.facts`, at the end of
`Xsm/Proofs/Descriptor.lean`). -/
namespace Ex

-- descriptor order at `s` for "a.b.c": longest partial, shorter partial, bare wildcard
example : onKeys dS (.user "a.b.c") = ["a.b.*", "a.*", "*"] := facts.1.1
-- the walk visits t0, then t1, t2 and stops at the forbidden t3 (t4 and the `*` key are not reached)
example : (onVisited dS (onKeys dS (.user "a.b.c"))).map (·.tid) = [0, 1, 2] := facts.1.2.1
example : consumesAt dS (.user "a.b.c") = true := facts.1.2.2
-- `forbidden_blocks_ancestors_leaf`: only t0 and t1 (t2's guard fails) — nothing from the root
example : tids (collectEligible mach [["s"]] env ["s"] (.user "a.b.c") []) =
    some [(["s"], 0), (["s"], 1)] := facts.2.1
-- an event that is not consumed at `s` does reach the root's handler
example : tids (collectEligible mach [["s"]] env ["s"] (.user "zzz") []) =
    some [(["s"], 5), ([], 9)] := facts.2.2

end Ex

end XSM.C20

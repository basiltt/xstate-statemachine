import Xsm.Proofs.FaultsEx
/-!
# C07 — fault containment

"An exception raised by a user action or a built-in action's callback skips only the remainder of
that action list: the sequence of configurations, the handling of all later events, the running
status and every action outside that list are the same as in the fault-free run, and
on_action_error is notified. An exception raised by a plugin hook, subscriber or emit listener
changes nothing at all. An error that aborts a transition midway (missing action or service,
unresolvable target, async logic under the sync engine) leaves the configuration exactly as it was
before that transition with the exited states' timers and services re-armed, is reported (raised
from send() in the sync engine, logged in the async engine) and the interpreter keeps processing
later events."

Statements about the executable model (`Xsm/Model/Engine.lean`); the lemmas they share are in
`Xsm/Proofs/Faults.lean`, the example data (the registries `exH` and `okH`, the machines `exM` and `exMF`)
and its runs in `Xsm/Proofs/FaultsEx.lean`. User code is a parameter: `h.act name ctx evType : AOut` says
what the user's action does (`ok ctx'`, `raises`, `missing` = nothing registered under that name,
`isAsync ctx'` = a coroutine function). Everything is for arbitrary hooks, lists, states and depth
budget `fuel` (`fuel` is the code's own `MAX_ACTION_DEPTH` counter, see `execActionsF`).

**What the model cannot say.**
* *Observer failures* ("a plugin hook, subscriber or emit listener raising changes nothing at
  all"): observers have no write access to `St` in the model. The records `#t:…` (on_transition /
  subscribers), `#recv:…` (on_event_received) and `#aerr:…` (on_action_error) are pure outputs
  appended to `trace`; there is no model term for "the observer raised". That clause is carried by
  fault injection on the real code, not by a theorem here.
* *Timers and services re-armed after a rollback*: `St` has no timer / service component (the runtime
  model of C08/C09 has, and proves its invariant for runs without a rollback only); the rollback
  theorem speaks about the configuration only. Carried by the monitor on the real code.
* *Missing service*: the engine model has no services; the abort theorems cover every error it can
  flag (`missingAction`, `notSupported`, `missingGuard`, `stateNotFound`, `invalidConfig`).

Vocabulary (from `Xsm/Proofs/Faults.lean`):
* `actsAcc h fuel as ev s : St × Bool` — the accumulator `_execute_actions` holds after the list
  `as`: the state and the flag "the rest of this list is skipped";
  `execActionsF h fuel as ev s = (actsAcc h fuel as ev s).1` (`execActionsF_fold`);
* `Live acc` — the list is still running: flag `false` and no error flagged;
* `nestedOf h fuel`, `cutOf fuel` — what `execActionsF h fuel` hands to a built-in: the executor one
  level deeper, and whether the depth bound is exhausted;
* `builtinOutcome h cut ev canon a s : BOut` — what `_collect_builtin_followups` produced:
  `.followups fs` or `.failed e` (the callback raised);
* `NoConfigErrors h` — the registry has no *configuration* error: a name it does not implement is
  a built-in, coroutine actions are only met by the async engine. Raising actions are allowed;
* `HooksOK h` (Bridge.lean) — the send hooks leave `cfg` and `err` alone; `HooksQuiet h` — and
  `hist`, `status` too (true of the hooks of both engines: `hooksFlagged_quiet`, `hooksAsync_quiet`);
* `planCfg m pl cfg` — `cfg` minus `pl.exits` (in order) plus `pl.entries` (in order);
* `SameCore a b` — same `cfg`, `hist`, `status`, `err`;
* `StatusStep a b` — `b = a`, or `a = "running"` and `b = "done"`;
* `macrostep h fl m u s e` — one event processed to quiescence: `processEvent`, then `transientLoop`;
* `asyncProcessed m u e s` / `syncProcessed m u e s` — the state after the run loop processed `e`
  and settled the eventless transitions, before it looks at the error flag.
-/
namespace XSM.C07
open XSM

/-! ## 1. A raising user action skips only the remainder of its list -/

/-- *Stop lemma.* Once the accumulator says "the rest of this list is skipped" — or the error flag is
    set — folding ANY further list over it changes nothing: no later action of the list runs. -/
theorem foldl_actStep_stopped (h : Hooks) (nested : List ActionRef → String → St → St) (cut : Bool)
    (evType : String) (as : List ActionRef) (acc : St × Bool)
    (hs : acc.2 = true ∨ acc.1.err.isSome = true) : as.foldl (actStep h nested cut evType) acc = acc :=
  XSM.foldl_actStep_stopped h nested cut evType as acc hs

/-- *Clause "an exception raised by a user action … skips only the remainder of that action list" —
    the remainder.* If the action `bad` raises in the state the list reached after `pre`, then running
    `pre ++ bad :: post` is running `pre ++ [bad]`, for EVERY `post`: nothing of `post` runs. -/
theorem action_failure_truncates (h : Hooks) (fuel : Nat) (pre post : List ActionRef) (bad : ActionRef)
    (evType : String) (s : St)
    (hraise : h.act bad.type (execActionsF h fuel pre evType s).ctx evType = .raises) :
    execActionsF h fuel (pre ++ bad :: post) evType s = execActionsF h fuel (pre ++ [bad]) evType s :=
  XSM.action_failure_truncates h fuel pre post bad evType s hraise

/-- *… and what the failing action itself does.* If the list is still running after `pre`, the raising
    action prepends exactly two records to the trace — its own `bad@ev` and the notification
    `#aerr:bad` — and changes NOTHING else: configuration, history, queue, status, context, error
    flag and counters are those `pre` left. -/
theorem raising_action_effect (h : Hooks) (fuel : Nat) (pre : List ActionRef) (bad : ActionRef)
    (evType : String) (s : St) (hlive : Live (actsAcc h fuel pre evType s))
    (hraise : h.act bad.type (execActionsF h fuel pre evType s).ctx evType = .raises) :
    execActionsF h fuel (pre ++ [bad]) evType s =
      { execActionsF h fuel pre evType s with
        trace := ("#aerr:" ++ bad.type) :: (bad.type ++ "@" ++ evType) :: (execActionsF h fuel pre evType s).trace } :=
  XSM.raising_action_effect h fuel pre bad evType s hlive hraise

/-- *Clause "and on_action_error is notified".* The whole list `pre ++ bad :: post`: the result of
    `pre`, then the action's record, then — newest — the `on_action_error` record; every other field
    as `pre` left it. -/
theorem on_action_error_notified (h : Hooks) (fuel : Nat) (pre post : List ActionRef) (bad : ActionRef)
    (evType : String) (s : St) (hlive : Live (actsAcc h fuel pre evType s))
    (hraise : h.act bad.type (execActionsF h fuel pre evType s).ctx evType = .raises) :
    execActionsF h fuel (pre ++ bad :: post) evType s =
      { execActionsF h fuel pre evType s with
        trace := ("#aerr:" ++ bad.type) :: (bad.type ++ "@" ++ evType) :: (execActionsF h fuel pre evType s).trace } := by
  rw [XSM.action_failure_truncates h fuel pre post bad evType s hraise]
  exact XSM.raising_action_effect h fuel pre bad evType s hlive hraise

/-- a returning action, for contrast: its record, its context, and the list goes on -/
theorem ok_action_effect (h : Hooks) (fuel : Nat) (pre : List ActionRef) (a : ActionRef)
    (evType : String) (s : St) (c : Ctx) (hlive : Live (actsAcc h fuel pre evType s))
    (ha : h.act a.type (execActionsF h fuel pre evType s).ctx evType = .ok c) :
    execActionsF h fuel (pre ++ [a]) evType s =
        emit (a.type ++ "@" ++ evType) { execActionsF h fuel pre evType s with ctx := c } ∧
      Live (actsAcc h fuel (pre ++ [a]) evType s) := by
  rw [execActionsF_fold h fuel pre] at ha ⊢
  have hstep := actStep_live h (nestedOf h fuel) (cutOf fuel) evType _ a hlive
  simp only [ha] at hstep
  rw [execActionsF_fold, (step_in_list h fuel pre a evType s hstep).1]
  exact ⟨rfl, rfl, hlive.2⟩

/-- `[inc, boom, inc]`: the second `inc` does not run, `x = 1`, the failure is notified, no error -/
example : (execActionsF exH 3 [A "inc", A "boom", A "inc"] "E" sA).trace = ["#aerr:boom", "boom@E", "inc@E"] :=
  list_runs.1.1.1
example : (execActionsF exH 3 [A "inc", A "boom", A "inc"] "E" sA).ctx = [("x", 1)] := list_runs.1.1.2.1
example : (execActionsF exH 3 [A "inc", A "boom", A "inc"] "E" sA).err.isSome = false := list_runs.1.1.2.2
/-- the fault-free run of the same list -/
example : (execActionsF okH 3 [A "inc", A "boom", A "inc"] "E" sA).trace = ["inc@E", "boom@E", "inc@E"] :=
  list_runs.1.2.1
example : Live (actsAcc exH 3 [A "inc"] "E" sA) := list_runs.1.2.2

/-! ## 2. A built-in whose callback fails -/

/-- *Clause "or a built-in action's callback" — containment.* Whatever a built-in does — its callback
    raises (`.failed`), its nested list ends with a configuration error, or it ends normally — the
    error flag is clear afterwards: a built-in never makes the transition abort. (`hr`: delivering a
    raised event does not set the flag; true of both engines.) `nested` is arbitrary. -/
theorem builtin_failure_contained (h : Hooks) (hr : ∀ e s, (h.sndRaise e s).err = s.err)
    (nested : List ActionRef → String → St → St) (cut : Bool) (evType canon : String) (a : ActionRef) (s : St)
    (hs : s.err = none) : (builtinStep h nested cut evType canon a s).1.err = none :=
  builtinStep_err_none h hr nested cut evType canon a s hs

/-- *… the stop flag is set exactly in the failure branches*: the callback failed, or the non-empty
    nested list came back with the error flag set. -/
theorem builtin_stop_iff (h : Hooks) (nested : List ActionRef → String → St → St) (cut : Bool)
    (evType canon : String) (a : ActionRef) (s : St) (hs : s.err = none) :
    (builtinStep h nested cut evType canon a s).2 = true ↔
      match builtinOutcome h cut evType canon a s with
      | .failed _ => True
      | .followups fs => fs ≠ [] ∧ (nested fs evType (assignStep canon cut a s)).err.isSome = true := by
  cases hb : builtinOutcome h cut evType canon a s with
  | failed e => rw [builtinStep_failed h nested cut evType canon a s e hb]; simp
  | followups fs =>
    rw [builtinStep_followups h nested cut evType canon a s fs hb, finishBuiltin_stop]
    cases fs with
    | nil => simp [assignStep_err, hs]
    | cons f fs => simp

/-- *… and in those branches `on_action_error` is notified for the built-in.* -/
theorem builtin_stop_notified (h : Hooks) (nested : List ActionRef → String → St → St) (cut : Bool)
    (evType canon : String) (a : ActionRef) (s : St)
    (hstop : (builtinStep h nested cut evType canon a s).2 = true) :
    (builtinStep h nested cut evType canon a s).1.trace.head? = some ("#aerr:" ++ a.type) := by
  cases hb : builtinOutcome h cut evType canon a s with
  | failed e => rw [builtinStep_failed h nested cut evType canon a s e hb]; rfl
  | followups fs =>
    rw [builtinStep_followups h nested cut evType canon a s fs hb] at hstop ⊢
    rw [finishBuiltin_stop] at hstop
    rw [finishBuiltin_failed h canon a _ (Option.isSome_iff_ne_none.1 hstop)]; rfl

/-- *In a list.* A built-in met while the list is running leaves the error flag clear; if it stops
    the list, everything after it (`post`, arbitrary) is skipped and the newest record is its
    `on_action_error` notification. -/
theorem builtin_in_list (h : Hooks) (hr : ∀ e s, (h.sndRaise e s).err = s.err) (fuel : Nat)
    (pre post : List ActionRef) (bad : ActionRef) (evType canon : String) (s : St)
    (hlive : Live (actsAcc h fuel pre evType s))
    (hm : h.act bad.type (execActionsF h fuel pre evType s).ctx evType = .missing)
    (hb : canonicalBuiltin bad.type = some canon) :
    (execActionsF h fuel (pre ++ [bad]) evType s).err = none ∧
    ((actsAcc h fuel (pre ++ [bad]) evType s).2 = true →
      execActionsF h fuel (pre ++ bad :: post) evType s = execActionsF h fuel (pre ++ [bad]) evType s ∧
      (execActionsF h fuel (pre ++ [bad]) evType s).trace.head? = some ("#aerr:" ++ bad.type)) := by
  rw [execActionsF_fold h fuel pre] at hm
  have hstep := actStep_live h (nestedOf h fuel) (cutOf fuel) evType _ bad hlive
  simp only [hm, hb] at hstep
  obtain ⟨h1, h2⟩ := step_in_list h fuel pre bad evType s hstep
  rw [execActionsF_fold h fuel (pre ++ [bad]), h1]
  exact ⟨builtin_failure_contained h hr _ _ evType canon bad _ hlive.2,
    fun hstop => ⟨h2 (Or.inl hstop) post, builtin_stop_notified h _ _ evType canon bad _ hstop⟩⟩

/-- *The callback raised* (a `choose` guard that is not implemented, a malformed branch): the whole
    list `pre ++ bad :: post` yields the result of `pre` plus the one record `#aerr:bad`. -/
theorem builtin_failed_effect (h : Hooks) (fuel : Nat) (pre post : List ActionRef) (bad : ActionRef)
    (evType canon : String) (s : St) (e : EErr) (hlive : Live (actsAcc h fuel pre evType s))
    (hm : h.act bad.type (execActionsF h fuel pre evType s).ctx evType = .missing)
    (hb : canonicalBuiltin bad.type = some canon)
    (hf : builtinOutcome h (cutOf fuel) evType canon bad (execActionsF h fuel pre evType s) = .failed e) :
    execActionsF h fuel (pre ++ bad :: post) evType s =
      emit ("#aerr:" ++ bad.type) (execActionsF h fuel pre evType s) := by
  rw [execActionsF_fold h fuel pre] at hm hf ⊢
  have hstep := actStep_live h (nestedOf h fuel) (cutOf fuel) evType _ bad hlive
  simp only [hm, hb] at hstep
  rw [builtinStep_failed h _ _ evType canon bad _ e hf] at hstep
  exact (step_in_list h fuel pre bad evType s hstep).2 (Or.inl rfl) post

/-- *A configuration error inside the nested list* (a missing action in a `choose` branch): contained
    at the built-in. The result is what the nested list left, with the error flag CLEARED and the
    record `#aerr:bad` added; the rest of the outer list is skipped. -/
theorem builtin_nested_error_effect (h : Hooks) (fuel : Nat) (pre post : List ActionRef) (bad : ActionRef)
    (evType canon : String) (s : St) (fs : List ActionRef) (hlive : Live (actsAcc h fuel pre evType s))
    (hm : h.act bad.type (execActionsF h fuel pre evType s).ctx evType = .missing)
    (hb : canonicalBuiltin bad.type = some canon)
    (hf : builtinOutcome h (cutOf fuel) evType canon bad (execActionsF h fuel pre evType s) = .followups fs)
    (hne : fs ≠ [])
    (herr : (nestedOf h fuel fs evType
      (assignStep canon (cutOf fuel) bad (execActionsF h fuel pre evType s))).err ≠ none) :
    execActionsF h fuel (pre ++ bad :: post) evType s =
      emit ("#aerr:" ++ bad.type)
        { nestedOf h fuel fs evType (assignStep canon (cutOf fuel) bad (execActionsF h fuel pre evType s))
          with err := none } := by
  rw [execActionsF_fold h fuel pre] at hm hf herr ⊢
  have hstep := actStep_live h (nestedOf h fuel) (cutOf fuel) evType _ bad hlive
  simp only [hm, hb] at hstep
  rw [builtinStep_followups h _ _ evType canon bad _ fs hf, if_neg (by simpa using hne),
    finishBuiltin_failed h canon bad _ herr] at hstep
  exact (step_in_list h fuel pre bad evType s hstep).2 (Or.inl rfl) post

/-- *"only the remainder of THAT action list".* A user action raising inside the nested list of a
    built-in stops the nested list only: with no configuration error in the registry the built-in
    ends normally and the outer list goes on. -/
theorem nested_raise_stays_nested (h : Hooks) (hr : ∀ e s, (h.sndRaise e s).err = s.err) (hn : NoConfigErrors h)
    (fuel : Nat) (evType canon : String) (a : ActionRef) (s : St) (fs : List ActionRef) (hs : s.err = none)
    (hf : builtinOutcome h (cutOf fuel) evType canon a s = .followups fs) :
    (builtinStep h (nestedOf h fuel) (cutOf fuel) evType canon a s).2 = false := by
  cases hb : (builtinStep h (nestedOf h fuel) (cutOf fuel) evType canon a s).2 with
  | false => rfl
  | true =>
    have := (builtin_stop_iff h (nestedOf h fuel) (cutOf fuel) evType canon a s hs).1 hb
    simp only [hf] at this
    have hnone : (nestedOf h fuel fs evType (assignStep canon (cutOf fuel) a s)).err = none := by
      cases fuel with
      | zero => simp only [nestedOf]; rw [assignStep_err]; exact hs
      | succ f =>
        simp only [nestedOf, endExpansion_err]
        exact execActionsF_err_none h hr hn f fs evType _ (by rw [assignStep_err]; exact hs)
    rw [hnone] at this
    exact absurd this.2 (by simp)

/-- `parseGuard` is defined by well-founded recursion, which `decide` does not unfold -/
theorem parseGuard_bare (s : String) :
    parseGuard (.str s) = .ok (if s = Tables.stateInGuardType then .stateIn none else .named s none) := by
  rw [parseGuard]

/-- `choose` on a guard without implementation: `_collect_builtin_followups` raises … -/
example : builtinOutcome exH false "E" "xstate.choose" (chooseOne (some "nog") [.str "inc"]) sA =
    .failed (.missingGuard "nog") := choose_nog_fails _ sA rfl
/-- … contained, notified, the `inc` after it skipped, the error flag clear -/
example : (execActionsF exH 3 [A "inc", chooseOne (some "nog") [.str "inc"], A "inc"] "E" sA).trace =
    ["#aerr:choose", "inc@E"] := by
  show (execActionsF exH 3 ([A "inc"] ++ chooseOne (some "nog") [.str "inc"] :: [A "inc"]) "E" sA).trace = _
  rw [builtin_failed_effect exH 3 [A "inc"] [A "inc"] (chooseOne (some "nog") [.str "inc"]) "E" "xstate.choose" sA
    (.missingGuard "nog") list_runs.1.2.2 rfl list_runs.2.1.2.2.2 (choose_nog_fails _ _ (by decide +kernel))]
  decide +kernel
/-- a malformed branch (an action that is neither a string nor a dictionary): the same -/
example : (execActionsF exH 3 [A "inc", chooseOne none [.num 3], A "inc"] "E" sA).trace =
    ["#aerr:choose", "inc@E"] := list_runs.2.1.1.1
example : (execActionsF exH 3 [A "inc", chooseOne none [.num 3], A "inc"] "E" sA).err.isSome = false := list_runs.2.1.1.2
/-- a missing action inside the chosen branch: the nested list stops at it, the error is contained at
    `choose` (flag clear), the outer `inc` is skipped -/
example : (execActionsF exH 3 [chooseOne none [.str "inc", .str "nosuch", .str "inc"], A "inc"] "E" sA).trace =
    ["#aerr:choose", "inc@E"] := list_runs.2.1.2.1.1
example : (execActionsF exH 3 [chooseOne none [.str "inc", .str "nosuch", .str "inc"], A "inc"] "E" sA).err.isSome =
    false := list_runs.2.1.2.1.2
/-- a raising action inside the chosen branch: only the branch's remainder is skipped -/
example : (execActionsF exH 3 [chooseOne none [.str "boom", .str "inc"], A "inc"] "E" sA).trace =
    ["inc@E", "#aerr:boom", "boom@E"] := list_runs.2.1.2.2.1

/-! ## 3. The transition completes, and its outcome does not depend on which actions raised -/

/-- the hooks of both engines are quiet, and their registry is the user's (`noConfigErrors_mkHooks`) -/
example (u : UEnv) (m : Machine) : HooksQuiet (hooksFlagged u m) := hooksFlagged_quiet u m
example (u : UEnv) (m : Machine) : HooksQuiet (hooksAsync u m) := hooksAsync_quiet u m
/-- a registry that implements every name it is asked for has no configuration error, raising or not -/
def raisingH : Hooks :=
  { snd := enqueue, sndRaise := enqueue, act := fun n c _ => if n = "boom" then .raises else .ok c }
example : NoConfigErrors raisingH := by
  intro n c e
  constructor
  · intro hm; simp only [raisingH] at hm; split at hm <;> cases hm
  · intro c' ha; simp only [raisingH] at ha; split at ha <;> cases ha

/-- *A raising action never sets the error flag*: with no configuration error in the registry, no
    action list does — whatever raises, at any nesting depth. -/
theorem raising_action_never_aborts_list (h : Hooks) (hr : ∀ e s, (h.sndRaise e s).err = s.err)
    (hn : NoConfigErrors h) (fuel : Nat) (as : List ActionRef) (evType : String) (s : St) (hs : s.err = none) :
    (execActionsF h fuel as evType s).err = none :=
  execActionsF_err_none h hr hn fuel as evType s hs

/-- *Clause "the state change still completes".* A transition whose plan carries no error of its own
    (its target resolved) never aborts because of raising actions — exit, transition and entry
    actions alike. -/
theorem raising_action_never_aborts (h : Hooks) (hok : HooksOK h) (hn : NoConfigErrors h) (fl : Flavor)
    (m : Machine) (ev : Ev) (pl : Plan) (s : St) (hp : pl.err = none) (hs : s.err = none) :
    (execute h fl m ev pl s).err = none := by
  rw [execute_err_eq]
  unfold executeCore
  split
  · simp only [hp]; exact execActions_err_none h hok hn _ _ _ hs
  · have := (runPlan_exact h hok hn fl m ev pl s hp hs).1
    simp only [this, Option.isSome_none, Bool.false_eq_true, if_false]

/-- *… and the configuration it reaches* is `planCfg`: the exits removed, the entries added, in plan
    order — a function of the plan and the configuration before, in which no action outcome occurs.
    (`execute_cfg` of `Bridge.lean` gives the same as a set: `(cfg \ exits) ∪ entries`.) -/
theorem config_after_transition (h : Hooks) (hok : HooksOK h) (hn : NoConfigErrors h) (fl : Flavor)
    (m : Machine) (ev : Ev) (pl : Plan) (s : St) (hp : pl.err = none) (hs : s.err = none) :
    (execute h fl m ev pl s).cfg = planCfg m pl s.cfg := by
  unfold planCfg
  cases hint : pl.internal with
  | true => simp only [if_true]; exact execute_internal_cfg h hok fl m ev pl s hint
  | false =>
    obtain ⟨hr, hc⟩ := runPlan_exact h hok hn fl m ev pl s hp hs
    rw [execute_cfg_eq, executeCore_external h fl m ev pl s hint]
    simp only [hr, Option.isSome_none, Bool.false_eq_true, if_false]
    exact hc

/-- *Clause "the sequence of configurations [is] the same as in the fault-free run" — one
    transition.* Two executors whose registries behave in any two ways (one may raise where the other
    returns; contexts, traces and queues may differ) take the same plan from the same configuration to
    the same configuration. Any plan, resolvable or not. -/
theorem config_independent_of_action_outcomes (h₁ h₂ : Hooks) (hok₁ : HooksOK h₁) (hok₂ : HooksOK h₂)
    (hn₁ : NoConfigErrors h₁) (hn₂ : NoConfigErrors h₂) (fl : Flavor) (m : Machine) (ev : Ev) (pl : Plan)
    (s₁ s₂ : St) (he₁ : s₁.err = none) (he₂ : s₂.err = none) (hc : s₁.cfg = s₂.cfg) :
    (execute h₁ fl m ev pl s₁).cfg = (execute h₂ fl m ev pl s₂).cfg := by
  cases hp : pl.err with
  | none =>
    rw [config_after_transition h₁ hok₁ hn₁ fl m ev pl s₁ hp he₁,
      config_after_transition h₂ hok₂ hn₂ fl m ev pl s₂ hp he₂, hc]
  | some e =>
    rw [execute_planErr_cfg h₁ hok₁ fl m ev pl s₁ e hp, execute_planErr_cfg h₂ hok₂ fl m ev pl s₂ e hp, hc]

/-- *… configuration, history, running status and error flag together.* -/
theorem core_independent_of_action_outcomes (h₁ h₂ : Hooks) (hq₁ : HooksQuiet h₁) (hq₂ : HooksQuiet h₂)
    (hn₁ : NoConfigErrors h₁) (hn₂ : NoConfigErrors h₂) (fl : Flavor) (m : Machine) (ev : Ev) (pl : Plan)
    (s₁ s₂ : St) (hs : SameCore s₁ s₂) :
    SameCore (execute h₁ fl m ev pl s₁) (execute h₂ fl m ev pl s₂) := by
  have hc : SameCore (executeCore h₁ fl m ev pl s₁) (executeCore h₂ fl m ev pl s₂) := by
    unfold executeCore
    split
    · split
      · exact hs.fail _
      · exact hs.execActions hq₁ hq₂ hn₁ hn₂ _ _ _ _
    · have hr := runPlan_core hq₁ hq₂ hn₁ hn₂ fl m ev pl s₁ s₂ hs
      exact rel_ite (by rw [hr.err]) (fun _ => ⟨hs.cfg, hr.hist, hr.status, hr.err⟩) (fun _ => hr)
  unfold execute
  simp only [hc.err]
  split
  · exact hc
  · exact hc.emit _ _

/-- *Clause "the handling of all later events, the running status" — one event.* Two runs with the
    same guards, the guards not reading the context (the faulty run's context differs from the
    fault-free one's: the failing action and the skipped remainder did not update it), processing the
    same event from states with the same core: same selection, same transitions, same core after. -/
theorem event_independent_of_action_outcomes (h₁ h₂ : Hooks) (hq₁ : HooksQuiet h₁) (hq₂ : HooksQuiet h₂)
    (hn₁ : NoConfigErrors h₁) (hn₂ : NoConfigErrors h₂) (fl : Flavor) (m : Machine) (u₁ u₂ : UEnv)
    (hg : u₁.g = u₂.g) (hi : GuardsIgnoreCtx u₁) (ev : Ev) (s₁ s₂ : St) (hs : SameCore s₁ s₂) :
    SameCore (processEvent h₁ fl m u₁ ev s₁) (processEvent h₂ fl m u₂ ev s₂) := by
  unfold processEvent
  rw [hs.cfg, genv_eq u₁ u₂ hg hi s₁.ctx s₂.ctx ev.type]
  split
  · exact hs.fail _
  · apply foldl_rel₂ SameCore
    · intro a b c hab
      simp only [hab.err, hab.cfg, hab.hist, hab.status]
      split
      · exact hab
      · split
        · exact hab
        · split
          · exact hab
          · exact core_independent_of_action_outcomes h₁ h₂ hq₁ hq₂ hn₁ hn₂ fl m ev _ a b hab
    · exact hs

/-- *… and the eventless transitions settled after it.* -/
theorem settling_independent_of_action_outcomes (h₁ h₂ : Hooks) (hq₁ : HooksQuiet h₁) (hq₂ : HooksQuiet h₂)
    (hn₁ : NoConfigErrors h₁) (hn₂ : NoConfigErrors h₂) (fl : Flavor) (m : Machine) (u₁ u₂ : UEnv)
    (hg : u₁.g = u₂.g) (hi : GuardsIgnoreCtx u₁) (fuel : Nat) (s₁ s₂ : St) (hs : SameCore s₁ s₂) :
    SameCore (transientLoop h₁ fl m u₁ fuel s₁) (transientLoop h₂ fl m u₂ fuel s₂) := by
  induction fuel generalizing s₁ s₂ with
  | zero => exact hs
  | succ n ih =>
    simp only [transientLoop]
    rw [hs.err, hs.cfg, genv_eq u₁ u₂ hg hi s₁.ctx s₂.ctx ""]
    split
    · exact hs
    · split
      · exact hs.fail _
      · split
        · exact ih _ _ (event_independent_of_action_outcomes h₁ h₂ hq₁ hq₂ hn₁ hn₂ fl m u₁ u₂ hg hi _ s₁ s₂ hs)
        · exact hs

/-- *… any sequence of events, each delivered from outside and processed to quiescence*: after every
    one of them the two runs have the same configuration, history, status and error flag (the
    statement for `evs` covers every prefix of `evs`). What the two runs do NOT share is the internal
    queue — a `raise` in the skipped remainder of a list is not delivered (example below) — which is
    why the statement is about events supplied from outside. -/
theorem events_independent_of_action_outcomes (h₁ h₂ : Hooks) (hq₁ : HooksQuiet h₁) (hq₂ : HooksQuiet h₂)
    (hn₁ : NoConfigErrors h₁) (hn₂ : NoConfigErrors h₂) (fl : Flavor) (m : Machine) (u₁ u₂ : UEnv)
    (hg : u₁.g = u₂.g) (hi : GuardsIgnoreCtx u₁) (evs : List Ev) (s₁ s₂ : St) (hs : SameCore s₁ s₂) :
    SameCore (evs.foldl (macrostep h₁ fl m u₁) s₁) (evs.foldl (macrostep h₂ fl m u₂) s₂) :=
  foldl_rel₂ SameCore _ _ (fun a b e hab =>
    settling_independent_of_action_outcomes h₁ h₂ hq₁ hq₂ hn₁ hn₂ fl m u₁ u₂ hg hi _ _ _
      (event_independent_of_action_outcomes h₁ h₂ hq₁ hq₂ hn₁ hn₂ fl m u₁ u₂ hg hi e a b hab)) evs s₁ s₂ hs

/-- the remainder that is skipped may contain a `raise`: then the faulty run does not queue the event
    the fault-free run queues -/
example : (execActionsF okH 3 [A "boom", raiseX] "E" sA).queue.map (·.ev.type) = ["X"] := list_runs.2.2.1.1
example : (execActionsF exH 3 [A "boom", raiseX] "E" sA).queue.map (·.ev.type) = [] := list_runs.2.2.1.2

/-- `a --GO--> b` with `boom` raising in the exit list of `a` and in the transition's list: the
    configuration is the one of the fault-free run; the traces differ exactly in the skipped actions -/
example : (execute exH .sync exM (.user "GO") plGO sA).cfg = [[], ["b"]] := machine_runs.1.1.1.1
example : (execute okH .sync exM (.user "GO") plGO sA).cfg = [[], ["b"]] := machine_runs.1.1.1.2.1
example : planCfg exM plGO sA.cfg = [[], ["b"]] := machine_runs.1.1.1.2.2
example : (execute exH .sync exM (.user "GO") plGO sA).err.isSome = false := machine_runs.1.1.2.1.1
example : (execute exH .sync exM (.user "GO") plGO sA).trace =
    ["#t:m,m.b", "inc@GO", "#aerr:boom", "boom@GO", "#aerr:boom", "boom@GO", "inc@GO"] := machine_runs.1.1.2.1.2.1
example : (execute okH .sync exM (.user "GO") plGO sA).trace =
    ["#t:m,m.b", "inc@GO", "inc@GO", "boom@GO", "inc@GO", "boom@GO", "inc@GO"] := machine_runs.1.1.2.1.2.2
/-- the same through `send` -/
example : (syncSend exM exU (.user "GO") sA).cfg = [[], ["b"]] := machine_runs.1.1.2.2.1

/-! ## 4. A configuration error aborts the transition, is reported, and the interpreter goes on -/

/-- *Clause "leaves the configuration exactly as it was before that transition".* A transition that
    ends with the error flag set — missing action, unresolvable target, coroutine under the sync
    engine; during exit, transition or entry actions — has the configuration it started from. -/
theorem abort_restores_config (h : Hooks) (fl : Flavor) (m : Machine) (ev : Ev) (pl : Plan) (s : St)
    (hint : pl.internal = false) (he : (execute h fl m ev pl s).err ≠ none) :
    (execute h fl m ev pl s).cfg = s.cfg :=
  execute_rollback h fl m ev pl s hint he

/-- *The running status through one transition*, completed or aborted: unchanged, or "running" became
    "done" (a top-level final state was entered). -/
theorem status_running_or_done (h : Hooks) (hq : HooksQuiet h) (fl : Flavor) (m : Machine) (ev : Ev) (pl : Plan)
    (s : St) : StatusStep s.status (execute h fl m ev pl s).status :=
  execute_rel statusRel_eng h hq.status fl m ev pl s

/-- *Clause "the interpreter keeps processing later events" — the transition.* A transition that does
    not enter a top-level final state leaves `status` as it was, whether it completes or aborts. -/
theorem abort_keeps_running (h : Hooks) (hq : HooksQuiet h) (fl : Flavor) (m : Machine) (ev : Ev) (pl : Plan)
    (s : St)
    (hnf : ∀ e ∈ pl.entries, ∀ d, m.defAt e.path = some d → d.kind = .final → e.path.length ≠ 1) :
    (execute h fl m ev pl s).status = s.status :=
  execute_status h hq fl m ev pl s hnf

/-- the hypothesis of `abort_keeps_running` is needed for arbitrary plans: a plan that enters the
    top-level final state `f` and then a state whose entry action is missing ends aborted (flag set,
    configuration restored) with `status = "done"`. (`planTransition` builds no such plan: a top-level
    final state is the last entry of its plan.) -/
example : (execute exH .sync exMF (.user "GO") plF sA).status = "done" := machine_runs.1.2.1
example : (execute exH .sync exMF (.user "GO") plF sA).cfg = [[], ["a"]] := machine_runs.1.2.2.1
example : (execute exH .sync exMF (.user "GO") plF sA).err.isSome = true := machine_runs.1.2.2.2

/-- *… a whole event*, either engine: `status` moves from "running" to "done" at most. -/
theorem event_status (h : Hooks) (hq : HooksQuiet h) (fl : Flavor) (m : Machine) (u : UEnv) (ev : Ev) (s : St) :
    StatusStep s.status (processEvent h fl m u ev s).status :=
  processEvent_rel statusRel_eng h hq.status fl m u ev s

/-- the loop's end-of-chain test `asyncChainEnd` (it runs after a failed macrostep as after a successful one) -/
theorem chain_end_touches_counter_only (b : Nat) (s : St) :
    (asyncChainEnd b s).cfg = s.cfg ∧ (asyncChainEnd b s).hist = s.hist ∧ (asyncChainEnd b s).queue = s.queue ∧
    (asyncChainEnd b s).status = s.status ∧ (asyncChainEnd b s).trace = s.trace ∧ (asyncChainEnd b s).err = s.err ∧
    (asyncChainEnd b s).ctx = s.ctx ∧ (asyncChainEnd b s).errors = s.errors :=
  ⟨asyncChainEnd_cfg b s, asyncChainEnd_hist b s, asyncChainEnd_queue b s, asyncChainEnd_status b s,
   asyncChainEnd_trace b s, asyncChainEnd_err b s, asyncChainEnd_ctx b s, asyncChainEnd_errors b s⟩

/-- *Clause "logged in the async engine … keeps processing later events".* One iteration of
    `_run_event_loop` (chain breaker not tripped). If processing `q.ev` ended with the error flag set,
    the iteration returns that state with the flag CLEARED and the failure counted — configuration,
    queue, status, context untouched by the handler —, followed by the end-of-chain test
    (`chain_end_touches_counter_only`). Otherwise the failure count is unchanged. -/
theorem async_error_is_logged_and_loop_survives (m : Machine) (u : UEnv) (q : QEv) (s : St)
    (hd : ¬ s.raiseDepth > m.maxIterations) :
    ((asyncProcessed m u q.ev s).err ≠ none →
        asyncStep m u q s =
          asyncChainEnd s.raiseDepth { asyncProcessed m u q.ev s with err := none, errors := s.errors + 1 }) ∧
    ((asyncProcessed m u q.ev s).err = none →
        (asyncStep m u q s).err = none ∧ (asyncStep m u q s).errors = s.errors) := by
  rw [asyncStep_below_bound m u q s (Nat.le_of_not_lt hd)]
  refine ⟨asyncProcess_failed m u q.ev s, fun he => ?_⟩
  rw [asyncProcess_succeeded m u q.ev s he]
  exact ⟨(asyncChainEnd_err _ _).trans he, (asyncChainEnd_errors _ _).trans (asyncProcessed_errors m u q.ev s)⟩

/-- the same for an event the loop processes with the chain breaker tripped (an EXTERNAL event: it is
    processed from the purged state) — and in general for `asyncProcess`, whatever the counter -/
theorem async_error_is_logged_whatever_the_counter (m : Machine) (u : UEnv) (e : Ev) (s : St)
    (he : (asyncProcessed m u e s).err ≠ none) :
    asyncProcess m u e s =
      asyncChainEnd s.raiseDepth { asyncProcessed m u e s with err := none, errors := s.errors + 1 } :=
  asyncProcess_failed m u e s he

/-- the async loop never hands on a set error flag, and it leaves `status` "running" unless the
    machine completed: the loop's own condition (`status = "running"`, queue non-empty) is not
    affected by a failure -/
theorem async_loop_survives (m : Machine) (u : UEnv) (q : QEv) (s : St) (hs : s.err = none) :
    (asyncStep m u q s).err = none ∧ StatusStep s.status (asyncStep m u q s).status := by
  refine ⟨?_, asyncStep_status m u q s⟩
  unfold asyncStep
  split
  · split
    · exact hs
    · exact asyncProcess_err_none m u q.ev _
  · exact asyncProcess_err_none m u q.ev _

/-- *Clause "raised from send() in the sync engine".* The drain loop stops at the first event whose
    processing sets the error flag and returns that state as it is: the flag is still set (it reaches
    the caller of `send`), the events queued behind the failing one are still queued, in order
    (`rest` is a prefix of the queue: processing can only append), and `status` is "running" unless
    the machine completed — so later `send`s are processed. (`ht`: the failing event IS processed — it is not
    a marked event that trips the runaway bound, which is discarded unprocessed; `c` is the loop's counter of
    marked events, `fuel + 1` the model's fuel.) -/
theorem drainLoop_error_keeps_queue (m : Machine) (u : UEnv) (fuel c : Nat) (s : St) (q : QEv) (rest : List QEv)
    (hq : s.queue = q :: rest) (hrun : s.status = "running") (ht : syncTrips m c q = false)
    (he : (syncProcessed m u q.ev { s with queue := rest }).err ≠ none) :
    drainLoop m u (fuel + 1) c s = syncProcessed m u q.ev { s with queue := rest } ∧
    (drainLoop m u (fuel + 1) c s).err ≠ none ∧
    rest <+: (drainLoop m u (fuel + 1) c s).queue ∧
    StatusStep s.status (drainLoop m u (fuel + 1) c s).status := by
  have h1 := drainLoop_failed m u fuel c s q rest hq hrun ht he
  rw [h1]
  exact ⟨rfl, he, syncProcessed_queue m u q.ev { s with queue := rest },
    syncProcessed_status m u q.ev { s with queue := rest }⟩

/-- `send()` on an idle running machine whose event fails: what `send` returns is the state the
    failing event left, error flag set (an event sent from outside is never marked, so it is processed
    whatever the bound) -/
theorem sync_error_is_raised (m : Machine) (u : UEnv) (e : Ev) (s : St)
    (hidle : s.queue = []) (hrun : s.status = "running")
    (he : (syncProcessed m u e { s with queue := [] }).err ≠ none) :
    syncSend m u e s = syncProcessed m u e { s with queue := [] } ∧ (syncSend m u e s).err ≠ none := by
  obtain ⟨k, hk⟩ := Nat.exists_eq_add_one_of_ne_zero (Nat.ne_of_gt (drainFuel_pos m { s with queue := [⟨e, false⟩] }))
  have h1 : syncSend m u e s = drainLoop m u (k + 1) 0 { s with queue := [⟨e, false⟩] } := by
    unfold syncSend sndUnflagged drainFlagged
    rw [if_pos hrun, hidle]
    show drainLoop m u (drainFuel m ({ s with queue := [⟨e, false⟩] } : St)) 0 _ = _
    rw [hk]; rfl
  have h2 := drainLoop_failed m u k 0 { s with queue := [⟨e, false⟩] } ⟨e, false⟩ [] rfl hrun rfl he
  rw [h1, h2]
  exact ⟨rfl, he⟩

/-- `b --BAD [nosuch]--> a`: aborted, the configuration is still `{m, b}`, the caller gets the error … -/
example : (syncSend exM exU (.user "BAD") sB).cfg = [[], ["b"]] := machine_runs.2.1.1.1
example : (match (syncSend exM exU (.user "BAD") sB).err with | some (.missingAction n) => n | _ => "") = "nosuch" := by
  rw [err_of_missingName machine_runs.2.1.1.2.1]
example : (syncSend exM exU (.user "BAD") sB).status = "running" := machine_runs.2.1.1.2.2.1
/-- … and the next `send` is processed normally -/
example : (cmd .sync exM exU (syncSend exM exU (.user "BAD") sB) (.user "BACK")).cfg = [[], ["a"]] :=
  machine_runs.2.1.1.2.2.2
/-- two events queued, the first fails: the drain stops with the flag set and `BACK` still queued -/
example : ((drainFlagged exM exU { sB with queue := [⟨.user "BAD", false⟩, ⟨.user "BACK", false⟩] }).queue.map
    (·.ev.type)) = ["BACK"] := machine_runs.2.1.2.1
example : (drainFlagged exM exU { sB with queue := [⟨.user "BAD", false⟩, ⟨.user "BACK", false⟩] }).err.isSome = true :=
  machine_runs.2.1.2.2
/-- async engine: the failure is counted, the flag cleared, and `BACK` (queued behind) is processed -/
example : (asyncStep exM exU ⟨.user "BAD", false⟩ sB).errors = 1 := machine_runs.2.2.1.1
example : (asyncStep exM exU ⟨.user "BAD", false⟩ sB).err.isSome = false := machine_runs.2.2.1.2.1
example : (asyncStep exM exU ⟨.user "BAD", false⟩ sB).cfg = [[], ["b"]] := machine_runs.2.2.1.2.2
example : (asyncDrain exM exU 5 { sB with queue := [⟨.user "BAD", false⟩, ⟨.user "BACK", false⟩] }).cfg =
    [[], ["a"]] := machine_runs.2.2.2

/-! ## 5. What counts as a configuration error -/

/-- *Clause "missing action".* A top-level action with no user implementation and no built-in of that
    name: the error flag is set to `missingAction name`, nothing else changes, and the rest of the
    list (`post`, arbitrary) does not run. -/
theorem missing_action_is_config_error (h : Hooks) (fuel : Nat) (pre post : List ActionRef) (bad : ActionRef)
    (evType : String) (s : St) (hlive : Live (actsAcc h fuel pre evType s))
    (hm : h.act bad.type (execActionsF h fuel pre evType s).ctx evType = .missing)
    (hb : canonicalBuiltin bad.type = none) :
    execActionsF h fuel (pre ++ bad :: post) evType s =
      { execActionsF h fuel pre evType s with err := some (.missingAction bad.type) } := by
  rw [execActionsF_fold h fuel pre] at hm ⊢
  have hstep := actStep_live h (nestedOf h fuel) (cutOf fuel) evType _ bad hlive
  simp only [hm, hb] at hstep
  exact (step_in_list h fuel pre bad evType s hstep).2 (Or.inl rfl) post

/-- *Clause "async logic under the sync engine".* A coroutine action is refused by the sync engine —
    `notSupported name`, nothing else changes, rest of the list skipped — and run like any returning
    action by the async engine. -/
theorem async_action_refused_by_sync (h : Hooks) (fuel : Nat) (pre : List ActionRef) (bad : ActionRef)
    (evType : String) (s : St) (c : Ctx) (hlive : Live (actsAcc h fuel pre evType s))
    (ha : h.act bad.type (execActionsF h fuel pre evType s).ctx evType = .isAsync c) :
    (h.syncEngine = true → ∀ post, execActionsF h fuel (pre ++ bad :: post) evType s =
        { execActionsF h fuel pre evType s with err := some (.notSupported bad.type) }) ∧
    (h.syncEngine = false → execActionsF h fuel (pre ++ [bad]) evType s =
        emit (bad.type ++ "@" ++ evType) { execActionsF h fuel pre evType s with ctx := c }) := by
  rw [execActionsF_fold h fuel pre] at ha ⊢
  have hstep := actStep_live h (nestedOf h fuel) (cutOf fuel) evType _ bad hlive
  simp only [ha] at hstep
  constructor
  · intro hsync post
    rw [hsync, if_pos rfl] at hstep
    exact (step_in_list h fuel pre bad evType s hstep).2 (Or.inl rfl) post
  · intro hsync
    rw [hsync, if_neg Bool.false_ne_true] at hstep
    rw [execActionsF_fold, (step_in_list h fuel pre bad evType s hstep).1]

example : (match (execActionsF exH 3 [A "inc", A "nosuch", A "inc"] "E" sA).err with
    | some (.missingAction n) => n | _ => "") = "nosuch" := by rw [err_of_missingName list_runs.2.2.2.1.1]
example : (execActionsF exH 3 [A "inc", A "nosuch", A "inc"] "E" sA).trace = ["inc@E"] := list_runs.2.2.2.1.2
example : (match (execActionsF (exH true) 3 [A "co", A "inc"] "E" sA).err with
    | some (.notSupported n) => n | _ => "") = "co" := by decide +kernel
example : (execActionsF (exH false) 3 [A "co", A "inc"] "E" sA).trace = ["inc@E", "co@E"] := list_runs.2.2.2.2
/-- a configuration error in the transition's own list aborts the transition: configuration restored -/
example : (execute exH .sync exM (.user "GO") { plGO with actions := [A "nosuch"] } sA).cfg = [[], ["a"]] :=
  machine_runs.1.1.2.2.2

end XSM.C07

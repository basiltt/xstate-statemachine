import Xsm.Proofs.Codegen
import Xsm.Proofs.CodegenGuard
/-!
# C17 — code generator: the output rebuilds the source machine exactly, or nothing is written

"For every machine JSON, `xsm generate-template` with a pythonic template either exits non-zero having
written no file, or writes modules that are valid Python, import without side effects, and build a
machine behaviourally identical to create_machine(json) … Arbitrary strings in the JSON (ids, state
names, action/guard/service names) reach generated files only as data, never as code, and
regenerating from unchanged input is byte-identical so --check reports no drift."

## What is PROVED here (for all inputs, no bounds)

The part of the generator that turns untrusted strings into CODE positions — Python bindings — is
`cli/naming.py`: `to_identifier` and `IdentifierAllocator` (every other occurrence of a JSON string
in a generated file goes through `repr()` or `docstring_safe`).  `Xsm/Model/Codegen.lean` models both
exactly; the Unicode step `_transliterate` is a parameter `tr : Char → List Char` of the model and
every theorem quantifies over it (so nothing depends on the Unicode tables); the word lists are the
tables regenerated from the source and from `keyword.kwlist` on every run
(`Xsm/Generated/CodegenTables.lean`), so a keyword list in which some keyword ends in `_` or a
digit makes `keywords_end_in_letter` — hence this file — stop building.

* `identifier_safe`, `identifier_starts_with_letter`, `identifier_not_a_reserved_word`
* `identifier_deterministic` (the fallback is consulted only when the name yields nothing; a
  repeated request returns the same binding and leaves the allocator unchanged)
* `allocator_injective`, `allocator_stable`, `allocator_avoids_reserved`, `allocator_valid`,
  `allocator_one_binding_per_request` — for EVERY reserved set and EVERY request sequence
* `fresh_terminates_free`: the suffix loop, bounded by `|taken|` iterations, always ends on a free name
* the GUARD fragment of the data round trip (`Xsm/Model/CodegenGuard.lean`: `ir.parse_guard` and
  `emit.render_guard` as data, against the engine's own `parseGuard` of `Xsm/Model/Parse.lean`):
  `guard_roundtrip` on the fragment "names, and and/or/not with operands under params.guards";
  `guard_rendered_as_bare_name` (every other guard object is emitted as its bare type name) and the
  three counter-examples `guard_roundtrip_fails_*` — the Lean side of finding F16.

## What is only VALIDATED (harness/xsmverif/c17.py, on every run)

* model = code: `to_identifier` / `IdentifierAllocator.allocate` of /repo/src against `drivergen`
  on hostile + random Unicode strings (tie `c17_naming`);
* everything else the property says, on the REAL CLI run in a scratch directory: a refusal writes no
  file; written modules parse, import without touching the file system or stdout, and build a
  machine with the same DEEP fingerprint as `create_machine(json)` and the same traces; the
  JSON-loading templates bind every referenced name; regeneration is byte-identical and `--check`
  is silent; JSON strings occur only inside `ast.Constant` nodes and the state bindings in the AST are
  exactly the model allocator's outputs.

## What the model cannot exhibit

The rest of the IR → emitted objects → compiled config pipeline (states, transitions, targets,
actions, invokes, the pythonic compiler) is NOT modelled: `codegen_roundtrip_statement` below is a
statement only (no theorem) and is validated by the fingerprint comparison.  It is FALSE of the
code today (F16: params of non-composite guards and operands written under `children` are dropped
by `ir.parse_guard` / `emit.render_guard`; a stub named `stateIn` replaces the built-in) — see
known_findings.json; F45 (repaired) and F46–F49 concern the JSON-loading templates, the files written
without being parsed (runner, merged single-file module) and stub-name collisions, which have no Lean
counterpart.  Python's `repr()`, tokenizer and `black` are outside the
model (DESIGN §3.4).
-/
namespace XSM.C17
open XSM XSM.Codegen

/-- a valid Python identifier (ASCII fragment: first character a letter or `_`, the rest letters,
    digits or `_`) that is not one of the keywords `kw` -/
def ValidIdent (kw : List (List Char)) (l : List Char) : Prop :=
  (∃ c cs, l = c :: cs ∧ isIdStart c = true ∧ ∀ x ∈ cs, isIdChar x = true) ∧ l ∉ kw

theorem validIdent_of_startsLetter {kw : List (List Char)} {l : List Char} (h : StartsLetter l) (hk : l ∉ kw) :
    ValidIdent kw l := by
  obtain ⟨c, cs, rfl, hc, hcs⟩ := h
  exact ⟨⟨c, cs, rfl, by simp [isIdStart, hc], hcs⟩, hk⟩

/-! ## the regenerated tables -/

/-- every Python keyword ends in a letter: appending `_` or `_<n>` to anything never yields a keyword -/
theorem keywords_end_in_letter : EndsInLetter CodegenTables.pyKeywords :=
  endsInLetter_of_B (by decide +kernel)

/-- the words `to_identifier` steers clear of, other than the soft keyword `_` itself -/
def avoidedWords : List (List Char) :=
  CodegenTables.pyKeywords ++ CodegenTables.softKeywords.filter (· ≠ ['_']) ++ CodegenTables.shadowRisk

theorem avoided_end_in_letter : EndsInLetter avoidedWords := endsInLetter_of_B (by decide +kernel)

/-! ## `to_identifier` -/

/-- whatever the name, the fallback and the transliteration, the result is a valid Python identifier
    and not a keyword — for ANY word lists whose keywords end in a letter -/
theorem identifier_safe_general (T : NameTables) (hT : EndsInLetter T.keywords) (tr : Char → List Char)
    (name fallback : List Char) : ValidIdent T.keywords (toIdentifierWith T tr name fallback) :=
  validIdent_of_startsLetter (toIdentifierWith_startsLetter T tr name fallback)
    (toIdentifierWith_not_mem T tr name fallback _ hT (fun _ hw => Or.inl hw))

/-- **identifier_safe** — for the word lists regenerated from the source -/
theorem identifier_safe (tr : Char → List Char) (name fallback : List Char) :
    ValidIdent CodegenTables.pyKeywords (toIdentifierWith pyTables tr name fallback) :=
  identifier_safe_general pyTables keywords_end_in_letter tr name fallback

/-- instance for the driver's transliteration (the one the tie compares with the code) -/
theorem toIdentifier_safe (name fallback : List Char) :
    ValidIdent CodegenTables.pyKeywords (toIdentifier name fallback) := identifier_safe pyTranslit name fallback

/-- stronger than validity: the first character is an ASCII letter (never `_`, so the result is
    neither a private nor a dunder name and never the soft keyword `_`) and all characters are ASCII -/
theorem identifier_starts_with_letter (T : NameTables) (tr : Char → List Char) (name fallback : List Char) :
    ∃ c cs, toIdentifierWith T tr name fallback = c :: cs ∧ isAsciiLetter c = true ∧
      ∀ x ∈ cs, isIdChar x = true :=
  toIdentifierWith_startsLetter T tr name fallback

/-- the result is none of the keywords, soft keywords (`match`, `case`, `type`, `_`) or shadow-risk
    built-ins (`id`, `type`, `input`, …) of the source -/
theorem identifier_not_a_reserved_word (tr : Char → List Char) (name fallback : List Char) :
    toIdentifierWith pyTables tr name fallback ∉ CodegenTables.pyKeywords ∧
    toIdentifierWith pyTables tr name fallback ∉ CodegenTables.softKeywords ∧
    toIdentifierWith pyTables tr name fallback ∉ CodegenTables.shadowRisk := by
  have hav : toIdentifierWith pyTables tr name fallback ∉ avoidedWords := by
    apply toIdentifierWith_not_mem pyTables tr name fallback _ avoided_end_in_letter
    intro w hw
    simp only [avoidedWords, List.mem_append, List.mem_filter] at hw
    rcases hw with (hw | hw) | hw
    · exact Or.inl hw
    · exact Or.inr (Or.inl hw.1)
    · exact Or.inr (Or.inr hw)
  refine ⟨fun h => hav ?_, fun h => hav ?_, fun h => hav ?_⟩
  · simp only [avoidedWords, List.mem_append]; exact Or.inl (Or.inl h)
  · have hne : toIdentifierWith pyTables tr name fallback ≠ ['_'] := by
      intro he
      obtain ⟨c, cs, hc, hl, _⟩ := toIdentifierWith_startsLetter pyTables tr name fallback
      rw [he] at hc
      cases hc
      revert hl; decide
    simp only [avoidedWords, List.mem_append, List.mem_filter]
    exact Or.inl (Or.inr ⟨h, by simpa using hne⟩)
  · simp only [avoidedWords, List.mem_append]; exact Or.inr h

/-- **identifier_deterministic (1)** — the identifier is a function of the name alone whenever the
    name contains anything usable: the fallback (which callers derive from positions) is consulted
    only when the sanitised name is empty. -/
theorem identifier_deterministic (T : NameTables) (tr : Char → List Char) (name fb fb' : List Char)
    (h : sanitize tr name ≠ []) : toIdentifierWith T tr name fb = toIdentifierWith T tr name fb' := by
  unfold toIdentifierWith
  rw [baseCandidate_fallback_irrelevant tr name fb fb' h]

/-- **identifier_deterministic (2)** — asking the allocator again for a name it has seen returns
    the same binding and changes nothing (whatever fallback the second request carries). -/
theorem allocate_again (T : NameTables) (tr : Char → List Char) (a : Alloc) (name fb fb' : List Char) :
    allocate T tr (allocate T tr a name fb).1 name fb' = allocate T tr a name fb := by
  rw [allocate_hit T tr _ name fb' _ (allocate_lookup T tr a name fb)]

/-! ## `IdentifierAllocator` -/

/-- the suffix loop is bounded by `|taken|` iterations in the model; the bound is never what stops
    it: the name returned is free -/
theorem fresh_terminates_free (taken : List (List Char)) (base : List Char) : fresh taken base ∉ taken :=
  fresh_not_taken taken base

/-- one log entry per request, in order, carrying the requested name -/
theorem allocator_one_binding_per_request (T : NameTables) (tr : Char → List Char) (reserved : List (List Char))
    (reqs : List (List Char × List Char)) :
    (allocateAll T tr (Alloc.init reserved) reqs).2.map (·.1) = reqs.map (·.1) := by
  generalize Alloc.init reserved = a
  induction reqs generalizing a with
  | nil => rfl
  | cons r rest ih => exact congrArg (r.1 :: ·) (ih _)

/-- **allocator_injective** — for every reserved set and every request sequence: two requests that
    received the same binding asked for the same source name. -/
theorem allocator_injective (T : NameTables) (tr : Char → List Char) (reserved : List (List Char))
    (reqs : List (List Char × List Char)) (n1 o1 n2 o2 : List Char)
    (h1 : (n1, o1) ∈ (allocateAll T tr (Alloc.init reserved) reqs).2)
    (h2 : (n2, o2) ∈ (allocateAll T tr (Alloc.init reserved) reqs).2) (ho : o1 = o2) : n1 = n2 :=
  (allocateAll_preserves T tr (allocate_inv T tr) _ reqs (inv_init reserved)).inj n1 o1 n2 o2
    (allocateAll_log T tr _ reqs n1 o1 h1) (allocateAll_log T tr _ reqs n2 o2 h2) ho

/-- **allocator_stable** — the same source name always receives the same binding. -/
theorem allocator_stable (T : NameTables) (tr : Char → List Char) (reserved : List (List Char))
    (reqs : List (List Char × List Char)) (n o1 o2 : List Char)
    (h1 : (n, o1) ∈ (allocateAll T tr (Alloc.init reserved) reqs).2)
    (h2 : (n, o2) ∈ (allocateAll T tr (Alloc.init reserved) reqs).2) : o1 = o2 := by
  have a := allocateAll_log T tr _ reqs n o1 h1
  have b := allocateAll_log T tr _ reqs n o2 h2
  rw [a] at b
  exact Option.some.inj b

/-- **allocator_avoids_reserved** — no binding is one of the names reserved for the module's own
    imports and helpers. -/
theorem allocator_avoids_reserved (T : NameTables) (tr : Char → List Char) (reserved : List (List Char))
    (reqs : List (List Char × List Char)) (n o : List Char)
    (h : (n, o) ∈ (allocateAll T tr (Alloc.init reserved) reqs).2) : o ∉ reserved :=
  (allocateAll_preserves T tr (allocate_avoids T tr reserved) _ reqs (avoids_init reserved)).none n o
    (allocateAll_log T tr _ reqs n o h)

/-- **allocator_valid** — every binding handed out (suffixed or not) is a valid non-keyword identifier. -/
theorem allocator_valid (tr : Char → List Char) (reserved : List (List Char))
    (reqs : List (List Char × List Char)) (n o : List Char)
    (h : (n, o) ∈ (allocateAll pyTables tr (Alloc.init reserved) reqs).2) :
    ValidIdent CodegenTables.pyKeywords o := by
  refine allocateAll_preserves pyTables tr
    (allocate_shape pyTables tr (ValidIdent CodegenTables.pyKeywords) (identifier_safe tr) ?_)
    (Alloc.init reserved) reqs nofun n o (allocateAll_log pyTables tr _ reqs n o h)
  intro n f i
  exact validIdent_of_startsLetter (suffixed_startsLetter (toIdentifierWith_startsLetter pyTables tr n f) i)
    (suffixed_not_mem keywords_end_in_letter _ i)

/-! ## non-vacuity: concrete runs of the model (the same inputs are in the tie's fixed list) -/

example : toIdentifier "class".toList stateWord = "class_".toList := by decide +kernel
example : toIdentifier "1st-state".toList stateWord = "s_1st_state".toList := by decide +kernel
example : toIdentifier "__import__('os')".toList stateWord = "import___os".toList := by decide +kernel
example : toIdentifier "id".toList stateWord = "id_".toList := by decide +kernel
example : toIdentifier "---".toList "a.b".toList = "a_b".toList := by decide +kernel
example : toIdentifier [] [] = stateWord := by decide +kernel
/-- `my-state` and `my_state` collide; the second is suffixed; asking again is stable; `State` is reserved -/
example : pyAllocateAll ["State".toList] [("my-state".toList, stateWord), ("my_state".toList, stateWord),
      ("my-state".toList, stateWord), ("State".toList, stateWord), ("my.state".toList, stateWord)]
    = ["my_state".toList, "my_state_2".toList, "my_state".toList, "State_2".toList, "my_state_3".toList] := by decide +kernel

/-! ## the data round trip, guard fragment (the tie `c17_guard_ir` compares `irGuard`/`renderGuard` with the code) -/

/-- **guard_roundtrip** — for a guard that is a name, or `and`/`or`/`not` whose operands are written under
    `params.guards` (recursively), the guard the generated module spells parses — with the engine's own
    `GuardDefinition` parser — to exactly what the source guard parses to. -/
theorem guard_roundtrip (j : J) (h : RepGuard j) :
    ∃ g, irGuard j = some g ∧ parseGuard (renderGuard g) = parseGuard j := by
  induction h with
  | name s => exact ⟨_, irGuard_str s, by rw [renderGuard_leaf]⟩
  | comp op cs hop hcs _ ih =>
    have hro := operands_roundtrip cs ih
    have hkids : cs.filterMap irGuard ≠ [] := by
      intro e
      have := hro.2
      rw [e] at this
      exact hcs (List.length_eq_zero_iff.1 this.symm)
    refine ⟨.mk op (cs.filterMap irGuard) (dictParams (opJ op [("params", .obj [("guards", .arr cs)])])), ?_, ?_⟩
    · have : opJ op [("params", .obj [("guards", .arr cs)])] = .obj (("type", .str op) :: [("params", .obj [("guards", .arr cs)])]) := rfl
      rw [this, irGuard_obj _ op (by simp [J.get?])]
      have hn := nestedGuards_params_guards op cs
      rw [this] at hn
      rw [hn]
    · rw [renderGuard_composite _ _ _ hkids]
      rw [parseGuard_opJ op hop, guardChildrenJ_params op "guards" (.inl rfl) _ (renderGuards_ne_nil hkids)]
      rw [parseGuard_opJ op hop, guardChildrenJ_params op "guards" (.inl rfl) cs hcs]
      simp only [parseOperands, hro.1]

/-- the fragment is not empty of interest: a nested composite in it -/
example : RepGuard (opJ "and" [("params", .obj [("guards", .arr [.str "ready",
    opJ "not" [("params", .obj [("guards", .arr [.str "busy"])])]])])]) := by
  refine .comp "and" _ (by simp [IsCompositeOp]) (by simp) ?_
  intro c hc
  simp at hc
  rcases hc with rfl | rfl
  · exact .name _
  · exact .comp "not" _ (by simp [IsCompositeOp]) (by simp) (by intro c hc; simp at hc; subst hc; exact .name _)

/-- **outside the fragment (F16):** a guard object without `params.guards` — whatever else it carries — is emitted
    as its bare type name. -/
theorem guard_rendered_as_bare_name (kvs : List (String × J)) (ty : String)
    (hty : (J.obj kvs).get? "type" = some (.str ty)) (hn : nestedGuards (.obj kvs) = []) :
    ∃ g, irGuard (.obj kvs) = some g ∧ renderGuard g = .str ty := render_bare_name kvs ty hty hn

/-- F16 (a): `{"type":"inRange","params":{"min":1}}` comes back as the parameterless guard `inRange`. -/
theorem guard_roundtrip_fails_params :
    ∃ g, irGuard exParamGuard = some g ∧ parseGuard (renderGuard g) ≠ parseGuard exParamGuard := by
  obtain ⟨g, hg, hr⟩ : ∃ g, irGuard exParamGuard = some g ∧ renderGuard g = .str "inRange" :=
    render_bare_name _ "inRange" (by simp [J.get?]) (by simp [nestedGuards, J.get?])
  refine ⟨g, hg, ?_⟩
  rw [hr, parseGuard.eq_1, exParamGuard, parseGuard_obj]
  simp [guardTypeOf, J.get?, guardChildrenJ, truthyList, paramsOperands, finishGuard, bind, Except.bind, pure,
    Except.pure, Tables.stateInGuardType]

/-- F16 (b): `{"type":"not","children":["busy"]}` comes back as a USER guard named `not`. -/
theorem guard_roundtrip_fails_children :
    ∃ g, irGuard exChildrenGuard = some g ∧ parseGuard (renderGuard g) ≠ parseGuard exChildrenGuard := by
  obtain ⟨g, hg, hr⟩ : ∃ g, irGuard exChildrenGuard = some g ∧ renderGuard g = .str "not" :=
    render_bare_name _ "not" (by simp [J.get?]) (by simp [nestedGuards, J.get?])
  refine ⟨g, hg, ?_⟩
  rw [hr, exChildrenGuard, parseGuard_opJ "not" (.inr (.inr rfl)), guardChildrenJ_children "not" _ (by simp),
    parseOperands_not _ (.named "busy" none) (by rw [parseGuard.eq_1]; simp [Tables.stateInGuardType]), parseGuard.eq_1]
  simp [Tables.stateInGuardType]

/-- F16 (c): `{"type":"stateIn","params":{"state":"#m.a"}}` comes back as `stateIn` with no state to test. -/
theorem guard_roundtrip_fails_stateIn :
    ∃ g, irGuard exStateInGuard = some g ∧ parseGuard (renderGuard g) ≠ parseGuard exStateInGuard := by
  obtain ⟨g, hg, hr⟩ : ∃ g, irGuard exStateInGuard = some g ∧ renderGuard g = .str "stateIn" :=
    render_bare_name _ "stateIn" (by simp [J.get?]) (by simp [nestedGuards, J.get?])
  refine ⟨g, hg, ?_⟩
  rw [hr, parseGuard.eq_1, exStateInGuard, parseGuard_obj]
  simp [guardTypeOf, J.get?, guardChildrenJ, truthyList, paramsOperands, finishGuard, bind, Except.bind, pure,
    Except.pure, Tables.stateInGuardType]

/-! ## the whole data round trip: STATEMENT ONLY (validated by the fingerprint comparison, false today: F16) -/

/-- `parse (compile (emitObjects (irOfJson j))) ≈ parse j` for every JSON the generator accepts,
    where `≈` is the deep fingerprint.  The four functions are parameters: the IR and emitters are not
    modelled. No theorem is claimed. -/
def codegen_roundtrip_statement {J IR Obj M FP : Type} (irOfJson : J → IR) (representable : IR → Prop)
    (emitObjects : IR → Obj) (compile : Obj → M) (parse : J → M) (fingerprint : M → FP) : Prop :=
  ∀ j, representable (irOfJson j) → fingerprint (compile (emitObjects (irOfJson j))) = fingerprint (parse j)

end XSM.C17

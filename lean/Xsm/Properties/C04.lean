import Xsm.Proofs.FifoEx
import Xsm.Proofs.SyncFlag
/-!
# C04 — run-to-completion and lossless, ordered event processing

"Every event accepted by send()/send_events() while the interpreter is running is processed exactly
once, events from one sender are processed in the order they were sent, and each event is processed to a
stable configuration - including all eventless (always) follow-ups - before the next one starts, never
interleaved with it. Events that actions raise or send to their own machine during processing (including
from entry actions during start) are handled after the current event completes rather than
re-entrantly, and no volume or timing of external sends - from tasks, timer threads or actors - causes
an event to be lost, duplicated or processed concurrently with another."

Statements about the executable model: the queue discipline of `Xsm/Model/Engine.lean` (`enqueueQ`,
`drainLoop`, `asyncDrain`, `asyncStep`, the send hooks `hooksFlagged` / `hooksAsync`) and the operations
`opSend` / `opSendMany` of `Xsm/Model/Lifecycle.lean`. "Received" is defined by the loops themselves:
`drainLog` / `asyncLog` list the events a drain dequeues and hands to `on_event_received` +
`_process_event`, following the recursion of `drainLoop` / `asyncDrain` case by case; `rtc_structure`
ties that list to the `#recv:` records of the trace the harness compares with the real engines.
Everything is for every machine, every user-code environment and every state, with no bound. (`drainLoop`
and its twins take a MODEL fuel and the loop's counter `chained` of marked dequeues; `drainFlagged` runs them
with `drainFuel` and `0`. The fuel never runs out: `C13.sync_drain_terminates`.)

PROVED (model, all inputs; each theorem carries the full wording):
* `send_appends_at_tail`, `drain_pops_head`, `async_loop_pops_head` — the queue is FIFO at both ends;
* `send_during_processing_only_enqueues` — a send made by an action (either engine, every phase incl.
  `start()`) changes the queue (and the async raise counter) and nothing else: never processed re-entrantly;
* `raised_after_current`, `raised_are_marked` — what a macrostep raises is appended BEHIND everything already
  queued; `failed_macrostep_keeps_the_rest_queued` — a failing macrostep aborts the sync drain and loses nothing;
* `rtc_structure`, `macrostep_writes` — per dequeued event, in dequeue order, `#recv:e` and then the records of
  e's own macrostep only: macrosteps are never interleaved (unconditional);
* `fifo_exactly_once_queued`, `fifo_exactly_once_clean` (sync), `fifo_exactly_once_async_clean` — when nothing
  cuts the drain short (`DrainClean` / `AsyncClean`: the bound `maxIterations` never trips, the machine keeps
  running, sync: no macrostep raises an error; the side conditions C13 / C10 / C07 govern) the events received
  are EXACTLY the accepted ones, in order, each once, then the raised ones in raise order; nothing stays queued;
* sync, EXTERNAL events (accepted from outside by `send` / `send_events`: queued unmarked), with NO side
  condition on the bound (second repair of F10: the bound of `_process_event_queue` counts only the dequeues
  of MARKED events — those enqueued while a drain was in flight, `QEv.self` — and a cut purges marked entries
  only and goes on; the policy of the async chain breaker): `sync_bound_counts_only_marked`;
  `sync_external_never_dropped` (external events at the head of the queue); `external_exactly_once_sync`
  (`_process_event_queue` from ANY queue); `sync_cut_discards_only_raised` (what a cut removes);
  `fifo_exactly_once` (a burst of any length to an idle running interpreter);
* async, EXTERNAL events, with NO side condition on the bound (repair of F30): `async_external_never_dropped`
  (a dequeued external event is processed, breaker tripped or not), `async_breaker_drops_only_self_raised`,
  `external_exactly_once_async` (every fuel, counter and machine), `fifo_exactly_once_async` (a burst to an
  idle running interpreter);
* async `start()` (repair of F42): `async_start_settles_before_loop` — initial entry, then the eventless
  settling, nothing dequeued in between, and only then, if still running, the run loop;
* `send_is_sendMany_singleton`, `sync_sendMany_is_one_drain`, and by example `sendMany_differs_from_sends`:
  `send_events([a, b])` queues both and drains once, so what `a` raises runs AFTER `b`, whereas
  `send(a); send(b)` runs it before `b` (both engines at the model's quiescent observation points);
* the witness runs of F10 (the sync bound counted every dequeued event: of a burst longer than `maxIterations`
  the rest was discarded) and of F30 (the chain breaker dropped the event in hand whatever its origin) are
  among the examples of §5, with the outcome after the repairs: every external event is received;
* `SyncFlag` (two threads executing `append; if flag: return; flag := True; drain; flag := False` at
  statement granularity): `mutual_exclusion_fails` (test-then-set: the formal counterpart of F18),
  `mutual_exclusion_atomic` (test-and-set atomic: all schedules), `flag_protocol_can_strand_an_event`.

OPEN (F70): the side condition "the bound `maxIterations` is not reached" of `fifo_exactly_once_clean` /
`fifo_exactly_once_async_clean` is about the TOTAL of a busy period, not about a chain: a `send_events` burst of
more than `maxIterations` events each of which raises ONE event reaches it, and RAISED events — never external
ones — are discarded although every causal chain has length 1. Witnesses on both engine models:
`C13.burst_of_short_chains_is_cut_sync` / `_async` (`Xsm/Properties/C13.lean`); monitor: rule
`short-chains-cut-by-burst` of `c14.c04_monitor`.

NOT exhibited by the model, VALIDATED only (harness `xsmverif/c14.py::c04_ordering`, every run): sends
that arrive while a macrostep is in flight (async producer tasks against sleeping coroutine actions) —
the model observes at quiescent points, there is no suspension inside a macrostep (the defect F42 — the
run loop processing events in the middle of the initial entry when an entry coroutine suspends — needed
one; with the loop created after the settling there is no loop to suspend into, which is what
`async_start_settles_before_loop` states; the harness runs starts with suspending entry coroutines and
pre-sent / raised events on the real engine, replay `findings/F42_async_start_runs_loop_during_entry.json`); timers,
services and actors as producers; real threads. `SyncFlag` interleaves at Python-STATEMENT granularity:
byte-code-level preemption and the OS scheduler are not exhibited. Record shapes: a user action NAMED
`#recv:…` would write records that look like receive records; `rtc_structure` speaks about the position
of records, the harness uses generated action names.
-/
namespace XSM.C04
open XSM XSM.Done

/-! ## 1. the queue is FIFO at both ends -/

/-- `send` / `send_events` while running: the events are appended at the TAIL, in the order given -/
theorem send_appends_at_tail (es : List Ev) (s : St) :
    (pushAll es s).queue = s.queue ++ es.map (fun e => (⟨e, false⟩ : QEv)) := rfl

theorem sync_sendMany_is_one_drain (m : Machine) (u : UEnv) (es : List Ev) (l : LSt) (h : l.st.status = "running") :
    opSendMany .sync m u es l =
      { l with st := drainLoop m u (drainFuel m (pushAll es l.st)) 0 (pushAll es l.st) } := by
  have hg : ¬ refuses (sendGate .sync) l.st.status = true := by
    intro hh; exact (syncSendGate_spec _).1 hh h
  unfold opSendMany
  rw [if_neg hg]
  rfl

theorem async_sendMany_is_enqueue_then_loop (m : Machine) (u : UEnv) (es : List Ev) (l : LSt)
    (h : l.st.status = "running") (hl : l.loop = true) :
    opSendMany .async m u es l = { l with st := asyncDrain m u (asyncFuel m) (pushAll es l.st) } := by
  have hg : ¬ refuses (sendGate .async) l.st.status = true := by
    intro hh; have := (asyncSendGate_spec _).1 hh; rw [h] at this; revert this; decide
  unfold opSendMany
  rw [if_neg hg]
  have : (pushAll es l.st).status = "running" := h
  simp [lsettle, hl, this]

/-- `send(e)` IS `send_events([e])` -/
theorem send_is_sendMany_singleton (fl : Flavor) (m : Machine) (u : UEnv) (e : Ev) (l : LSt) :
    opSend fl m u e l = opSendMany fl m u [e] l := rfl

/-- the operations of this file and the engine's own `send` (what C01 … C11 are stated about) agree -/
theorem opSend_sync_is_engine_send (m : Machine) (u : UEnv) (e : Ev) (l : LSt) :
    (opSend .sync m u e l).st = syncSend m u e l.st := by
  unfold opSend opSendMany syncSend sndUnflagged
  by_cases h : l.st.status = "running"
  · have hg : ¬ refuses (sendGate .sync) l.st.status = true := fun hh => (syncSendGate_spec _).1 hh h
    rw [if_neg hg, if_pos h]; rfl
  · have hg : refuses (sendGate .sync) l.st.status = true := (syncSendGate_spec _).2 h
    rw [if_pos hg, if_neg h]

/-- the sync drain dequeues the HEAD (unless it is a marked event that trips the runaway bound, §5), runs ONE
    macrostep (`syncMacro`: `_process_event` then `_process_transient_transitions`) on the rest, and only then
    looks at the queue again; the counter `chained` goes up iff the head was marked -/
theorem drain_pops_head (m : Machine) (u : UEnv) (fuel c : Nat) (s : St) (q : QEv) (rest : List QEv)
    (hq : s.queue = q :: rest) (hrun : s.status = "running") (ht : syncTrips m c q = false) :
    drainLoop m u (fuel + 1) c s =
      (if (syncMacro m u q.ev { s with queue := rest }).err.isSome = true then syncMacro m u q.ev { s with queue := rest }
       else drainLoop m u fuel (chainedNext c q) (syncMacro m u q.ev { s with queue := rest })) ∧
    drainLog m u (fuel + 1) c s =
      q.ev :: (if (syncMacro m u q.ev { s with queue := rest }).err.isSome = true then []
               else drainLog m u fuel (chainedNext c q) (syncMacro m u q.ev { s with queue := rest })) :=
  ⟨drainLoop_step m u fuel c s q rest hq hrun ht, drainLog_cons m u fuel c s q rest hq hrun ht⟩

/-- the async run loop likewise: one `asyncStep` (process + settle) per dequeued event -/
theorem async_loop_pops_head (m : Machine) (u : UEnv) (fuel : Nat) (s : St) (q : QEv) (rest : List QEv)
    (hq : s.queue = q :: rest) (hrun : s.status = "running") :
    asyncDrain m u (fuel + 1) s = asyncDrain m u fuel (asyncStep m u q { s with queue := rest }) :=
  asyncDrain_step m u fuel hrun hq

/-! ## 2. sends made during processing -/

/-- *"handled after the current event completes rather than re-entrantly"*: a send made by an action
    while an event is processed (sync: `_is_processing` is set — also during `start()`; async: `raise`
    and `done.state.*` go through `Queue.put`) ONLY enqueues — configuration, history, context, trace,
    status, error flag are untouched, nothing is processed -/
theorem send_during_processing_only_enqueues (u : UEnv) (m : Machine) (e : Ev) (s : St) :
    -- sync, every phase (start included): the queued entry is MARKED (`_raised_in_drain`)
    (hooksFlagged u m).sndRaise e s = (if s.status = "running" then { s with queue := s.queue ++ [⟨e, true⟩] } else s) ∧
    (hooksFlagged u m).snd e s = (hooksFlagged u m).sndRaise e s ∧
    -- async, inside the run loop: also counts towards the chain breaker and is marked self-raised
    (hooksAsync u m).sndRaise e s =
      (if s.status = "running" then { s with raiseDepth := s.raiseDepth + 1, queue := s.queue ++ [⟨e, true⟩] }
       else { s with raiseDepth := s.raiseDepth + 1 }) ∧
    (hooksAsync u m).snd e s = (hooksAsync u m).sndRaise e s ∧
    -- async, during `start()`: no loop yet, nothing is counted or marked
    (hooksAsyncStart u m).sndRaise e s = (if s.status = "running" then { s with queue := s.queue ++ [⟨e, false⟩] } else s) ∧
    (hooksAsyncStart u m).snd e s = (hooksAsyncStart u m).sndRaise e s :=
  ⟨rfl, rfl, rfl, rfl, rfl, rfl⟩

/-- *"Events that actions raise … are handled after the current event"*: whatever the macrostep of `e`
    raises (any number of `raise`s, `done.state.*` events, from transition, exit and entry actions and
    from the eventless follow-ups) is appended BEHIND everything that was already queued -/
theorem raised_after_current (m : Machine) (u : UEnv) (e : Ev) (q : QEv) (s : St) :
    (syncMacro m u e s).queue = s.queue ++ raisedBy m u e s ∧
    (¬ s.raiseDepth > m.maxIterations → (asyncStep m u q s).queue = s.queue ++ asyncRaisedBy m u q s) :=
  ⟨syncMacro_queue m u e s, asyncStep_queue_eq m u q s⟩

/-- … and on the sync engine every one of them is MARKED: a macrostep never adds an external entry -/
theorem raised_are_marked (m : Machine) (u : UEnv) (e : Ev) (s : St) : ∀ q ∈ raisedBy m u e s, q.self = true := by
  obtain ⟨added, hq, hm⟩ := Term.syncMacro_marked m u e s
  have : raisedBy m u e s = added := by unfold raisedBy; rw [hq]; simp
  rw [this]; exact hm

/-- *a macrostep that FAILS (the error escapes the sync call) loses nothing that was accepted*: the drain stops
    there, and what it leaves queued is exactly what was queued behind the failing event — external events and
    events raised by EARLIER, completed macrosteps of the same drain alike, in order — followed by what the failing
    macrostep itself had raised before it failed. The next `send()` drains them first. -/
theorem failed_macrostep_keeps_the_rest_queued (m : Machine) (u : UEnv) (fuel c : Nat) (s : St) (q : QEv) (rest : List QEv)
    (hq : s.queue = q :: rest) (hrun : s.status = "running") (ht : syncTrips m c q = false)
    (hfail : (syncMacro m u q.ev { s with queue := rest }).err.isSome = true) :
    drainLoop m u (fuel + 1) c s = syncMacro m u q.ev { s with queue := rest } ∧
    (drainLoop m u (fuel + 1) c s).queue = rest ++ raisedBy m u q.ev { s with queue := rest } := by
  have h := (drain_pops_head m u fuel c s q rest hq hrun ht).1
  rw [if_pos hfail] at h
  exact ⟨h, by rw [h]; exact (raised_after_current m u q.ev q { s with queue := rest }).1⟩

/-! ## 3. run to completion: what a drain writes -/

/-- **a drain's contribution to the trace is the concatenation, per dequeued event and in dequeue order,
    of `#recv:e` followed by the records of e's own macrostep** — records of transitions taken for `e`
    (`TransRec e.type`) or of eventless follow-ups (`TransRec ""`), nothing else; and the dequeued events
    are exactly `drainLog`. Unconditional. -/
theorem rtc_structure (m : Machine) (u : UEnv) (fuel c : Nat) (s : St) :
    (drainLoop m u fuel c s).chron = s.chron ++ (drainSegs m u fuel c s).flatMap segRecords ∧
    (drainSegs m u fuel c s).map (·.1) = drainLog m u fuel c s ∧
    (∀ p ∈ drainSegs m u fuel c s, ∀ r ∈ p.2, TransRec p.1.type r ∨ TransRec "" r) :=
  ⟨drain_chron m u fuel c s, drainSegs_events m u fuel c s, drainSegs_records m u fuel c s⟩

/-- one macrostep in the trace: its `#recv` record first, then only its own records -/
theorem macrostep_writes (m : Machine) (u : UEnv) (e : Ev) (s : St) :
    (syncMacro m u e s).chron = s.chron ++ ("#recv:" ++ e.type) :: macroRecords m u e s ∧
    ∀ r ∈ macroRecords m u e s, TransRec e.type r ∨ TransRec "" r :=
  ⟨syncMacro_chron m u e s, macroRecords_spec m u e s⟩

/-! ## 4. lossless, ordered, exactly once -/

theorem drain_clean_queue_nil (m : Machine) (u : UEnv) (fuel c : Nat) (s : St) (h : DrainClean m u fuel c s) :
    (drainLoop m u fuel c s).queue = [] := (drain_fifo m u fuel c s h).2

/-- **FIFO, exactly once, general form** (sync): whatever is queued when a drain starts — events accepted
    by this call and, after a call that raised, events accepted or raised earlier — is received in queue
    order, each once, then the raised events in raise order; nothing is left -/
theorem fifo_exactly_once_queued (m : Machine) (u : UEnv) (fuel c : Nat) (s : St) (h : DrainClean m u fuel c s) :
    drainLog m u fuel c s = s.queue.map (·.ev) ++ drainRaised m u fuel c s ∧
    (drainLoop m u fuel c s).queue = [] :=
  drain_fifo m u fuel c s h

/-- the bound of one `_process_event_queue()` counts the dequeues of MARKED events only: an EXTERNAL event at
    the head never trips it and leaves the counter `chained` as it is — however large the counter, however
    many events were received before (`send()` / `send_events()` enqueue external events unmarked:
    `send_appends_at_tail`) -/
theorem sync_bound_counts_only_marked (m : Machine) (u : UEnv) (s : St) (c : Nat) (q : QEv) (hq : q.self = false) :
    drainFlagged m u s = drainLoop m u (drainFuel m s) 0 s ∧
    syncTrips m c q = false ∧ chainedNext c q = c :=
  ⟨rfl, Term.syncTrips_ext m c hq, Term.chainedNext_ext c hq⟩

/-- **FIFO, exactly once, everything** (sync `send_events(es)` / `send(e)` on an idle running interpreter,
    nothing cuts the drain short): the events received by this call are `es` — all of them, in order, each
    once — followed by what their macrosteps raised; the trace shows exactly these macrosteps, one after
    the other; nothing is left queued -/
theorem fifo_exactly_once_clean (m : Machine) (u : UEnv) (es : List Ev) (l : LSt) (hrun : l.st.status = "running")
    (hq : l.st.queue = []) (hclean : DrainClean m u (drainFuel m (pushAll es l.st)) 0 (pushAll es l.st)) :
    drainLog m u (drainFuel m (pushAll es l.st)) 0 (pushAll es l.st) =
      es ++ drainRaised m u (drainFuel m (pushAll es l.st)) 0 (pushAll es l.st) ∧
    (opSendMany .sync m u es l).st.chron =
      l.st.chron ++ (drainSegs m u (drainFuel m (pushAll es l.st)) 0 (pushAll es l.st)).flatMap segRecords ∧
    (drainSegs m u (drainFuel m (pushAll es l.st)) 0 (pushAll es l.st)).map (·.1) =
      es ++ drainRaised m u (drainFuel m (pushAll es l.st)) 0 (pushAll es l.st) ∧
    (opSendMany .sync m u es l).st.queue = [] := by
  obtain ⟨hlog, hnil⟩ := drain_fifo m u _ _ _ hclean
  rw [pushAll_idle es hq, unmarked_evs] at hlog
  rw [sync_sendMany_is_one_drain m u es l hrun]
  exact ⟨hlog, drain_chron m u _ _ _, (drainSegs_events m u _ _ _).trans hlog, hnil⟩

/-- **external events at the head of the queue when a sync drain starts are never dropped by the bound**
    (repairs F10; the sync counterpart of `async_external_never_dropped`). `init` — a prefix of the queue
    consisting of EXTERNAL events (what `send` / `send_events` accepted: unmarked) —, `more` whatever is queued
    behind, and a model fuel that covers `init`. Then
    1. the first events the drain receives (hands to `on_event_received` / `_process_event`, `drainLog`) are
       the events of `init`, in queue order, none skipped, none twice — as many as it receives at all;
    2. if the drain returns with the interpreter still "running" and raised nothing, it received ALL of `init`;
    3. if the drain raised (a macrostep failed: the sync engine aborts the drain and re-raises), the events
       of `init` not yet received are still queued, in order, at the head of the queue — the next `send`
       processes them first.
    The one remaining way out is the status gate: the machine completed or was stopped (C10), and the drain
    drops what is queued exactly as `send()` drops later events. No hypothesis on the machine, on user code,
    on how many events there are, on the counter `c`, or on what the events raise. (For external events that
    are NOT at the head — marked leftovers of an aborted drain queued in front of them — see
    `external_exactly_once_sync`.) -/
theorem sync_external_never_dropped (m : Machine) (u : UEnv) (init more : List QEv) (fuel c : Nat) (s : St)
    (hq : s.queue = init ++ more) (hext : ∀ q ∈ init, q.self = false) (hB : init.length ≤ fuel) :
    (drainLog m u fuel c s).take init.length = (init.map (·.ev)).take (drainLog m u fuel c s).length ∧
    ((drainLoop m u fuel c s).err = none → (drainLoop m u fuel c s).status = "running" →
      (drainLog m u fuel c s).take init.length = init.map (·.ev)) ∧
    (s.status = "running" → (drainLoop m u fuel c s).err ≠ none →
      init.drop (drainLog m u fuel c s).length <+: (drainLoop m u fuel c s).queue) := by
  obtain ⟨h1, h2, h3⟩ := drain_initial m u init fuel c s more hq hext hB
  refine ⟨h1, fun he hr => ?_, h3⟩
  rw [h1, List.take_of_length_le]
  rw [List.length_map]; exact h2 he hr

/-- **external events: exactly once, in order — for every machine, user code and queue** (the sync
    counterpart of `external_exactly_once_async`), for the drain the code runs (`drainFlagged`:
    `_process_event_queue()` with `chained = 0`) from ANY state — in particular with MARKED leftovers of a
    drain that raised queued in front of, or between, the external events. `drainLogQ`: the entries received,
    with their mark; `Term.extOf`: the external ones among them, in order.
    1. the external events received, followed by the external events still queued when the drain returns,
       are an initial segment of the external events that were queued when it started: none skipped, none
       duplicated, none reordered — by the bound, by a cut, by a failing macrostep;
    2. they are ALL of them if the interpreter is still "running" then (otherwise the machine completed or was
       stopped — the status gate dropped the rest, C10);
    3. if moreover the drain raised nothing, every external event was received and nothing is left queued. -/
theorem external_exactly_once_sync (m : Machine) (u : UEnv) (s : St) :
    (Term.extOf (drainLogQ m u (drainFuel m s) 0 s) ++ Term.extOf (drainFlagged m u s).queue <+: Term.extOf s.queue) ∧
    ((drainFlagged m u s).status = "running" →
      Term.extOf (drainLogQ m u (drainFuel m s) 0 s) ++ Term.extOf (drainFlagged m u s).queue = Term.extOf s.queue) ∧
    ((drainFlagged m u s).err = none → (drainFlagged m u s).status = "running" →
      Term.extOf (drainLogQ m u (drainFuel m s) 0 s) = Term.extOf s.queue ∧ (drainFlagged m u s).queue = []) := by
  have h1 := (Term.drain_external m u (drainFuel m s) 0 s).1
  have h2 := (Term.drain_external m u (drainFuel m s) 0 s).2 (Term.drain_no_hang m u s _ (Nat.le_refl _))
  refine ⟨h1, h2, fun he hr => ?_⟩
  have hnil : (drainFlagged m u s).queue = [] := Term.drainLoop_queue_nil_of_ok m u _ _ _ he
  have := h2 hr
  have hnil' : (drainLoop m u (drainFuel m s) 0 s).queue = [] := hnil
  rw [hnil'] at this
  exact ⟨by simpa [Term.extOf] using this, hnil⟩

/-- **what a cut of the sync drain discards was enqueued while a drain was in flight** — literally: when the
    head of the queue is a marked event that trips the bound (`syncTrips`: it is the `maxIterations + 1`-st
    marked event dequeued since the counter was last at 0) the loop goes on from `syncPurge s`, in which
    every EXTERNAL entry of the queue is still queued, in order (leftovers of an aborted drain may have been
    queued in front of them: they are marked, and go), nothing marked is left, and nothing else changed;
    nothing is received in that iteration. -/
theorem sync_cut_discards_only_raised (m : Machine) (u : UEnv) (fuel c : Nat) (s : St) (q : QEv) (rest : List QEv)
    (hq : s.queue = q :: rest) (hrun : s.status = "running") (ht : syncTrips m c q = true) :
    drainLoop m u (fuel + 1) c s = drainLoop m u fuel 0 (syncPurge s) ∧
    drainLogQ m u (fuel + 1) c s = drainLogQ m u fuel 0 (syncPurge s) ∧
    (syncPurge s).queue = Term.extOf s.queue ∧
    (∀ x ∈ (syncPurge s).queue, x.self = false) ∧
    syncPurge s = { s with queue := s.queue.filter (fun x => !x.self) } ∧
    q.self = true :=
  ⟨drainLoop_trip m u fuel c s q rest hq hrun ht, Term.drainLogQ_trip m u fuel c s q rest hq hrun ht, rfl,
   Term.syncPurge_all_ext s, rfl, ((Term.syncTrips_eq_true m c q).1 ht).1⟩

/-- **FIFO, exactly once** (sync `send_events(es)` / `send(e)` on an idle running interpreter; NO hypothesis
    on the bound, on the length of `es` or on what the events raise — the sync counterpart of
    `fifo_exactly_once_async`). The events received by this call begin with events of `es`, in order, none
    skipped, none twice; if the call returns with the interpreter "running" and raised nothing they are ALL
    received — exactly `es` first, each once, in order — and nothing is left queued; if the call raised (a
    macrostep failed; C07) the events of `es` not yet received are still queued, in order, at the head.
    (Otherwise the machine completed or was stopped — C10: the status gate drops the rest.) The trace
    shows exactly the macrosteps of the received events, one after the other. -/
theorem fifo_exactly_once (m : Machine) (u : UEnv) (es : List Ev) (l : LSt) (hrun : l.st.status = "running")
    (hq : l.st.queue = []) :
    (drainLog m u (drainFuel m (pushAll es l.st)) 0 (pushAll es l.st)).take es.length =
      es.take (drainLog m u (drainFuel m (pushAll es l.st)) 0 (pushAll es l.st)).length ∧
    ((opSendMany .sync m u es l).st.err = none → (opSendMany .sync m u es l).st.status = "running" →
      (drainLog m u (drainFuel m (pushAll es l.st)) 0 (pushAll es l.st)).take es.length = es ∧
      (opSendMany .sync m u es l).st.queue = []) ∧
    ((opSendMany .sync m u es l).st.err ≠ none →
      (es.drop (drainLog m u (drainFuel m (pushAll es l.st)) 0 (pushAll es l.st)).length).map
        (fun e => (⟨e, false⟩ : QEv)) <+: (opSendMany .sync m u es l).st.queue) ∧
    (opSendMany .sync m u es l).st.chron =
      l.st.chron ++ (drainSegs m u (drainFuel m (pushAll es l.st)) 0 (pushAll es l.st)).flatMap segRecords ∧
    (drainSegs m u (drainFuel m (pushAll es l.st)) 0 (pushAll es l.st)).map (·.1) =
      drainLog m u (drainFuel m (pushAll es l.st)) 0 (pushAll es l.st) := by
  have hqq := pushAll_idle es hq
  have hB : (es.map (fun e => (⟨e, false⟩ : QEv))).length ≤ drainFuel m (pushAll es l.st) := by
    unfold drainFuel
    rw [Term.extCount_eq_cntExt, hqq, (Term.cntSelf_all_false (unmarked_ext es)).2]
    exact Nat.le_trans (Nat.le_succ _) (Nat.le_mul_of_pos_right _ (Nat.succ_pos _))
  obtain ⟨h1, h2, h3⟩ := sync_external_never_dropped m u _ [] (drainFuel m (pushAll es l.st)) 0 (pushAll es l.st)
    (hqq.trans (List.append_nil _).symm) (unmarked_ext es) hB
  rw [unmarked_evs, List.length_map] at h1 h2
  rw [sync_sendMany_is_one_drain m u es l hrun]
  refine ⟨h1, fun he hr => ⟨h2 he hr, Term.drainLoop_queue_nil_of_ok m u _ _ _ he⟩, fun he => ?_, drain_chron m u _ _ _,
    drainSegs_events m u _ _ _⟩
  rw [List.map_drop]
  exact h3 hrun he

/-- **FIFO, exactly once, everything** (async, interpreter with its run loop attached, nothing cuts the
    loop short): the accepted events, then the raised ones, each once, in order -/
theorem fifo_exactly_once_async_clean (m : Machine) (u : UEnv) (es : List Ev) (l : LSt) (hrun : l.st.status = "running")
    (hl : l.loop = true) (hq : l.st.queue = []) (hclean : AsyncClean m u (asyncFuel m) (pushAll es l.st)) :
    asyncLog m u (asyncFuel m) (pushAll es l.st) = es ++ asyncRaised m u (asyncFuel m) (pushAll es l.st) ∧
    (opSendMany .async m u es l).st.queue = [] := by
  obtain ⟨h1, h2⟩ := async_fifo m u _ _ hclean
  rw [pushAll_idle es hq, unmarked_evs] at h1
  rw [async_sendMany_is_enqueue_then_loop m u es l hrun hl]
  exact ⟨h1, h2⟩

/-- **an EXTERNAL event that is dequeued is always processed** — chain breaker tripped or not. The
    iteration that takes the external entry `q` off the queue hands it to `on_event_received` /
    `_process_event`: it appears in the log of received events, the state after the iteration is
    `asyncProcess` of it (run from the purged state if the breaker fired, `asyncBase`), and the trace
    shows `#recv:q` followed by the records of q's own macrostep only. -/
theorem async_external_never_dropped (m : Machine) (u : UEnv) (fuel : Nat) (s : St) (q : QEv) (rest : List QEv)
    (hq : s.queue = q :: rest) (hrun : s.status = "running") (hext : q.self = false) :
    asyncLogQ m u (fuel + 1) s = q :: asyncLogQ m u fuel (asyncStep m u q { s with queue := rest }) ∧
    asyncStep m u q { s with queue := rest } = asyncProcess m u q.ev (Term.asyncBase m { s with queue := rest }) ∧
    (asyncStep m u q { s with queue := rest }).chron =
      s.chron ++ ("#recv:" ++ q.ev.type) :: asyncMacroRecords m u q.ev (Term.asyncBase m { s with queue := rest }) ∧
    (∀ r ∈ asyncMacroRecords m u q.ev (Term.asyncBase m { s with queue := rest }),
      TransRec q.ev.type r ∨ TransRec "" r) := by
  have hstep := Term.asyncStep_external m u q { s with queue := rest } hext
  refine ⟨?_, hstep, ?_, (asyncProcess_chron m u q.ev _).2⟩
  · rw [asyncLogQ_cons m u fuel s q rest hq hrun, if_pos (asyncReceives_external m q s hext)]; rfl
  · rw [hstep, (asyncProcess_chron m u q.ev _).1, asyncBase_chron]; rfl

/-- **external events: exactly once, in order — for every fuel, counter, machine and user code.** The
    external events the run loop received, followed by the external events still queued when it returns,
    are exactly the external events that were queued when it started. Nothing on the way — the chain
    breaker, failing macrosteps, the machine completing — loses, duplicates or reorders one. -/
theorem external_exactly_once_async (m : Machine) (u : UEnv) (fuel : Nat) (s : St) :
    Term.extOf (asyncLogQ m u fuel s) ++ Term.extOf (asyncDrain m u fuel s).queue = Term.extOf s.queue :=
  async_external_split m u fuel s

/-- **FIFO, exactly once** (async, interpreter with its run loop attached; NO hypothesis on the bound or
    on what the events raise). Of a burst `es` accepted by an idle running interpreter: the external
    events received by the loop are a prefix of `es`, the rest is still queued, in order; and if the call
    leaves the interpreter "running" they are ALL received — exactly `es`, each once, in order — and
    nothing is left queued. (Not "running" afterwards means: the machine completed — C10 —, or the
    MODEL's fuel ran out, status "HANG" — C13 `asyncDrain_no_hang` bounds that.) -/
theorem fifo_exactly_once_async (m : Machine) (u : UEnv) (es : List Ev) (l : LSt) (hrun : l.st.status = "running")
    (hl : l.loop = true) (hq : l.st.queue = []) :
    ((Term.extOf (asyncLogQ m u (asyncFuel m) (pushAll es l.st))).map (·.ev) ++
        (Term.extOf (opSendMany .async m u es l).st.queue).map (·.ev) = es) ∧
    ((opSendMany .async m u es l).st.status = "running" →
      (Term.extOf (asyncLogQ m u (asyncFuel m) (pushAll es l.st))).map (·.ev) = es ∧
      (opSendMany .async m u es l).st.queue = []) := by
  have hsplit := async_external_split m u (asyncFuel m) (pushAll es l.st)
  have hqq : (Term.extOf (pushAll es l.st).queue).map (·.ev) = es := by
    simp [pushAll, hq, Term.extOf, List.filter_map, List.map_map, Function.comp_def]
  rw [async_sendMany_is_enqueue_then_loop m u es l hrun hl]
  have h1 : (Term.extOf (asyncLogQ m u (asyncFuel m) (pushAll es l.st))).map (·.ev) ++
      (Term.extOf (asyncDrain m u (asyncFuel m) (pushAll es l.st)).queue).map (·.ev) = es := by
    rw [← List.map_append, hsplit, hqq]
  refine ⟨h1, fun hr => ?_⟩
  have hnil := Term.asyncDrain_running_queue_nil m u _ _ hr
  rw [hnil] at h1
  exact ⟨by simpa [Term.extOf] using h1, hnil⟩

/-! ## 4b. async `start()`: entry and settling first, the run loop only afterwards (repairs F42) -/

/-- **`start()` performs the initial entry and the eventless settling with no event dequeued in between;
    the run loop exists only afterwards.** For an uninitialized async interpreter: the state after
    `start()` is `asyncStartSettle` (entry, then settling — a failure stops the interpreter) and, only if
    that left it "running", the run loop applied to it; the loop task is attached exactly in that case;
    and through entry and settling the queue is only appended to — what was queued before (events sent
    before `start()`) is still there, in order, in front of whatever entry actions raised. -/
theorem async_start_settles_before_loop (m : Machine) (u : UEnv) (l : LSt) (h0 : l.st.status = "uninitialized")
    (hl : l.loop = false) :
    (opStart .async m u l).st =
      (if (asyncStartSettle m u l.st).status = "running" then
         asyncDrain m u (asyncFuel m) (asyncStartSettle m u l.st)
       else asyncStartSettle m u l.st) ∧
    ((opStart .async m u l).loop = true ↔ (asyncStartSettle m u l.st).status = "running") ∧
    (∃ added, (asyncStartSettle m u l.st).queue = l.st.queue ++ added ∧ ∀ q ∈ added, q.self = false) := by
  rw [opStart_async_uninit m u l h0]
  refine ⟨rfl, by simp [asyncLoopCreated], ?_⟩
  obtain ⟨⟨added, ha, hf, _⟩, _⟩ := Term.asyncStartSettled_grow m u l.st
  refine ⟨added, ?_, hf⟩
  unfold asyncStartSettle
  split
  · -- a failed entry is not settled: the settling loop returns at once
    rename_i h1
    have : asyncStartSettled m u l.st = asyncStartEntered m u l.st := by
      unfold asyncStartSettled
      cases m.maxIterations <;> simp [transientLoop, h1]
    rw [this] at ha
    exact ha
  · split <;> exact ha

/-! ## 5. what the bounds do to events: neither loses an event sent from outside (F10, F30: both repaired) -/

/-- **what the async chain breaker does** (after the repair of F30): when it trips (`_raise_depth > maxIterations`) the
    self-raised events still queued are purged and the counter reset; the event just dequeued is dropped
    unprocessed ONLY IF it is itself self-raised — an external one is processed, from the purged state. -/
theorem async_breaker_drops_only_self_raised (m : Machine) (u : UEnv) (fuel : Nat) (s : St) (q : QEv) (rest : List QEv)
    (hq : s.queue = q :: rest) (hrun : s.status = "running") (hd : s.raiseDepth > m.maxIterations) :
    (q.self = true →
      asyncLogQ m u (fuel + 1) s =
        asyncLogQ m u fuel { s with raiseDepth := 0, queue := rest.filter (fun x => !x.self) } ∧
      asyncDrain m u (fuel + 1) s =
        asyncDrain m u fuel { s with raiseDepth := 0, queue := rest.filter (fun x => !x.self) }) ∧
    (q.self = false →
      asyncLogQ m u (fuel + 1) s = q ::
        asyncLogQ m u fuel (asyncProcess m u q.ev { s with raiseDepth := 0, queue := rest.filter (fun x => !x.self) }) ∧
      asyncDrain m u (fuel + 1) s =
        asyncDrain m u fuel (asyncProcess m u q.ev { s with raiseDepth := 0, queue := rest.filter (fun x => !x.self) })) := by
  have hd' : m.maxIterations < ({ s with queue := rest } : St).raiseDepth := hd
  rw [asyncLogQ_cons m u fuel s q rest hq hrun, asyncDrain_step m u fuel hrun hq]
  constructor
  · intro hself
    have hr : ¬ asyncReceives m q s = true := by
      rw [asyncReceives_eq_true]; exact fun h => h ⟨hd, hself⟩
    rw [if_neg hr, Term.asyncStep_above_bound_self m u q _ hd' hself]
    exact ⟨rfl, rfl⟩
  · intro hext
    rw [if_pos (asyncReceives_external m q s hext), Term.asyncStep_above_bound_ext m u q _ hd' hext]
    exact ⟨rfl, rfl⟩

open Ex

/-- the F10 witness (replay `findings/F10_sync_burst_over_bound.json`), outcome after the repair: three `B`s,
    bound 2 — all three are received (before the repair: two, the third was gone); the interpreter is
    running with an empty queue and no error. External events do not count towards the bound; the MODEL's fuel
    for this drain is (3 + 1) * (2 + 2). -/
example : (tr0 (opSendMany .sync burstM exB [.user "B", .user "B", .user "B"] (started .sync burstM)),
     (opSendMany .sync burstM exB [.user "B", .user "B", .user "B"] (started .sync burstM)).st.queue.length,
     (opSendMany .sync burstM exB [.user "B", .user "B", .user "B"] (started .sync burstM)).st.status,
     (opSendMany .sync burstM exB [.user "B", .user "B", .user "B"] (started .sync burstM)).st.err.isSome) =
      (["#recv:B", "tB@B", "#t:m,m.a", "#recv:B", "tB@B", "#t:m,m.a", "#recv:B", "tB@B", "#t:m,m.a"],
       0, "running", false) := burst_run_facts.1.1
example : drainFuel burstM (pushAll [.user "B", .user "B", .user "B"] (started .sync burstM).st) = 16 := burst_run_facts.1.2.1
/-- … `fifo_exactly_once` at work on it: all three accepted events received, in order, nothing cut -/
example : (drainLog burstM exB (drainFuel burstM (pushAll [.user "B", .user "B", .user "B"] (started .sync burstM).st)) 0
      (pushAll [.user "B", .user "B", .user "B"] (started .sync burstM).st),
    Term.drainCut burstM exB (drainFuel burstM (pushAll [.user "B", .user "B", .user "B"] (started .sync burstM).st)) 0
      (pushAll [.user "B", .user "B", .user "B"] (started .sync burstM).st)) =
    ([.user "B", .user "B", .user "B"], false) := burst_run_facts.1.2.2.1
/-- … and a burst that IS cut: `A A A`, bound 2 — each `A` raises one `R`, three MARKED events enqueued while
    draining, more than the bound: after `A A A R R` the third `R` is the third marked event dequeued, 3 > 2:
    the cut. All three accepted events were received, in order; what is discarded is the third `R`, enqueued
    during the drain (`external_exactly_once_sync`, `sync_cut_discards_only_raised`) -/
example : (drainLog burstM exB (drainFuel burstM (pushAll [.user "A", .user "A", .user "A"] (started .sync burstM).st)) 0
      (pushAll [.user "A", .user "A", .user "A"] (started .sync burstM).st),
    Term.drainCut burstM exB (drainFuel burstM (pushAll [.user "A", .user "A", .user "A"] (started .sync burstM).st)) 0
      (pushAll [.user "A", .user "A", .user "A"] (started .sync burstM).st),
    (drainRaised burstM exB (drainFuel burstM (pushAll [.user "A", .user "A", .user "A"] (started .sync burstM).st)) 0
      (pushAll [.user "A", .user "A", .user "A"] (started .sync burstM).st)).length) =
    ([.user "A", .user "A", .user "A", .user "R", .user "R"], true, 3) := burst_run_facts.2.1.1

/-- the F30 witness (replay `findings/F30_async_chain_breaker_drops_external.json`), outcome after the repair:
    `A A A B`, bound 2 — each `A` raises one harmless `R`; the depth counter is not reset while an `R` is
    queued, so it stands at 3 when the EXTERNAL `B` is dequeued: the breaker fires, the three `R`s are
    purged — and `B` is received and processed (`tB` runs); before the repair `B` vanished with them -/
example : (tr0 (opSendMany .async burstM exB [.user "A", .user "A", .user "A", .user "B"] (started .async burstM)),
     (opSendMany .async burstM exB [.user "A", .user "A", .user "A", .user "B"] (started .async burstM)).st.queue.length,
     (opSendMany .async burstM exB [.user "A", .user "A", .user "A", .user "B"] (started .async burstM)).st.status) =
      (["#recv:A", "tA@A", "#t:m,m.a", "#recv:A", "tA@A", "#t:m,m.a", "#recv:A", "tA@A", "#t:m,m.a",
        "#recv:B", "tB@B", "#t:m,m.a"], 0, "running") := burst_run_facts.2.2.1
/-- … `fifo_exactly_once_async` at work on it: all four external events received, in order -/
example : (Term.extOf (asyncLogQ burstM exB (asyncFuel burstM)
      (pushAll [.user "A", .user "A", .user "A", .user "B"] (started .async burstM).st))).map (·.ev) =
    [.user "A", .user "A", .user "A", .user "B"] := burst_run_facts.2.2.2.1
/-- `start()` attached the run loop (the interpreter was still running once entry and settling were over) -/
example : (started .async burstM).loop = true := burst_run_facts.2.2.2.2.1

/-- … with room the same kind of burst is received completely, in order, and the raised events after it
    (`fifo_exactly_once_clean` / `fifo_exactly_once_async_clean` at work), the same in both engines … -/
example : tr0 (opSendMany .sync roomyM exB [.user "A", .user "A", .user "B"] (started .sync roomyM)) =
    ["#recv:A", "tA@A", "#t:m,m.a", "#recv:A", "tA@A", "#t:m,m.a", "#recv:B", "tB@B", "#t:m,m.a",
     "#recv:R", "tR@R", "#t:m,m.a", "#recv:R", "tR@R", "#t:m,m.a"] := roomy_run_facts.1.1
example : tr0 (opSendMany .async roomyM exB [.user "A", .user "A", .user "B"] (started .async roomyM)) =
    ["#recv:A", "tA@A", "#t:m,m.a", "#recv:A", "tA@A", "#t:m,m.a", "#recv:B", "tB@B", "#t:m,m.a",
     "#recv:R", "tR@R", "#t:m,m.a", "#recv:R", "tR@R", "#t:m,m.a"] := roomy_run_facts.2.1.1

/-- the hypotheses of `fifo_exactly_once_clean` / `fifo_exactly_once_async_clean` hold of these runs (the theorems
    are not vacuous) — also of the F10 run —, and they fail of the cut run / the breaker run above —
    that is exactly what `DrainClean` / `AsyncClean` say (a raised `R` is discarded / the raised `R`s are
    purged, so "everything raised is received" fails; the EXTERNAL events are all received nonetheless) -/
example : DrainClean roomyM exB (drainFuel roomyM (pushAll [.user "A", .user "A", .user "B"] (started .sync roomyM).st)) 0
    (pushAll [.user "A", .user "A", .user "B"] (started .sync roomyM).st) := roomy_run_facts.1.2.1
example : DrainClean burstM exB (drainFuel burstM (pushAll [.user "B", .user "B", .user "B"] (started .sync burstM).st)) 0
    (pushAll [.user "B", .user "B", .user "B"] (started .sync burstM).st) := burst_run_facts.1.2.2.2
example : AsyncClean roomyM exB (asyncFuel roomyM)
    (pushAll [.user "A", .user "A", .user "B"] (started .async roomyM).st) := roomy_run_facts.2.1.2
example : ¬ DrainClean burstM exB (drainFuel burstM (pushAll [.user "A", .user "A", .user "A"] (started .sync burstM).st)) 0
    (pushAll [.user "A", .user "A", .user "A"] (started .sync burstM).st) := burst_run_facts.2.1.2
example : ¬ AsyncClean burstM exB (asyncFuel burstM)
    (pushAll [.user "A", .user "A", .user "A", .user "B"] (started .async burstM).st) := burst_run_facts.2.2.2.2.2
example : drainLog roomyM exB (drainFuel roomyM (pushAll [.user "A", .user "A", .user "B"] (started .sync roomyM).st)) 0
      (pushAll [.user "A", .user "A", .user "B"] (started .sync roomyM).st) =
    [.user "A", .user "A", .user "B", .user "R", .user "R"] := roomy_run_facts.1.2.2

/-- … and `send_events([A, B])` is NOT `send(A); send(B)`: the burst is queued as a whole, so the `R` that
    `A` raises waits behind `B`; sent one by one, `R` is handled before `B` is even accepted. (Unchanged by
    the repairs of F10: an ordering fact about ONE drain versus two; `roomyM` reaches no bound.) -/
theorem sendMany_differs_from_sends :
    tr0 (opSendMany .sync roomyM exB [.user "A", .user "B"] (started .sync roomyM)) =
      ["#recv:A", "tA@A", "#t:m,m.a", "#recv:B", "tB@B", "#t:m,m.a", "#recv:R", "tR@R", "#t:m,m.a"] ∧
    tr0 (opSend .sync roomyM exB (.user "B") (opSend .sync roomyM exB (.user "A") (started .sync roomyM))) =
      ["#recv:A", "tA@A", "#t:m,m.a", "#recv:R", "tR@R", "#t:m,m.a", "#recv:B", "tB@B", "#t:m,m.a"] := roomy_run_facts.2.2

/-- `failed_macrostep_keeps_the_rest_queued` at work (its hypotheses are satisfiable): `send_events([A, X])` — the
    macrostep of `A` completes and raises `R`, the macrostep of `X` fails (`ImplementationMissingError` escapes the
    call): the interpreter is still running, `R` is STILL QUEUED (marked), and the next `send(A)` (the error of the
    previous call is the caller's, the driver clears it) handles `R` first, then `A`, then the `R` that `A` raised -/
theorem failed_macrostep_example :
    let l1 := opSendMany .sync failM exF [.user "A", .user "X"] (opStart .sync failM exF (LSt.new failM))
    l1.st.err.isSome = true ∧ l1.st.status = "running" ∧ l1.st.queue.map (fun q => (q.ev.type, q.self)) = [("R", true)] ∧
    tr0 l1 = ["#recv:A", "tA@A", "#t:m,m.a", "#recv:X"] ∧
    tr0 (opSend .sync failM exF (.user "A") { l1 with st := { l1.st with err := none } }) =
      ["#recv:A", "tA@A", "#t:m,m.a", "#recv:X", "#recv:R", "tR@R", "#t:m,m.a", "#recv:A", "tA@A", "#t:m,m.a",
       "#recv:R", "tR@R", "#t:m,m.a"] := by decide +kernel

/-! ## 6. the re-entrancy flag under two threads (`XSM.SyncFlag`, statement granularity) -/

open XSM.SyncFlag in
/-- **mutual exclusion is FALSE of the protocol as written** (test, then set — two statements, no lock):
    both threads append, both see the flag clear, both set it, both are inside the drain (F18) -/
theorem mutual_exclusion_fails : ¬ ∀ sched : List Bool, Mutex (run stmt sched {}) := by
  intro h
  exact absurd (h [true, false, true, false, true, false]) (by decide)

open XSM.SyncFlag in
/-- **with test-and-set atomic, mutual exclusion holds for ALL schedules** (any length, any interleaving) -/
theorem mutual_exclusion_atomic (sched : List Bool) : Mutex (run stmtAtomic sched {}) :=
  (inv_run sched {} inv_init).2.1

open XSM.SyncFlag in
/-- even the atomic protocol can leave an accepted event unprocessed until the NEXT send: thread A finds
    the queue empty and is about to clear the flag when thread B appends, sees the flag set and returns -/
theorem flag_protocol_can_strand_an_event :
    (run stmtAtomic [true, true, true, true, true, false, false, true] {}) =
      { pcA := .done, pcB := .done, flag := false, queue := 1, processed := 1 } ∧
    (run stmt [true, true, true, true, true, true, false, false, true] {}) =
      { pcA := .done, pcB := .done, flag := false, queue := 1, processed := 1 } := by decide +kernel

end XSM.C04

import Xsm.Proofs.Guard
import Xsm.Proofs.SelSound
/-!
# C06 — a transition is taken only if its guard is true when it is selected

Statements with short proofs; the work is in `Xsm/Proofs/Guard.lean` (and, where the selection is
read as one `passAll` over the candidates consulted, in `Xsm/Proofs/SelSound.lean`). Everything is about the
executable model: `evalGuard` (`_is_guard_satisfied`), `isStateIn` (`_is_state_in`), `parseGuard`
(`GuardDefinition.__init__`), `parseTransition` (`TransitionDefinition.__init__`), and the
candidate producers `filterPassing` / `onCands.walk` of the selection. `m` is an arbitrary
machine, `cfg` an arbitrary configuration, `env : GEnv` an arbitrary valuation of the user guards
(`t`, `f`, `raises`, or `missing` = named but not implemented); guard expressions are arbitrary,
at any nesting depth.

Vocabulary defined in `Xsm/Proofs/Guard.lean`:
* `atomVal`, `denote` — the ordinary Boolean meaning (`denote_and = List.all`, `denote_or = List.any`,
  `denote_not = !`);
* `guardNames g` — user guard names occurring in `g`; `reached m cfg env g` — those that evaluation
  actually looks up (short-circuit: `and` moves on only after `ok true`, `or` only after `ok false`);
* `deraise P env` — `env` with the guards selected by `P` returning `False` instead of raising;
* `Confusable m t q` — the suffix test of the built-in `stateIn` answers "yes" for target id `t`
  because of active state `q`;
* `opJ op rest` — the JSON object `{"type": op, ...rest}`; `parseOperands op cs` — parse the
  operands `cs` left to right, then build the composite `op`.
-/
namespace XSM.C06
open XSM

section Evaluator
variable (m : Machine) (cfg : List Path) (env : GEnv)

/-! ## 1. `and` / `or` / `not`: short-circuit evaluation -/

/-- *and/or/not combine their operands …*: `and` is Python's `all` over a generator. Either every
child evaluates to `ok true` and so does the conjunction, or the result IS the result of the first
child that does not evaluate to `ok true` (`ok false`, or the error of a missing guard); the
children after it (`post`, arbitrary) are not consulted. -/
theorem eval_and (cs : List GuardExpr) :
    ((∀ x ∈ cs, evalGuard m cfg env x = .ok true) ∧ evalGuard m cfg env (.and cs) = .ok true) ∨
    (∃ pre c post, cs = pre ++ c :: post ∧ (∀ x ∈ pre, evalGuard m cfg env x = .ok true) ∧
      evalGuard m cfg env c ≠ .ok true ∧
      evalGuard m cfg env (.and cs) = evalGuard m cfg env c ∧
      ∀ post', evalGuard m cfg env (.and (pre ++ c :: post')) = evalGuard m cfg env c) :=
  (shortCircuit_and m cfg env).first cs

theorem eval_and_true_iff (cs : List GuardExpr) :
    evalGuard m cfg env (.and cs) = .ok true ↔ ∀ x ∈ cs, evalGuard m cfg env x = .ok true :=
  (shortCircuit_and m cfg env).iff cs

/-- `or` is Python's `any` over a generator: either every child evaluates to `ok false` and so
does the disjunction, or the result IS the result of the first child that does not evaluate to
`ok false`; the children after it are not consulted. -/
theorem eval_or (cs : List GuardExpr) :
    ((∀ x ∈ cs, evalGuard m cfg env x = .ok false) ∧ evalGuard m cfg env (.or cs) = .ok false) ∨
    (∃ pre c post, cs = pre ++ c :: post ∧ (∀ x ∈ pre, evalGuard m cfg env x = .ok false) ∧
      evalGuard m cfg env c ≠ .ok false ∧
      evalGuard m cfg env (.or cs) = evalGuard m cfg env c ∧
      ∀ post', evalGuard m cfg env (.or (pre ++ c :: post')) = evalGuard m cfg env c) :=
  (shortCircuit_or m cfg env).first cs

theorem eval_or_false_iff (cs : List GuardExpr) :
    evalGuard m cfg env (.or cs) = .ok false ↔ ∀ x ∈ cs, evalGuard m cfg env x = .ok false :=
  (shortCircuit_or m cfg env).iff cs

theorem eval_not (c : GuardExpr) :
    evalGuard m cfg env (.not c) =
      (match evalGuard m cfg env c with | .ok b => .ok (!b) | .error e => .error e) :=
  evalGuard_not m cfg env c

/-- short-circuit on concrete data: a false operand hides a later unimplemented one (`and`), a true
one does so for `or`; nested two levels deep -/
example (env : GEnv) (ha : env "a" = .f) (_hb : env "b" = .missing) (_hc : env "c" = .t) :
    evalGuard m cfg env (.or [.and [.named "a" none, .named "b" none],
                              .not (.named "a" none), .named "b" none, .named "c" none]) = .ok true := by
  simp [evalAll_cons, evalAny_cons, evalGuard_not, evalGuard_named, outVal, ha]

/-! ## 2. Boolean meaning; a missing implementation is an error iff it is reached -/

/-- *ordinary boolean meaning at any nesting depth*: when no user guard occurring in `g` lacks an
implementation, evaluation returns exactly the Boolean meaning of `g` (a raising guard reads as
false, `stateIn` as in `atomVal`). -/
theorem eval_bool_semantics (g : GuardExpr) (h : ∀ n ∈ guardNames g, env n ≠ .missing) :
    evalGuard m cfg env g = .ok (denote m cfg env g) := by
  have hs := evalGuard_spec m cfg env g
  cases hr : evalGuard m cfg env g with
  | ok b => rw [hs.sound hr]
  | error e =>
    obtain ⟨n⟩ := e
    obtain ⟨hn, hm⟩ := (hs.error_iff n).1 hr
    exact absurd hm (h n (reached_subset_names m cfg env g hn))

/-- whenever evaluation returns a value at all, it is the Boolean meaning: unreached atoms
(implemented or not) cannot influence it -/
theorem eval_sound (g : GuardExpr) (b : Bool) (h : evalGuard m cfg env g = .ok b) :
    b = denote m cfg env g :=
  (evalGuard_spec m cfg env g).sound h

theorem denote_is_boolean (cs : List GuardExpr) (c : GuardExpr) :
    denote m cfg env (.and cs) = cs.all (denote m cfg env) ∧
    denote m cfg env (.or cs) = cs.any (denote m cfg env) ∧
    denote m cfg env (.not c) = !(denote m cfg env c) :=
  ⟨denote_and m cfg env cs, denote_or m cfg env cs, denote_not m cfg env c⟩

/-- *a guard that is named but not implemented is reported … rather than decided either way*:
evaluation reports `missing n` exactly for a name `n` that is reached and has no implementation -/
theorem missing_is_error_iff_reached (g : GuardExpr) (n : String) :
    evalGuard m cfg env g = .error (.missing n) ↔ (n ∈ reached m cfg env g ∧ env n = .missing) :=
  (evalGuard_spec m cfg env g).error_iff n

/-- evaluation is total: either a Boolean — the Boolean meaning, and then every guard looked up was
implemented — or the error naming a guard of `g` that was reached and is not implemented -/
theorem eval_total (g : GuardExpr) :
    (∃ b, evalGuard m cfg env g = .ok b ∧ b = denote m cfg env g ∧
        ∀ n ∈ reached m cfg env g, env n ≠ .missing) ∨
    (∃ n, evalGuard m cfg env g = .error (.missing n) ∧ n ∈ reached m cfg env g ∧
        n ∈ guardNames g ∧ env n = .missing) := by
  have hs := evalGuard_spec m cfg env g
  cases h : evalGuard m cfg env g with
  | ok b =>
    rw [h] at hs
    exact Or.inl ⟨b, rfl, hs.1, hs.2⟩
  | error e =>
    obtain ⟨n⟩ := e
    obtain ⟨hr, hm⟩ := (hs.error_iff n).1 h
    exact Or.inr ⟨n, rfl, hr, reached_subset_names m cfg env g hr, hm⟩

/-- a named guard without implementation, evaluated on its own, is an error — neither true nor
false -/
theorem missing_guard_is_error (n : String) (p : Option J) (h : env n = .missing) :
    evalGuard m cfg env (.named n p) = .error (.missing n) := by
  rw [evalGuard_named, h]; rfl

/-- … and the selection reports it instead of deciding: the candidate producer fails with that
error when it meets such a guard (not yet cached) -/
theorem missing_guard_is_reported (src : Path) (t : Trans) (ts : List Trans) (c : GCache)
    (e : GErr) (hc : c.find? (fun kv => kv.1 = t.tid) = none)
    (h : guardOk m cfg env t.guard = .error e) :
    filterPassing m cfg env src (t :: ts) c = .error e := by
  simp [filterPassing, passes, hc, h, bind, Except.bind]

example (env : GEnv) (ha : env "a" = .t) (hb : env "b" = .missing) :
    evalGuard m cfg env (.and [.named "a" none, .not (.named "b" none)]) = .error (.missing "b") ∧
    reached m cfg env (.and [.named "a" none, .not (.named "b" none)]) = ["a", "b"] := by
  simp [evalAll_cons, evalGuard_not, evalGuard_named, outVal, ha, hb, reached, reachedAll]

/-! ## 3. A guard that raises counts as false -/

/-- *a guard that raises counts as false*: turning the outcome `raises` into `f` for any set `P`
of guard names never changes the evaluation of any guard expression -/
theorem raises_is_false (P : String → Bool) (g : GuardExpr) :
    evalGuard m cfg (deraise P env) g = evalGuard m cfg env g :=
  evalGuard_congr m cfg (outVal_deraise P env) g

/-- *… and the interpreter is undisturbed*: the whole selection for an event is the same whether
guards raise or return `False` -/
theorem raises_is_false_for_selection (P : String → Bool) (ev : Ev) :
    selectTransitions m cfg (deraise P env) ev = selectTransitions m cfg env ev := by
  -- the selection consults the guards only through `passAll`
  have hp : ∀ xs c, passAll m cfg (deraise P env) xs c = passAll m cfg env xs c := by
    intro xs
    induction xs with
    | nil => exact fun _ => rfl
    | cons x xs ih => intro c; simp only [passAll, passes_deraise, ih]
  have hl : ∀ ls c acc, selectLoop m cfg (deraise P env) ev ls c acc = selectLoop m cfg env ev ls c acc := by
    intro ls
    induction ls with
    | nil => exact fun _ _ => rfl
    | cons l ls ih => intro c acc; simp only [selectLoop, collectEligible, collectChain_eq, hp, ih]
  simp only [selectTransitions, hl]

example : deraise (fun _ => true) (fun n => if n = "boom" then .raises else .t) "boom" = .f ∧
    evalGuard m cfg (fun n => if n = "boom" then .raises else .t) (.not (.named "boom" none)) = .ok true := by
  constructor
  · decide
  · simp [evalGuard_not, evalGuard_named, outVal]

/-! ## 4./5. `stateIn` -/

/-- *stateIn is true exactly when the named state is in the active configuration* — for a target
that spells the full id of state `p` (with or without a leading `#`), no user guard named
`stateIn`, and the hypothesis `hsuf`: if `p` is not active then no active state's id equals the id
of `p` or ends with `"." ++ id p` (the code tests a suffix). `stateIn_hypothesis_necessary` shows
`hsuf` cannot be weakened. -/
theorem stateIn_iff_active (params : Option J) (t : String) (p : Path)
    (ht : stateInTarget params = some t)
    (hid : (t = m.idOf p ∧ sStartsWith t "#" = false) ∨ t = "#" ++ m.idOf p)
    (henv : env "stateIn" = .missing)
    (hsuf : p ∉ cfg → ∀ q ∈ cfg, ¬ Confusable m (m.idOf p) q) :
    evalGuard m cfg env (.stateIn params) = .ok (decide (p ∈ cfg)) := by
  rw [evalGuard_stateIn, henv]
  exact congrArg Except.ok ((stateIn_builtin_iff m cfg params t p ht hid).2 hsuf)

/-- the hypothesis of `stateIn_iff_active` is necessary: it follows from the conclusion -/
theorem stateIn_hypothesis_necessary (params : Option J) (t : String) (p : Path)
    (ht : stateInTarget params = some t)
    (hid : (t = m.idOf p ∧ sStartsWith t "#" = false) ∨ t = "#" ++ m.idOf p)
    (henv : env "stateIn" = .missing)
    (h : evalGuard m cfg env (.stateIn params) = .ok (decide (p ∈ cfg))) :
    p ∉ cfg → ∀ q ∈ cfg, ¬ Confusable m (m.idOf p) q := by
  rw [evalGuard_stateIn, henv] at h
  exact (stateIn_builtin_iff m cfg params t p ht hid).1 (Except.ok.inj h)

/-- a structural condition that implies the hypothesis: the machine id and all state keys involved
are free of `'.'`, the machine id does not start with `'#'`, and no key on an active path equals
the machine id. Then `stateIn` is exactly "the named state is active". -/
theorem stateIn_iff_active_of_dotfree (params : Option J) (t : String) (p : Path)
    (ht : stateInTarget params = some t)
    (hid : t = m.idOf p ∨ t = "#" ++ m.idOf p)
    (henv : env "stateIn" = .missing)
    (hhash : sStartsWith m.id "#" = false)
    (hm : '.' ∉ m.id.toList)
    (hp : ∀ k ∈ p, '.' ∉ k.toList)
    (hcfg : ∀ q ∈ cfg, ∀ k ∈ q, '.' ∉ k.toList ∧ k ≠ m.id) :
    evalGuard m cfg env (.stateIn params) = .ok (decide (p ∈ cfg)) := by
  refine stateIn_iff_active m cfg env params t p ht ?_ henv ?_
  · rcases hid with rfl | rfl
    · exact Or.inl ⟨rfl, idOf_not_hash m p hhash⟩
    · exact Or.inr rfl
  · intro hpn q hq
    exact not_confusable_of_dotfree m p q hm (hcfg q hq) hp (fun e => hpn (e ▸ hq))

/-- *a user implementation named `stateIn` wins*: the built-in test, the configuration and the
params are then irrelevant -/
theorem user_stateIn_wins (params : Option J) (h : env "stateIn" ≠ .missing) :
    evalGuard m cfg env (.stateIn params) = .ok (env "stateIn" == .t) := by
  rw [evalGuard_stateIn]
  cases hv : env "stateIn" <;> first | exact absurd hv h | rfl

end Evaluator

def leafDef : StateDef :=
  { kind := .atomic, initial := none, entry := [], exit := [], on := [], onDone := none, after := [],
    invoke := [], deep := false, historyTarget := none, customId := none, tags := [] }

/-- machine `m` with states `m.a` and `m.m` ⊃ `m.m.a` (a state keyed like the machine) -/
def cexMachine : Machine :=
  { id := "m", maxIterations := 10, customIds := [],
    root := .mk { leafDef with kind := .compound, initial := some "m" }
      [("a", .mk leafDef []),
       ("m", .mk { leafDef with kind := .compound, initial := some "a" } [("a", .mk leafDef [])])] }

/-- its initial configuration: `m`, `m.m`, `m.m.a` -/
def cexCfg : List Path := [[], ["m"], ["m", "a"]]

/-- known corner case of the suffix test: in `cexMachine` the state `m.a` is NOT active, yet
`stateIn "#m.a"` answers true, because the id `m.m.a` of an active state ends with `".m.a"` -/
theorem stateIn_suffix_false_positive :
    cexMachine.idOf ["a"] = "m.a" ∧ (["a"] : Path) ∉ cexCfg ∧
    evalGuard cexMachine cexCfg (fun _ => .missing)
      (.stateIn (some (.obj [("state", .str "#m.a")]))) = .ok true := by
  refine ⟨by decide +kernel, by decide +kernel, ?_⟩
  rw [evalGuard_stateIn]
  exact congrArg Except.ok (by decide +kernel)

/-- the hypotheses of `stateIn_iff_active_of_dotfree` are satisfiable (a state keyed `b` instead) -/
example : evalGuard { cexMachine with id := "m" } [[], ["b"], ["b", "a"]] (fun _ => .missing)
    (.stateIn (some (.obj [("state", .str "#m.a")]))) = .ok (decide ((["a"] : Path) ∈ [[], ["b"], ["b", "a"]])) :=
  stateIn_iff_active_of_dotfree _ _ _ _ "#m.a" ["a"] (by decide +kernel) (Or.inr (by decide +kernel)) rfl (by decide +kernel)
    (by decide +kernel) (by decide +kernel) (by decide +kernel)

example : evalGuard cexMachine cexCfg (fun n => if n = "stateIn" then .f else .missing)
    (.stateIn (some (.str "#m.m"))) = .ok false :=
  user_stateIn_wins _ _ _ _ (by decide)

/-! ## 6. Operand spellings of composite guards -/

/-- *under either operand spelling*: for a composite type and a non-empty operand list the three
spellings `children`, `params.guards`, `params.children` parse to the same thing (namely the
operands parsed left to right and combined by `op`) -/
theorem operand_spellings_equal (op : String) (hop : IsCompositeOp op) (cs : List J) (hcs : cs ≠ []) :
    parseGuard (opJ op [("children", .arr cs)]) = parseOperands op cs ∧
    parseGuard (opJ op [("params", .obj [("guards", .arr cs)])]) = parseOperands op cs ∧
    parseGuard (opJ op [("params", .obj [("children", .arr cs)])]) = parseOperands op cs := by
  refine ⟨?_, ?_, ?_⟩
  · rw [parseGuard_opJ op hop, guardChildrenJ_children op cs hcs]
  · rw [parseGuard_opJ op hop, guardChildrenJ_params op "guards" (.inl rfl) cs hcs]
  · rw [parseGuard_opJ op hop, guardChildrenJ_params op "children" (.inr rfl) cs hcs]

/-- `not` (indeed any composite type) also accepts its single operand as `params.guard` -/
theorem operand_spelling_params_guard (op : String) (hop : IsCompositeOp op) (c : J) (hc : c ≠ .null) :
    parseGuard (opJ op [("params", .obj [("guard", c)])]) = parseOperands op [c] ∧
    parseGuard (opJ op [("children", .arr [c])]) = parseOperands op [c] := by
  refine ⟨?_, ?_⟩
  · rw [parseGuard_opJ op hop, guardChildrenJ_params_guard op c hc]
  · rw [parseGuard_opJ op hop, guardChildrenJ_children op [c] (by simp)]

/-- what the spellings parse to, once the operands parse: the composite of the parsed operands -/
theorem parse_composite (cs : List J) (gs : List GuardExpr) (hcs : cs ≠ [])
    (h : cs.mapM parseGuard = .ok gs) (c : J) (g : GuardExpr) (hc : parseGuard c = .ok g) :
    parseOperands "and" cs = .ok (.and gs) ∧ parseOperands "or" cs = .ok (.or gs) ∧
    parseOperands "not" [c] = .ok (.not g) :=
  ⟨(parseOperands_and_or cs gs hcs h).1, (parseOperands_and_or cs gs hcs h).2, parseOperands_not c g hc⟩

/-- *a bare string is never composite*: it is a user guard of that name — also for the names
`and`, `or`, `not` -/
theorem bare_string_never_composite (s : String) (hs : s ≠ Tables.stateInGuardType) :
    parseGuard (.str s) = .ok (.named s none) := by
  rw [parseGuard.eq_1]; simp [hs]

/-- the bare string `"stateIn"` is the built-in state test without params (`is_state_in` is set for
every guard whose type is `stateIn`, bare or not) — still an atom, never a composite -/
theorem bare_stateIn_is_atom : parseGuard (.str Tables.stateInGuardType) = .ok (.stateIn none) := by
  rw [parseGuard.eq_1]; simp

example : parseGuard (.str "and") = .ok (.named "and" none) := bare_string_never_composite "and" (by decide)

/-- a nested composite in mixed spellings, parsed end to end:
`{"type":"and","params":{"guards":["a",{"type":"not","params":{"guard":"b"}}]}}` -/
example : parseGuard (opJ "and" [("params", .obj [("guards", .arr [.str "a",
      opJ "not" [("params", .obj [("guard", .str "b")])]])])]) =
    .ok (.and [.named "a" none, .not (.named "b" none)]) := by
  have hnot : parseGuard (opJ "not" [("params", .obj [("guard", .str "b")])]) = .ok (.not (.named "b" none)) := by
    rw [(operand_spelling_params_guard "not" (by simp [IsCompositeOp]) (.str "b") (by simp)).1]
    exact parseOperands_not _ _ (bare_string_never_composite "b" (by decide))
  rw [(operand_spellings_equal "and" (by simp [IsCompositeOp]) _ (by simp)).2.1]
  refine (parseOperands_and_or _ _ (by simp) ?_).1
  simp [List.mapM_cons, hnot, parseGuard.eq_1, bind, Except.bind, pure, Except.pure, Tables.stateInGuardType]

/-- *parameterised guards receive their params*: when a guard object parses to a user guard, the
`params` recorded for it are exactly the `params` of the object (nothing is dropped) -/
theorem params_preserved (kvs : List (String × J)) (n : String) (ps : Option J)
    (h : parseGuard (.obj kvs) = .ok (.named n ps)) :
    ps = (J.obj kvs).get? "params" ∧ guardTypeOf (.obj kvs) = .ok n := by
  rw [parseGuard_obj] at h
  cases hty : guardTypeOf (.obj kvs) with
  | error e => rw [hty] at h; cases h
  | ok ty =>
    rw [hty] at h
    simp only [bind, Except.bind] at h
    split at h
    · cases h
    · obtain ⟨rfl, rfl⟩ := finishGuard_named h
      exact ⟨rfl, rfl⟩

/-! ## 7. `cond` is `guard` -/

/-- *the v4 `cond` key is equivalent to `guard`* (1): without a `guard` key the raw guard is the
value of `cond` -/
theorem cond_read_when_no_guard_key (cfgJ : J) (h : cfgJ.hasKey "guard" = false) :
    rawGuardOf cfgJ = cfgJ.get? "cond" := by
  simp [rawGuardOf, h]

/-- *the v4 `cond` key is equivalent to `guard`* (2): a transition config in which `"cond": g` stands
where `"guard": g` could (no other `guard`/`cond` key) parses to the very same transition, in
every parser state — so a guarded transition is never silently unguarded -/
theorem cond_eq_guard (ev : String) (pre post : List (String × J)) (g : J)
    (h : ∀ kv ∈ pre ++ post, kv.1 ≠ "guard" ∧ kv.1 ≠ "cond") :
    parseTransition ev (.obj (pre ++ ("cond", g) :: post)) =
      parseTransition ev (.obj (pre ++ ("guard", g) :: post)) := parseTransition_cond ev pre post g h

/-- the guard of a `cond` transition is the parsed guard — not `none` -/
example : (parseTransition "E" (.obj [("target", .str "x"), ("cond", .str "g")])).run {} =
    .ok ({ tid := 0, event := "E", target := some "x", guard := some (.named "g" none), actions := [],
           reenter := false, forbidden := false }, { nextTid := 1 }) := by
  refine parseTransition_run "E" _ {} (as := []) (g := some (.named "g" none)) rfl ?_
  show (parseGuard (.str "g") >>= fun ge => pure (some (fixBareStateIn ge))) = _
  rw [bare_string_never_composite "g" (by decide)]
  rfl

/-- corner case the code has (`config.get("guard", config.get("cond"))`): an explicit
`"guard": null` hides `"cond": g`, and the transition is unguarded -/
theorem explicit_null_guard_hides_cond (g : J) :
    rawGuardOf (.obj [("guard", .null), ("cond", g)]) = some .null ∧
    parseGuardOpt (rawGuardOf (.obj [("guard", .null), ("cond", g)])) = .ok none := by
  simp [rawGuardOf, J.hasKey, J.get?, parseGuardOpt, pure, Except.pure]

/-! ## 8. A raising guard leaves the other candidates alone -/

section Selection
variable (m : Machine) (cfg : List Path) (env : GEnv) (src : Path)

/-- *later candidates … stay eligible*: in `filterPassing` (eventless, `onDone`, `after`, invoke
handlers) a candidate `t` whose guard comes out false — in particular because it raises — is
simply dropped: the candidates produced from `ts1 ++ t :: ts2` are those produced from
`ts1 ++ ts2` (equation on the candidate list, i.e. modulo the guard cache). Hypotheses: a cached
verdict for `t`, if any, is `false`, and transition ids are distinct from `t`'s. -/
theorem raising_guard_keeps_later_candidates (ts1 ts2 : List Trans) (t : Trans) (c : GCache)
    (hfalse : guardOk m cfg env t.guard = .ok false)
    (hcache : ∀ kv, c.find? (fun kv => kv.1 = t.tid) = some kv → kv.2 = false)
    (hts : ∀ t' ∈ ts1 ++ ts2, t'.tid ≠ t.tid) :
    (filterPassing m cfg env src (ts1 ++ t :: ts2) c).map Prod.fst =
      (filterPassing m cfg env src (ts1 ++ ts2) c).map Prod.fst :=
  (filterPassing_drop m cfg env src ts1 ts2 t hfalse hts (.refl _ c) hcache).map_eq (fun _ _ _ => rfl)

/-- the same for the walk over an `on` list: candidates and the "blocked by a forbidden
transition" flag are unchanged -/
theorem raising_guard_keeps_later_on_candidates (ts1 ts2 : List Trans) (t : Trans) (c : GCache)
    (hforb : t.forbidden = false)
    (hfalse : guardOk m cfg env t.guard = .ok false)
    (hcache : ∀ kv, c.find? (fun kv => kv.1 = t.tid) = some kv → kv.2 = false)
    (hts : ∀ t' ∈ ts1 ++ ts2, t'.tid ≠ t.tid) :
    (onCands.walk m cfg env src (ts1 ++ t :: ts2) c).map (fun r => (r.1, r.2.1)) =
      (onCands.walk m cfg env src (ts1 ++ ts2) c).map (fun r => (r.1, r.2.1)) := by
  have hany : (ts1 ++ t :: ts2).any (fun t => t.forbidden) = (ts1 ++ ts2).any (fun t => t.forbidden) := by
    rw [List.any_append, List.any_append, List.any_cons, hforb, Bool.false_or]
  -- the walk is `filterPassing` on the part before the first forbidden transition, plus the flag
  have hw : ∀ ts, (onCands.walk m cfg env src ts c).map (fun r => (r.1, r.2.1)) =
      (filterPassing m cfg env src (ts.takeWhile (fun t => !t.forbidden)) c).map
        (fun r => (r.1, ts.any (fun t => t.forbidden))) := by
    intro ts
    rw [walk_eq, walkSpec_eq, filterPassing_eq_passAll]
    cases passAll m cfg env (enabledAt (fun _ => true) src (ts.takeWhile (fun t => !t.forbidden))) c <;> rfl
  rw [hw, hw, hany, List.takeWhile_append, List.takeWhile_append]
  split
  · -- the walk gets past `ts1`, to `t`
    rw [List.takeWhile_cons, hforb]
    refine (filterPassing_drop m cfg env src ts1 _ t hfalse ?_ (.refl _ c) hcache).map_eq
      (fun _ _ _ => rfl)
    intro t' ht'
    refine hts t' ?_
    rw [List.mem_append] at ht' ⊢
    exact ht'.imp_right (fun h => (List.takeWhile_sublist _).subset h)
  · rfl

/-- a guard that raises does come out `ok false` (so the two theorems above apply) -/
theorem raising_guard_is_false (n : String) (p : Option J) (h : env n = .raises) :
    guardOk m cfg env (some (.named n p)) = .ok false := by
  rw [guardOk, evalGuard_named, h]; rfl

/-- concrete instance: `[boom (raises), fallback (unguarded)]` yields exactly the fallback -/
example (env : GEnv) (h : env "boom" = .raises) :
    let boom : Trans := { tid := 0, event := "E", target := some "x", guard := some (.named "boom" none),
                          actions := [], reenter := false, forbidden := false }
    let fb : Trans := { boom with tid := 1, guard := none }
    (filterPassing m cfg env src [boom, fb] []).map Prod.fst = .ok [{ src, t := fb }] := by
  intro boom fb
  have := raising_guard_keeps_later_candidates m cfg env src [] [fb] boom []
    (raising_guard_is_false m cfg env "boom" none h) (by simp) (by simp [fb, boom])
  rw [List.nil_append] at this
  rw [this]
  simp [filterPassing, passes, guardOk, fb, bind, Except.bind, pure, Except.pure, Except.map]

end Selection

end XSM.C06

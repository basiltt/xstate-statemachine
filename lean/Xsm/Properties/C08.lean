import Xsm.Proofs.Runtime
import Xsm.Proofs.RuntimeEx
/-!
# C08 — delayed (`after`) transitions fire when due and never after the state was left

"A delayed transition is taken only if its state has been continuously active for at least the whole
delay since its most recent entry (and its guard passes when it elapses), at most once per activation,
and — when nothing else is occupying the interpreter — no later than the delay; re-entering the state
restarts the delay, several delays on one state are independent, and named or computed delays are
resolved at entry. Leaving the state or stopping the interpreter before the delay elapses guarantees
that transition never fires, whatever the interleaving of timer expiry, already-queued events and slow
actions."

## What the statements are about

The executable runtime model `Xsm/Model/Runtime.lean` (namespace `XSM`): an `RT` wraps the engine
state `St` with virtual time, the armed timers, the live service tasks and an agenda of external
inputs. `runRT fl m u r agenda horizon fuel` is a whole run of engine `fl` (sync / async) of machine
`m` with user code `u`, timing data `r` (named delays, services, durations of slow actions) and
external inputs `agenda`. It re-runs the ENGINE model's own `exitOne` / `enterOne` / `execActions`
(`rt_projects_to_engine` below) and adds what the code does in `_cancel_state_tasks` /
`_schedule_state_tasks` / `_after_timer_task` / `_invoke_service_task` / `stop`, in the code's order.
Time passes only where the interpreter's task is suspended (slow action, the `await` in
`cancel_by_owner`, idle); what happens meanwhile is the interleaving handler `window`.

All theorems are for ALL machines, ALL user code (`UEnv`), ALL timing data (`REnv`), ALL agendas, both
engines, with no bound on anything. Ghost fields: `acts` (activation counter per state), `fired`
(delivered timers), `clean` (no rollback and no entry of an already active state happened).

## Proved

* `timers_current` — THE invariant, after every run: every armed timer (and every live service task)
  belongs to the CURRENT activation of an ACTIVE owner; `invariant_preserved` is the same statement for
  each single step (`Keeps`), with the handler abstract.
* `delivered_was_armed`, `after_sound` — an expiry is delivered only for an armed timer; once the clock is at
  its deadline (where the loops set it before delivering) the time is ≥ arming time + delay, the delay being
  the one resolved at arming, and by the invariant the owner is active in the activation that armed the timer
  (`after_sound_quiescent`: if the interpreter is idle the expiry is the next event it processes, in that
  very configuration).
* `after_once_per_activation` — a delivered timer is never armed again and never delivered twice, and
  per (state, ACTIVATION, DELAY KEY) at most one expiry is ever delivered (and no second timer is armed
  for a key whose expiry was delivered): the transition set of a delay key gets at most one expiry per
  activation of its state. One `_schedule_state_tasks` call arms exactly one timer per DELAY KEY whose
  delay resolves, however many guarded alternatives the key lists (`one_timer_per_delay_key`), and it
  is called exactly once per entry (`one_schedule_per_entry`).
* `never_after_exit`, `never_after_exit_step`, `never_after_stop` — after the cancel of `p`, and after its whole
  (async) exit step, NO timer (and no service task) of `p` is left — all of them (`independent_timers`: and nobody
  else's is touched; delivering one timer leaves every other one armed); the sync engine cancels the whole exit
  set before the first exit action runs (`sync_exit_set_cancelled_up_front`); after `stop()` nothing at all is left.
* `reentry_restarts` — an entry starts a new activation (`+1`) and arms its timers AT the time of
  entry for that activation; timers of the previous activation are gone by `never_after_exit`.
* `delay_resolved_at_entry` — the delay a timer carries is `resolveDelay` of its key at arming
  time: numeric keys are themselves, named ones are looked up, unresolvable ones arm nothing.
* `rt_projects_to_engine` — when nothing is delivered during suspensions (`Quiet`) and the machine
  invokes nothing, the runtime layer's transition / event / drain functions act on the `St` component
  exactly like the engine model's, so every theorem about the engine model transfers.

## Disproved (the property is FALSE of model and code) — finding F6

The invariant is about ARMED timers. An expiry that has already been DELIVERED sits in the event
queue as an `AfterEvent` carrying only a type string; the queue is not purged on exit, and the
candidate collection matches it by type. Hence:
* `stale_queued_event_fires` (F6, `decide`d on `RTEx.mAfter`): with the expiry queued behind an event
  that re-enters the owner, the transition fires at t = 110 ms, 0 ms after the re-entry, although the
  delay is 100 ms; the delivered timer belonged to activation 1, the state is in activation 2.
  `RTEx.runAfterIdle` shows the same inputs restart the delay when the interpreter is not busy.
It is reproduced on the real code by the check (`findings/F6_*.json`). `after_once_per_activation` above is
therefore a statement about expiries DELIVERED (timers), not about events processed: a stale queued
expiry of an earlier activation can still be matched by a later one.

## A stop that lands INSIDE a macrostep — findings F73 / F73b / F73s (C14: F72), repaired in the library

`never_after_stop` is a statement about `stopRT` itself. `stop()` can arrive while the interpreter's own task is suspended inside a
macrostep (`window`). Before the repair (`dc3a7bd`: the action loop, `_enter_states` and `_schedule_state_tasks` now return at once
on a stopped interpreter) the rest of that macrostep ran on the stopped interpreter and armed the timers of the states it entered —
behind the stop, with nothing left to cancel them. `enterStepRT` / `scheduleRT` still do not look at the status, so the model shows it:
* `stop_inside_macrostep_arms_tasks` (`decide`d on `RTEx.mStop` / `RTEx.mStopSync`): after the run the status is `stopped` AND a
  timer is armed (async: no slow action needed, the stop shares its instant with an input and lands in the `await` of
  `cancel_by_owner`; sync: another thread stops the interpreter while a blocking exit action runs); the timer expires later and its
  `send` is refused. The same stop between macrosteps leaves nothing.
This is a theorem about the model, no longer about the code: the unrepaired engines produced the same record lists
(`findings/F73_*.json`, `F73b_*.json`, `F73s_*.json`, found by the monitor rule `task-alive-after-stop`), the repaired ones enter and
arm nothing behind the stop. Runs with a stop inside a macrostep are therefore compared up to the `stop` record only (`c08.compare`)
and the monitors judge the rest on the real code. The model does not describe either that the async engine's stop() CANCELS the run
loop once `cancel_all()` has been awaited, which cuts the macrostep short at its next suspension point — the model always lets it
finish.

## Repaired in the library — finding F55
One delay key with several guarded alternatives used to arm one timer PER ALTERNATIVE, all with the same
event type; each expiry selected the first alternative whose guard passes, so the winning (targetless)
alternative ran once per listed alternative in ONE activation. The library now arms one timer per delay
key (`for t_def in transitions[:1]`); the model follows (`afterArms`): on the witness of the finding
(`RTEx.mAlts`) the winner runs once (`alternatives_fire_once_fixed`), and the per-(activation, delay key)
clause of `after_once_per_activation` holds because of the repair.

## Only validated, not proved

* that the model is the code: `harness/xsmverif/c08.py` runs the same cases through `driver_rt` and the
  real engines on a virtual clock and compares the complete time-stamped record lists;
* "the guard passes when it elapses" and "no later than the delay when idle": the first is the engine's
  selection (C02/C06), the second is checked by the monitor on the real code (virtual time: exactly at
  the deadline);
* runs with a rollback or an entry of an already active state are outside `clean`; the monitor found
  the code violating the property there (finding F56, `rollback` profile).

## What the model cannot exhibit

Real clocks and OS scheduling; GIL-level interleavings of the sync engine's timer threads (the model
and the shim run one thread at a time); asyncio internals beyond "timer handles fire in (deadline,
creation) order, ready callbacks are FIFO". (An external event arriving while `start()` is still
inside a slow entry action IS in the model and in the generator since the library creates the run loop
only after the initial entry has settled — `loopCreated`: the event waits in the queue; `stop()` during
`start()` IS generated since F72 (`stopin` profiles): it is a stop inside the initial macrostep.)
-/
namespace XSM.C08
open XSM XSM.RTP

/-! ## 1. the invariant -/

/-- *"every armed timer belongs to the CURRENT activation of an ACTIVE owner"*, after every run
    (same for live service tasks: see C09). -/
theorem timers_current (fl : Flavor) (m : Machine) (u : UEnv) (r : REnv) (agenda : List (Nat × ExtOp)) (horizon fuel : Nat)
    (hc : (runRT fl m u r agenda horizon fuel).clean = true) :
    ∀ t ∈ (runRT fl m u r agenda horizon fuel).timers,
      t.owner ∈ (runRT fl m u r agenda horizon fuel).st.cfg ∧
      t.act = actOf (runRT fl m u r agenda horizon fuel).acts t.owner ∧
      t.armed ≤ (runRT fl m u r agenda horizon fuel).now :=
  have g := inv_runRT fl m u r agenda horizon fuel hc
  fun t ht => ⟨(g.cur t ht).1, (g.cur t ht).2, g.armed t ht⟩

/-- the invariant is kept by every single step, for ANY window-like interleaving handler: one
    transition (exit steps with their cancels, actions, entry steps with their schedules, rollback),
    one event, the run loops, an external input, a wake-up, letting time pass. -/
theorem invariant_preserved (c : RCx) (hw : WndOK c) (h : Hooks) (hok : HooksOK h) (rt : RT) (hi : Inv rt) :
    (∀ ev pl, Inv (executeRT c h ev pl rt)) ∧ (∀ ev, Inv (processEventRT c h ev rt)) ∧
    (∀ q, Inv (asyncStepRT c q rt)) ∧ (∀ e, Inv (syncSendRT c e rt)) ∧
    (∀ op, Inv (extIdle c op rt)) ∧ (∀ T fuel, Inv (advanceTo c T fuel rt)) ∧ (∀ d, Inv (c.wnd d rt)) :=
  ⟨fun ev pl => (keeps_execute c hw h hok ev pl rt).inv hi, fun ev => (keeps_processEvent c hw h hok ev rt).inv hi,
   fun q => (keeps_asyncStep c hw q rt).inv hi, fun e => (keeps_syncSend c hw e rt).inv hi,
   fun op => (keeps_extIdle c hw op rt).inv hi, fun T fuel => (keeps_advanceTo c hw T fuel rt).inv hi,
   fun d => (hw d rt).inv hi⟩

/-- the real handler `window` (timers expire, services finish, external inputs arrive: all only
    enqueue) is window-like -/
theorem window_ok (fl : Flavor) (m : Machine) (u : UEnv) (r : REnv) : WndOK (mkCx fl m u r) := wndOK_mkCx fl m u r

/-! ## 2. soundness of a delivery -/

/-- *Clause "taken only if its state has been continuously active for at least the whole delay since
    its most recent entry".* Expiries are delivered by `fireWakeQ`/`fireIdle` only for the earliest
    armed timer `t` (`delivered_was_armed`), after the clock has been set to its deadline (`windowLoop`,
    `advanceTo`: read off the model, not part of the statement). What is stated is that moment: by the
    invariant the owner is active, in the activation in which `t` was armed (so it has not been left in
    between: every entry increments the counter, `reentry_new_activation`), and
    `armed + delay ≤ now` with `delay` the value resolved at arming. -/
theorem after_sound (rt : RT) (g : Good rt) (t : Timer) (ht : t ∈ rt.timers) :
    t ∈ (setNow t.due rt).timers ∧ t.owner ∈ (setNow t.due rt).st.cfg ∧
      t.act = actOf (setNow t.due rt).acts t.owner ∧ t.armed + t.delay ≤ (setNow t.due rt).now :=
  ⟨ht, (g.cur t ht).1, (g.cur t ht).2, setNow_now_ge t.due rt⟩

/-- only armed timers are ever delivered: the wake-up chosen by the loops is one of `rt.timers` -/
theorem delivered_was_armed (rt : RT) (uT uS : Nat) (t : Timer) (h : dueWake rt uT uS = some (.tm t)) :
    t ∈ rt.timers ∧ lexLt t.due t.wseq uT uS = true :=
  ⟨minWake_tm rt t (dueWake_some rt uT uS _ h).1, (dueWake_some rt uT uS _ h).2⟩

/-- *Quiescent delivery.* If the async interpreter is idle (empty queue, running), delivering the
    expiry makes it the one queued event, in an unchanged configuration — in which, by the
    invariant, the owner is active in the activation that armed the timer. -/
theorem after_sound_quiescent (rt : RT) (g : Good rt) (t : Timer) (ht : t ∈ rt.timers)
    (hidle : rt.st.queue = []) (hrun : rt.st.status = "running") :
    (fireTimerQ .async t rt).st.queue = [⟨.after t.evType, false⟩] ∧
    (fireTimerQ .async t rt).st.cfg = rt.st.cfg ∧ t.owner ∈ (fireTimerQ .async t rt).st.cfg := by
  have h2 : (fireTimerQ .async t rt).st.cfg = rt.st.cfg := (shrink_fireTimerQ .async rt t ht).cfg
  exact ⟨by simp [fireTimerQ, deliver, rlog, enqueue, enqueueQ, hrun, hidle], h2, h2 ▸ (g.cur t ht).1⟩

/-! ## 3. at most once -/

/-- *Clause "at most once per activation" — at the level of timers.* After every run: the delivered
    timers are pairwise different tasks, and none of them is armed any more (so none can be delivered
    again); moreover, per (state, activation of that state, delay key) — `tkey t = (t.owner, t.act,
    t.slot)`, `slot` being the index of the delay key among the state's arming keys — AT MOST ONE expiry
    has been delivered, at most one timer is armed, and no timer is armed for a key whose expiry was
    already delivered in that activation. -/
theorem after_once_per_activation (fl : Flavor) (m : Machine) (u : UEnv) (r : REnv) (agenda : List (Nat × ExtOp)) (horizon fuel : Nat)
    (hc : (runRT fl m u r agenda horizon fuel).clean = true) :
    ((runRT fl m u r agenda horizon fuel).fired.map (·.seq)).Nodup ∧
    ((runRT fl m u r agenda horizon fuel).timers.map (·.seq)).Nodup ∧
    (∀ t ∈ (runRT fl m u r agenda horizon fuel).timers, ∀ f ∈ (runRT fl m u r agenda horizon fuel).fired, t.seq ≠ f.seq) ∧
    ((runRT fl m u r agenda horizon fuel).fired.map (fun t => (t.owner, t.act, t.slot))).Nodup ∧
    ((runRT fl m u r agenda horizon fuel).timers.map (fun t => (t.owner, t.act, t.slot))).Nodup ∧
    (∀ t ∈ (runRT fl m u r agenda horizon fuel).timers, ∀ f ∈ (runRT fl m u r agenda horizon fuel).fired,
      (t.owner, t.act, t.slot) ≠ (f.owner, f.act, f.slot)) ∧
    (∀ f ∈ (runRT fl m u r agenda horizon fuel).fired, f.act ≤ actOf (runRT fl m u r agenda horizon fuel).acts f.owner) :=
  have g := inv_runRT fl m u r agenda horizon fuel hc
  ⟨g.ndF, g.ndT, g.disj, g.keys.1, g.keys.2.1, g.keys.2.2, g.actF⟩

/-- one `_schedule_state_tasks` call arms exactly ONE timer PER DELAY KEY of the state whose delay resolves
    (and that lists a transition) and none for the other keys, in key order — however many guarded
    alternatives a key lists: the new timers are, key by key, `armOfKey` of the key (the event type of the
    key's first alternative — all alternatives of a key share `after.<delay>.<id>` — with the resolved
    delay), their `slot`s number the arming keys 0, 1, …, so there are at most as many as delay keys, and
    all are for the current activation and armed at the current time -/
theorem one_timer_per_delay_key (c : RCx) (h : Hooks) (p : Path) (d : StateDef) (rt : RT) :
    ∃ new, (scheduleRT c h p d rt).timers = rt.timers ++ new ∧
      new.map (fun t => (t.evType, t.delay)) = d.after.filterMap (armOfKey c.r) ∧
      new.map (·.slot) = List.range' 0 (d.after.filterMap (armOfKey c.r)).length ∧
      new.length ≤ d.after.length ∧
      ∀ t ∈ new, t.owner = p ∧ t.act = actOf rt.acts p ∧ t.armed = rt.now := by
  obtain ⟨h1, h2, h3⟩ := mkTimers_spec c.fl p (actOf rt.acts p) rt.now rt.nextId (afterArms c.r d.after) 0
  have he := afterArms_eq_filterMap c.r d.after
  refine ⟨_, (scheduleRT_same c h p d rt).1, h2.trans he, h3.trans (congrArg (fun l => List.range' 0 l.length) he), ?_,
    fun t ht => ⟨(h1 t ht).1, (h1 t ht).2.1, (h1 t ht).2.2.1⟩⟩
  rw [← List.length_map (f := fun t => (t.evType, t.delay)), h2, he]
  exact List.length_filterMap_le _ _

/-- what a delay key arms: nothing if its delay does not resolve or it lists no transition, else the one
    timer (event type of its first alternative, resolved delay) -/
theorem armOfKey_cases (r : REnv) (kv : String × List Trans) :
    armOfKey r kv = match resolveDelay r kv.1, kv.2 with
      | some d, t :: _ => some (t.event, d)
      | _, _ => none := by
  unfold armOfKey
  rfl

/-- `_schedule_state_tasks` is called exactly once per entered state: the entries of a step list are
    the plan's entries, and every schedule step comes after the entry of its state -/
theorem one_schedule_per_entry (fl : Flavor) (es : List Entry) :
    entersOf (entrySteps fl es) = es ∧ StepsOK [] (entrySteps fl es) ∧
    entrySteps .async es = es.flatMap (fun e => [.enter e, .sched e.path]) :=
  ⟨entersOf_entrySteps fl es, (stepsP_entrySteps fl es).ok _ [] [] (fun _ hq => hq), rfl⟩

/-! ## 4. never after exit or stop; independence -/

/-- *Clause "leaving the state … guarantees that transition never fires" — at timer level.* The
    cancel of `p` removes EVERY timer and service task of `p` … -/
theorem never_after_exit (c : RCx) (hw : WndOK c) (p : Path) (rt : RT) :
    (∀ t ∈ (cancelOwner c p rt).timers, t.owner ≠ p) ∧ (∀ i ∈ (cancelOwner c p rt).invs, i.owner ≠ p) :=
  noTasks_singleton.mp (noTasks_cancelOwner c hw p rt)

/-- … and the async exit step (cancel, possibly slow exit actions, removal) ends with none of them. -/
theorem never_after_exit_step (c : RCx) (hw : WndOK c) (hfl : c.fl = .async) (h : Hooks) (ev : Option String) (rt : RT) (p : Path)
    (d : StateDef) (hd : c.m.defAt p = some d) (he : rt.st.err.isSome = false) :
    (∀ t ∈ (exitStepRT c h ev rt p).timers, t.owner ≠ p) ∧ (∀ i ∈ (exitStepRT c h ev rt p).invs, i.owner ≠ p) := by
  unfold exitStepRT
  simp only [he, hd, hfl, Bool.false_eq_true, if_false]
  exact noTasks_singleton.mp ((noTasks_cancelOwner c hw p rt).shrink (shrink_slowWindow c hw d.exit _))

/-- the sync engine cancels the tasks of the WHOLE exit set before the first exit action runs (`_exit_states`: one loop
    of `_cancel_state_tasks`, then the exit loop): the state in which the exit steps of `ps` start has no timer and no
    service task owned by any state of `ps` - so no deadline of an ancestor can fall into a slow exit action of one of
    its descendants and be queued for the activation that the same transition is about to create -/
theorem sync_exit_set_cancelled_up_front (c : RCx) (hfl : c.fl = .sync) (h : Hooks) (ev : Option String) (ps : List Path) (rt : RT)
    (he : rt.st.err.isSome = false) :
    exitAllRT c h ev ps rt = ps.foldl (exitStepRT c h ev) (ps.foldl (fun rt p => cancelOwner c p rt) rt) ∧
    (∀ t ∈ (ps.foldl (fun rt p => cancelOwner c p rt) rt).timers, t ∈ rt.timers ∧ t.owner ∉ ps) ∧
    (∀ i ∈ (ps.foldl (fun rt p => cancelOwner c p rt) rt).invs, i ∈ rt.invs ∧ i.owner ∉ ps) := by
  have hc : ∀ (p : Path) (r : RT), cancelOwner c p r =
      { r with timers := r.timers.filter (fun t => t.owner ≠ p), invs := r.invs.filter (fun i => i.owner ≠ p) } := by
    intro p r
    unfold cancelOwner
    rw [hfl]
    exact ite_self _
  refine ⟨by unfold exitAllRT; rw [hfl]; dsimp only; rw [if_neg (ne_true_of_eq_false he)], ?_⟩
  clear he
  induction ps generalizing rt with
  | nil => exact ⟨fun t ht => ⟨ht, List.not_mem_nil⟩, fun i hi => ⟨hi, List.not_mem_nil⟩⟩
  | cons p ps ih =>
    rw [List.foldl_cons, hc]
    obtain ⟨iht, ihi⟩ := ih { rt with timers := rt.timers.filter (fun t => t.owner ≠ p), invs := rt.invs.filter (fun i => i.owner ≠ p) }
    constructor
    · intro t ht
      have h1 := List.mem_filter.mp (iht t ht).1
      exact ⟨h1.1, fun hm => (List.mem_cons.mp hm).elim (by simpa using h1.2) (iht t ht).2⟩
    · intro i hi
      have h1 := List.mem_filter.mp (ihi i hi).1
      exact ⟨h1.1, fun hm => (List.mem_cons.mp hm).elim (by simpa using h1.2) (ihi i hi).2⟩

/-- `stop()` leaves no timer and no service task — at the moment it is done. (What the interpreter's own task does afterwards
    in the model, when the stop arrived INSIDE a macrostep, is `stop_inside_macrostep_arms_tasks` below: finding F73.) -/
theorem never_after_stop (rt : RT) (h1 : rt.st.status ≠ "uninitialized") (h2 : rt.st.status ≠ "stopped") :
    (stopRT rt).timers = [] ∧ (stopRT rt).invs = [] ∧ (stopRT rt).st.status = "stopped" :=
  stop_clears rt h1 h2

/-- **F73 / F73s (C14: F72), the behaviour of the library before its repair, which the model keeps — `never_after_stop` is about
    `stopRT` ITSELF; it says nothing about what the interpreter's own task does AFTER it when the stop arrived inside a
    macrostep.** `stop()` is an external input like any other: it can arrive while the interpreter's task is suspended inside a
    macrostep (`window`: the `await` of `cancel_by_owner`, a slow action), and the rest of that macrostep then runs on the stopped
    interpreter — `enterStepRT` / `scheduleRT` do not look at the status (`_enter_states` / `_schedule_state_tasks` do since the
    repair, `dc3a7bd`).
    async (`RTEx.mStop`: `s` has `after 300 → u`, `R` re-enters `s`; no slow action): `R` and `stop` at t = 50. The run loop takes
    `R`, suspends in the cancellation of the timer of `s`, the stop lands there (`stopRT`: status `stopped`, no timer left), then
    `s` is exited, re-entered and its timer ARMED AGAIN at t = 50: after the run the interpreter is stopped and owns a live timer
    (of activation 2), which expires at t = 350 — its `send` is refused. The same `stop` one millisecond later, between
    macrosteps, leaves nothing.
    sync (`RTEx.mStopSync`: the exit of `a` blocks for 50 ms, `b` has `after 300` and invokes a plain service): `GO` at t = 100,
    `stop` from another thread at t = 120; at t = 150 the macrostep goes on: `b` is entered, its timer armed and its service CALLED
    on the stopped interpreter.
    The unrepaired engines produced these record lists (`findings/F73_*.json`, `F73s_*.json`). -/
theorem stop_inside_macrostep_arms_tasks :
    ((RTEx.runStopInside.flush.log.reverse.filter (fun r => r.1 = 50)).map (·.2) =
      ["send:R:running", "#recv:R", "stop", "ex:s@R", "t:s:R@R", "en:s@R", "arm:m.s:after.300.m.s/300", "#t:m,m.s"] ∧
     RTEx.runStopInside.st.status = "stopped" ∧
     RTEx.runStopInside.timers.map (fun t => (t.owner, t.evType, t.armed, t.delay, t.act)) = [(["s"], "after.300.m.s", 50, 300, 2)]) ∧
    ((RTEx.runStopInsideLate.flush.log.reverse.filter (fun r => r.1 = 350)).map (·.2) = ["send:after.300.m.s:stopped"] ∧
     RTEx.runStopInsideLate.fired.map (fun t => (t.act, t.armed, t.delay)) = [(2, 50, 300)] ∧
     RTEx.runStopInsideLate.st.status = "stopped") ∧
    (RTEx.runStopBetween.timers.length = 0 ∧ RTEx.runStopBetween.invs.length = 0 ∧ RTEx.runStopBetween.st.status = "stopped") ∧
    ((RTEx.runStopSync.flush.log.reverse.filter (fun r => 120 ≤ r.1)).map (·.2) =
      ["stop", "slow@GO", "ex:a@GO", "t:a:GO@GO", "en:b@GO", "arm:m.b:after.300.m.b/300", "svc-start:ib0", "svc-end:ib0:ok",
       "send:done.invoke.ib0:stopped", "#t:m,m.b"] ∧
     RTEx.runStopSync.st.status = "stopped" ∧
     RTEx.runStopSync.timers.map (fun t => (t.owner, t.evType, t.armed, t.delay)) = [(["b"], "after.300.m.b", 150, 300)]) := by decide +kernel

/-- *Clause "several delays on one state are independent".* Delivering one timer removes exactly
    that timer: every other one (of the same state or any other) stays armed. -/
theorem independent_timers (fl : Flavor) (t : Timer) (rt : RT) :
    (∀ x ∈ rt.timers, x.seq ≠ t.seq → x ∈ (fireTimerQ fl t rt).timers) ∧
    (∀ x ∈ (fireTimerQ fl t rt).timers, x.seq ≠ t.seq) := by
  rw [fireTimerQ_timers]
  exact ⟨fun x hx hne => List.mem_filter.mpr ⟨hx, by simpa using hne⟩, fun x hx => by simpa using (List.mem_filter.mp hx).2⟩

/-! ## 5. re-entry restarts; delays are resolved at entry -/

/-- *Clause "re-entering the state restarts the delay".* An entry begins a new activation … -/
theorem reentry_new_activation (c : RCx) (hw : WndOK c) (h : Hooks) (ev : Option String) (rt : RT) (e : Entry) (d : StateDef)
    (hd : c.m.defAt e.path = some d) (he : rt.st.err.isSome = false) :
    actOf (enterStepRT c h ev rt (.enter e)).acts e.path = actOf rt.acts e.path + 1 := by
  rw [enterStepRT]
  simp only [he, hd, Bool.false_eq_true, if_false]
  rw [actOf_bump_self, (shrink_slowWindow c hw d.entry _).acts]

/-- … whose timers are armed at the time of the schedule step, for that activation: a timer of the
    state now runs `delay` from this entry (timers of the previous activation are gone:
    `never_after_exit_step`). -/
theorem reentry_restarts (c : RCx) (h : Hooks) (p : Path) (d : StateDef) (rt : RT) :
    ∀ t ∈ (scheduleRT c h p d rt).timers, t ∈ rt.timers ∨ (t.owner = p ∧ t.act = actOf rt.acts p ∧ t.armed = rt.now ∧ t.due = rt.now + t.delay) := by
  intro t ht
  rw [(scheduleRT_same c h p d rt).1] at ht
  rcases List.mem_append.mp ht with h1 | h1
  · exact Or.inl h1
  · obtain ⟨a1, a2, a3, _⟩ := (mkTimers_spec c.fl p (actOf rt.acts p) rt.now rt.nextId _ 0).1 t h1
    exact Or.inr ⟨a1, a2, a3, by simp [Timer.due, a3]⟩

/-- *Clause "named or computed delays are resolved at entry".* What is armed for a state are the pairs
    (event type, delay) of `afterArms`, i.e. for each `after` key whose delay resolves NOW the event
    type of the key's first alternative with that delay … -/
theorem delay_resolved_at_entry (r : REnv) (after : List (String × List Trans)) (x : String × Nat) :
    x ∈ afterArms r after ↔ ∃ kv ∈ after, ∃ d, resolveDelay r kv.1 = some d ∧ ∃ t, kv.2.head? = some t ∧ x = (t.event, d) := by
  unfold afterArms
  simp only [List.mem_flatMap]
  constructor
  · rintro ⟨kv, hkv, hx⟩
    refine ⟨kv, hkv, ?_⟩
    cases hr : resolveDelay r kv.1 with
    | none => simp [hr] at hx
    | some d =>
      simp only [hr, List.mem_map, List.take_one, Option.mem_toList] at hx
      obtain ⟨t, ht, he⟩ := hx
      exact ⟨d, rfl, t, ht, he.symm⟩
  · rintro ⟨kv, hkv, d, hr, t, ht, he⟩
    refine ⟨kv, hkv, ?_⟩
    simp only [hr, List.mem_map, List.take_one, Option.mem_toList]
    exact ⟨t, ht, he.symm⟩

/-- … where a numeric key is that number of milliseconds and any other key is looked up in the
    delay table (absent ⇒ no timer). The timer keeps the value: `Timer.due = armed + delay`. -/
theorem resolveDelay_cases (r : REnv) (key : String) :
    resolveDelay r key = match numericKey key with | some n => some n | none => r.delays key := by
  unfold resolveDelay
  rfl

/-! ## 6. the runtime layer projects onto the engine model -/

/-- With nothing delivered during suspensions and no invoked services, one transition, one event, the
    settling loop and both run loops act on the `St` component exactly as the engine model
    (`Xsm/Model/Engine.lean`) — which is re-used, not re-implemented. -/
theorem rt_projects_to_engine (c : RCx) (hq : Quiet c) (hn : NoInvoke c.m) (h : Hooks) (rt : RT) :
    (∀ ev pl, (runPlanRT c h ev pl rt).st = runPlan h c.fl c.m ev pl rt.st) ∧
    (∀ ev pl, (executeRT c h ev pl rt).st = execute h c.fl c.m ev pl rt.st) ∧
    (∀ ev, (processEventRT c h ev rt).st = processEvent h c.fl c.m c.u ev rt.st) ∧
    (∀ fuel, (transientLoopRT c h fuel rt).st = transientLoop h c.fl c.m c.u fuel rt.st) ∧
    (c.fl = .async → ∀ fuel, (asyncDrainRT c fuel rt).st = asyncDrain c.m c.u fuel rt.st) ∧
    (c.fl = .sync → ∀ fuel chained, (drainLoopRT c fuel chained rt).st = drainLoop c.m c.u fuel chained rt.st) :=
  ⟨fun ev pl => runPlan_st c hq hn h ev pl rt, fun ev pl => execute_st c hq hn h ev pl rt,
   fun ev => processEvent_st c hq hn h ev rt, fun fuel => transientLoop_st c hq hn h fuel rt,
   fun hfl fuel => asyncDrain_st c hfl hq hn fuel rt, fun hfl fuel chained => drainLoop_st c hfl hq hn fuel chained rt⟩

/-! ## 7. the known defects, as theorems about concrete runs -/

open XSM.RTEx

/-- **F6.** `s` has `after 100 → u`; `X` (t = 60) keeps the interpreter busy until t = 110, `R`
    (t = 70, re-enter `s`) and then the expiry (t = 100) queue up behind it. At t = 110: `R` re-enters
    `s` (activation 2, new timer armed at 110), and the stale expiry — delivered for the timer of
    activation 1, armed at 0 — is matched by type: `s → u` fires 0 ms after the re-entry. -/
theorem stale_queued_event_fires :
    (runAfter.flush.log.reverse.filter (fun r => r.1 = 110)).map (·.2) =
      ["slow@X", "#t:m,m.s", "#recv:R", "arm:m.s:after.100.m.s/100", "#t:m,m.s", "#recv:after.100.m.s", "#t:m,m.u"] ∧
    runAfter.st.cfg = [[], ["u"]] ∧
    runAfter.fired.map (fun t => (t.act, t.armed, t.delay)) = [(1, 0, 100)] ∧
    actOf runAfter.acts ["s"] = 2 := by decide +kernel

/-- the same `R` at an idle interpreter restarts the delay: the timer of activation 1 is cancelled,
    the one of activation 2 (armed at 70) is due at 170 and nothing has fired by t = 150 -/
theorem reentry_restarts_when_idle :
    runAfterIdle.st.cfg = [[], ["s"]] ∧ runAfterIdle.fired = [] ∧
    runAfterIdle.timers.map (fun t => (t.act, t.armed, t.delay)) = [(2, 70, 100)] := by decide +kernel

/-- **F55, repaired.** Two alternatives under ONE delay arm ONE timer; its expiry selects the first
    alternative whose guard passes: the (targetless) winner runs once in the activation, one expiry was
    delivered (for delay key 0), nothing is armed any more. (Before the repair: two timers, the winner ran
    twice at t = 100.) -/
theorem alternatives_fire_once_fixed :
    (runAlts.flush.log.reverse.filter (fun r => r.2 = "tick@after.100.m.s")).map (·.1) = [100] ∧
    actOf runAlts.acts ["s"] = 1 ∧ runAlts.fired.map (·.slot) = [0] ∧ runAlts.timers.map (·.slot) = [] := by decide +kernel

end XSM.C08

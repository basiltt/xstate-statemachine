import Xsm.Proofs.DoneEx
/-!
# C10 — done-ness, `onDone`, completion

"A compound state's onDone transition is taken exactly once each time its active child becomes a
final state, a parallel state's exactly once each time the last of its regions becomes final and
never while any region is not final (history children are not regions), with the done event
carrying the final state's output. Entering a final child of the root sets the status to done
exactly once and records the machine output (machine-level output taking precedence); from then on
sent events are ignored and no user code runs in response, while stop() still releases every timer,
service and child actor."

Statements about the executable model (`Xsm/Model/Engine.lean`): `doneNode` / `isStateDone`
(= `_is_state_done`), `checkAndFireOnDone` (= `_check_and_fire_on_done`), `complete` (= `_complete`),
`enqueueQ`, `drainLoop`, `syncSend`, `asyncSend`, `asyncDrain`, `enterOne`. Helper definitions and
lemmas live in `Xsm/Proofs/Done.lean`. Everything is for arbitrary machines and configurations unless
a hypothesis says otherwise.

Vocabulary (from `Xsm/Proofs/Done.lean`):
* `firstChild cfg p` — the first path of `cfg` (in its order) that is a child of `p`;
* `strictAncestors fin` — `(chainUp fin).drop 1`: parent, grand-parent, …, root;
* `onDoneReady m cfg a` — `a` declares `onDone` and `isStateDone m cfg a`;
* `firingAncestor m cfg fin` — `(strictAncestors fin).find? (onDoneReady m cfg)`;
* `doneEv m a` — the event `done.state.<id of a>` with `src = <id of a>`;
* `HooksStatusOK h` — the two send hooks of `h` leave `status` unchanged (true of all engine hooks).

Outside the engine model (hence outside these theorems): the value carried by the done event and the
recorded machine output (the model's `Ev.done` has a type and a source, no data; `St` has no output
field), and `stop()`: `St` has no timers or services. That `stop()` releases them is `stopRT` of the
runtime model (`C08.never_after_stop`, `C09.none_alive_after_exit_or_stop`); child actors are the actor-system
model of C15 (`parent_stop_stops_subtree`).

The example machines are in `XSM.Done.Ex` (end of `Xsm/Proofs/Done.lean`), their runs in `Xsm/Proofs/DoneEx.lean`.
-/
namespace XSM.C10
open XSM XSM.Spec XSM.Done XSM.Done.Ex

/-! ## 1. when is a state done -/

/-- *A final state is done.* -/
theorem doneNode_final (cfg : List Path) (p : Path) (d : StateDef) (kids : List (String × SNode))
    (h : d.kind = .final) : doneNode cfg p (.mk d kids) = true := by
  simp [doneNode, h]

/-- *An atomic (non-final) state is never done*, nor is a history pseudo-state. -/
theorem doneNode_atomic (cfg : List Path) (p : Path) (d : StateDef) (kids : List (String × SNode))
    (h : d.kind = .atomic) : doneNode cfg p (.mk d kids) = false := by
  simp [doneNode, h]

theorem doneNode_history (cfg : List Path) (p : Path) (d : StateDef) (kids : List (String × SNode))
    (h : d.kind = .history) : doneNode cfg p (.mk d kids) = false := by
  simp [doneNode, h]

/-- *Clause "a compound state … its active child becomes a final state".* When exactly one child key
    `k` of the compound state at `p` is active (what `Legal` guarantees), the state is done exactly
    when that child is. -/
theorem doneNode_compound (cfg : List Path) (p : Path) (d : StateDef) (kids : List (String × SNode))
    (h : d.kind = .compound) (k : String) (child : SNode) (hc : findKid k kids = some child)
    (hk : (p ++ [k]) ∈ cfg) (hu : ∀ k', (p ++ [k']) ∈ cfg → k' = k) :
    doneNode cfg p (.mk d kids) = doneNode cfg (p ++ [k]) child := by
  rw [Done.doneNode_compound_first cfg p d kids h, firstChild_unique hk hu]
  simp [hc]

/-- *The same for an arbitrary configuration:* the done-ness of the FIRST active child found (the
    code's `next(s for s in active if s.parent == state)`); not done when no child is active. -/
theorem doneNode_compound_first (cfg : List Path) (p : Path) (d : StateDef) (kids : List (String × SNode))
    (h : d.kind = .compound) :
    doneNode cfg p (.mk d kids) =
      match firstChild cfg p with
      | some ch =>
        (match findKid (ch.getLast?.getD "") kids with
         | some c => doneNode cfg ch c
         | none => false)
      | none => false :=
  Done.doneNode_compound_first cfg p d kids h

theorem firstChild_spec {cfg : List Path} {p ch : Path} (h : firstChild cfg p = some ch) :
    ch ∈ cfg ∧ ∃ k, ch = p ++ [k] ∧ ch.getLast?.getD "" = k := firstChild_some h

/-- in a legal configuration: an active compound state (with children) has one active child, and is
    done exactly when that child is -/
theorem isStateDone_compound_legal (m : Machine) (cfg : List Path) (hL : Legal m.root cfg) (p : Path)
    (hp : p ∈ cfg) (d : StateDef) (kids : List (String × SNode)) (hat : m.root.at p = some (.mk d kids))
    (hk : d.kind = .compound) (hne : kids ≠ []) :
    ∃ k, (p ++ [k]) ∈ cfg ∧ (∀ k', (p ++ [k']) ∈ cfg → k' = k) ∧
      isStateDone m cfg p = isStateDone m cfg (p ++ [k]) := by
  obtain ⟨k, hk1, hk2⟩ := hL.compound_one p hp d kids hat hk hne
  obtain ⟨n, hn, _⟩ := hL.states _ hk1
  have hf : findKid k kids = some n := by rw [← at_snoc m.root p d kids k hat]; exact hn
  refine ⟨k, hk1, hk2, ?_⟩
  unfold isStateDone
  rw [hat, hn]
  exact doneNode_compound cfg p d kids hk k n hf hk1 hk2

/-- *Clause "a parallel state's … the last of its regions becomes final … (history children are not
    regions)".* A parallel state is done exactly when every non-history child is active (some active
    state lies in it) and is itself done. -/
theorem parallel_done_iff_all_regions (cfg : List Path) (p : Path) (d : StateDef)
    (kids : List (String × SNode)) (h : d.kind = .parallel) :
    doneNode cfg p (.mk d kids) = true ↔
      ∀ k c, (k, c) ∈ kids → c.kind ≠ .history →
        (∃ q ∈ cfg, (p ++ [k]) <+: q) ∧ doneNode cfg (p ++ [k]) c = true := by
  rw [doneNode_parallel cfg p d kids h, doneRegions_iff]
  constructor
  · intro H k c hkc; exact H (k, c) hkc
  · intro H kc hkc; exact H kc.1 kc.2 hkc

/-- *"history children are not regions":* removing every history child does not change the answer … -/
theorem history_not_a_region (cfg : List Path) (p : Path) (d : StateDef) (kids : List (String × SNode))
    (h : d.kind = .parallel) :
    doneNode cfg p (.mk d kids) =
      doneNode cfg p (.mk d (kids.filter (fun kc => kc.2.kind != .history))) := by
  rw [doneNode_parallel cfg p d kids h, doneNode_parallel cfg p d _ h]
  exact doneRegions_filter cfg p kids

/-- … so two child lists that differ only in history children give the same answer … -/
theorem history_children_irrelevant (cfg : List Path) (p : Path) (d : StateDef)
    (kids kids' : List (String × SNode)) (h : d.kind = .parallel)
    (hs : kids.filter (fun kc => kc.2.kind != .history) = kids'.filter (fun kc => kc.2.kind != .history)) :
    doneNode cfg p (.mk d kids) = doneNode cfg p (.mk d kids') := by
  rw [history_not_a_region cfg p d kids h, history_not_a_region cfg p d kids' h, hs]

/-- … in particular adding a history child anywhere changes nothing. -/
theorem add_history_child (cfg : List Path) (p : Path) (d : StateDef) (pre post : List (String × SNode))
    (k : String) (hn : SNode) (h : d.kind = .parallel) (hh : hn.kind = .history) :
    doneNode cfg p (.mk d (pre ++ (k, hn) :: post)) = doneNode cfg p (.mk d (pre ++ post)) := by
  apply history_children_irrelevant cfg p d _ _ h
  simp [List.filter_append, hh]

/-- *Clause "never while any region is not final".* One non-history region that is not done keeps
    the parallel state from being done … -/
theorem parallel_not_done_while_region_not_final (cfg : List Path) (p : Path) (d : StateDef)
    (kids : List (String × SNode)) (h : d.kind = .parallel) (k : String) (c : SNode)
    (hkc : (k, c) ∈ kids) (hh : c.kind ≠ .history) (hnd : doneNode cfg (p ++ [k]) c = false) :
    doneNode cfg p (.mk d kids) = false := by
  cases hdn : doneNode cfg p (.mk d kids) with
  | false => rfl
  | true =>
    have := ((parallel_done_iff_all_regions cfg p d kids h).1 hdn k c hkc hh).2
    rw [hnd] at this; exact absurd this (by simp)

/-- … and so does one that is not active at all. -/
theorem parallel_not_done_while_region_inactive (cfg : List Path) (p : Path) (d : StateDef)
    (kids : List (String × SNode)) (h : d.kind = .parallel) (k : String) (c : SNode)
    (hkc : (k, c) ∈ kids) (hh : c.kind ≠ .history) (hna : ∀ q ∈ cfg, ¬ (p ++ [k]) <+: q) :
    doneNode cfg p (.mk d kids) = false := by
  cases hdn : doneNode cfg p (.mk d kids) with
  | false => rfl
  | true =>
    obtain ⟨q, hq, hpq⟩ := ((parallel_done_iff_all_regions cfg p d kids h).1 hdn k c hkc hh).1
    exact absurd hpq (hna q hq)

/-- *The nested case (repaired by a fix commit):* a region that is itself parallel counts only when
    ALL its sub-regions are done — one unfinished sub-region of one region keeps the outer parallel
    state from being done. -/
theorem nested_parallel_region_needs_all_subregions (cfg : List Path) (p : Path) (d : StateDef)
    (kids : List (String × SNode)) (h : d.kind = .parallel)
    (k : String) (dA : StateDef) (kidsA : List (String × SNode)) (hkc : (k, SNode.mk dA kidsA) ∈ kids)
    (hA : dA.kind = .parallel) (k2 : String) (c2 : SNode) (h2 : (k2, c2) ∈ kidsA)
    (hh2 : c2.kind ≠ .history) (hnd : doneNode cfg (p ++ [k] ++ [k2]) c2 = false) :
    doneNode cfg p (.mk d kids) = false := by
  apply parallel_not_done_while_region_not_final cfg p d kids h k (.mk dA kidsA) hkc
  · show dA.kind ≠ .history
    rw [hA]; decide
  · exact parallel_not_done_while_region_not_final cfg (p ++ [k]) dA kidsA hA k2 c2 h2 hh2 hnd

/-- outer `P` with regions `A` (parallel: `A1`, `A2`), `B` and a history child `H`: with `A1` and `B`
    in their final children but `A2` not, `P` is not done (the unchanged code said it was) … -/
example : doneNode nestedCfg ["P"] nestedP = false := nestedM_facts.1.1
example : isStateDone nestedM nestedCfg ["P"] = false := nestedM_facts.1.2.1
/-- … `A` alone is not done either, `A1` and `B` are … -/
example : isStateDone nestedM nestedCfg ["P", "A"] = false := nestedM_facts.1.2.2.1
example : isStateDone nestedM nestedCfg ["P", "A", "A1"] = true := nestedM_facts.1.2.2.2.1
example : isStateDone nestedM nestedCfg ["P", "B"] = true := nestedM_facts.1.2.2.2.2
/-- … and once `A2` reaches its final child, `P` is done — the history child `H` (never active)
    notwithstanding. -/
example : isStateDone nestedM nestedCfgAll ["P"] = true := nestedM_facts.2.1.1
/-- an atomic state, and a compound state none of whose children is active -/
example : isStateDone nestedM nestedCfgAll ["P", "B", "b"] = false := nestedM_facts.2.1.2.1
example : isStateDone nestedM [[], ["P"], ["P", "B"]] ["P", "B"] = false := nestedM_facts.2.1.2.2

/-! ## 2. what entering a final state raises: `_check_and_fire_on_done` -/

/-- *The whole function:* look, from the parent upward, for the first strict ancestor that declares
    `onDone` and is done; send ITS done event — one event, then stop; if there is none, a child of
    the root completes the machine; anything else does nothing. -/
theorem checkAndFireOnDone_spec (h : Hooks) (m : Machine) (fin : Path) (s : St) :
    checkAndFireOnDone h m fin s =
      match firingAncestor m s.cfg fin with
      | some a => h.snd (doneEv m a) s
      | none => if fin.length = 1 then complete s else s := rfl

theorem fires_for_ancestor (h : Hooks) (m : Machine) (fin : Path) (s : St) (a : Path)
    (ha : firingAncestor m s.cfg fin = some a) :
    checkAndFireOnDone h m fin s = h.snd (.done ("done.state." ++ m.idOf a) (m.idOf a)) s := by
  rw [checkAndFireOnDone_spec, ha]; rfl

theorem completes_when_no_ancestor (h : Hooks) (m : Machine) (fin : Path) (s : St)
    (ha : firingAncestor m s.cfg fin = none) (hl : fin.length = 1) :
    checkAndFireOnDone h m fin s = complete s := by
  rw [checkAndFireOnDone_spec, ha]; simp [hl]

theorem nothing_otherwise (h : Hooks) (m : Machine) (fin : Path) (s : St)
    (ha : firingAncestor m s.cfg fin = none) (hl : fin.length ≠ 1) :
    checkAndFireOnDone h m fin s = s := by
  rw [checkAndFireOnDone_spec, ha]; simp [hl]

/-- *Which ancestor:* `a` is a strict ancestor of the final state, declares `onDone`, is done, and no
    strict ancestor of the final state lying strictly below `a` has both properties: the NEAREST. -/
theorem firingAncestor_nearest (m : Machine) (cfg : List Path) (fin a : Path) :
    firingAncestor m cfg fin = some a ↔
      (a <+: fin ∧ a ≠ fin) ∧ onDoneReady m cfg a = true ∧
        ∀ b, a <+: b → b ≠ a → b <+: fin → b ≠ fin → onDoneReady m cfg b = false :=
  find_strictAncestors_iff (onDoneReady m cfg) fin a

theorem firingAncestor_none (m : Machine) (cfg : List Path) (fin : Path) :
    firingAncestor m cfg fin = none ↔ ∀ b, b <+: fin → b ≠ fin → onDoneReady m cfg b = false :=
  find_strictAncestors_none (onDoneReady m cfg) fin

theorem onDoneReady_spec (m : Machine) (cfg : List Path) (a : Path) :
    onDoneReady m cfg a = true ↔
      (∃ d, m.defAt a = some d ∧ d.onDone.isSome = true) ∧ isStateDone m cfg a = true := by
  unfold onDoneReady
  cases m.defAt a with
  | none => simp
  | some d => simp

/-- *"exactly once": at most one done event per final state entered.* With the hooks of either engine
    (`b = false` for `hooksAsyncStart`, `true` for `hooksFlagged` / `hooksAsync`: see
    `hooksFlagged_snd_queue` …) the queue grows by exactly the one done event of the firing ancestor
    when there is one and the machine is running, and not at all otherwise. -/
theorem at_most_one_done_event (h : Hooks) (b : Bool)
    (hq : ∀ e s, (h.snd e s).queue = s.queue ++ (if s.status = "running" then [⟨e, b⟩] else []))
    (m : Machine) (fin : Path) (s : St) :
    (checkAndFireOnDone h m fin s).queue =
      s.queue ++ (match firingAncestor m s.cfg fin with
        | some a => if s.status = "running" then [⟨doneEv m a, b⟩] else []
        | none => []) := by
  rw [checkAndFireOnDone_spec]
  cases firingAncestor m s.cfg fin with
  | some a => exact hq _ _
  | none =>
    simp only [List.append_nil]
    split
    · unfold complete; split <;> rfl
    · rfl

/-- *The done event is raised only if its state is done at that very moment* (and declares `onDone`). -/
theorem fires_only_if_done (m : Machine) (cfg : List Path) (fin a : Path)
    (ha : firingAncestor m cfg fin = some a) :
    isStateDone m cfg a = true ∧ (∃ d, m.defAt a = some d ∧ d.onDone.isSome = true) ∧
      a <+: fin ∧ a ≠ fin := by
  obtain ⟨h1, h2, _⟩ := (firingAncestor_nearest m cfg fin a).1 ha
  obtain ⟨h3, h4⟩ := (onDoneReady_spec m cfg a).1 h2
  exact ⟨h4, h3, h1⟩

/-- *Clause "never while any region is not final".* If the done event of a parallel state is raised,
    every one of its non-history regions is active and done … -/
theorem parallel_fires_only_when_all_regions_done (m : Machine) (cfg : List Path) (fin a : Path)
    (ha : firingAncestor m cfg fin = some a) (d : StateDef) (kids : List (String × SNode))
    (hat : m.root.at a = some (.mk d kids)) (hp : d.kind = .parallel) :
    ∀ k c, (k, c) ∈ kids → c.kind ≠ .history →
      (∃ q ∈ cfg, (a ++ [k]) <+: q) ∧ doneNode cfg (a ++ [k]) c = true := by
  have hd := (fires_only_if_done m cfg fin a ha).1
  unfold isStateDone at hd
  rw [hat] at hd
  exact (parallel_done_iff_all_regions cfg a d kids hp).1 hd

/-- … equivalently: while one region is not done, the parallel state's done event is not raised,
    whichever final state is being entered. -/
theorem parallel_never_fires_early (m : Machine) (cfg : List Path) (fin a : Path)
    (d : StateDef) (kids : List (String × SNode)) (hat : m.root.at a = some (.mk d kids))
    (hp : d.kind = .parallel) (k : String) (c : SNode) (hkc : (k, c) ∈ kids) (hh : c.kind ≠ .history)
    (hnd : doneNode cfg (a ++ [k]) c = false) : firingAncestor m cfg fin ≠ some a := by
  intro ha
  have := (parallel_fires_only_when_all_regions_done m cfg fin a ha d kids hat hp k c hkc hh).2
  rw [hnd] at this; exact absurd this (by simp)

/-- *Clause "a compound state's onDone … each time its active child becomes a final state".* Entering
    the final child `k` of a compound state `p` that declares `onDone` (and has, as in every legal
    configuration, no other active child) raises exactly `p`'s done event — `p` is the nearest
    ancestor, so nothing can shadow it. -/
theorem compound_fires_when_child_final (m : Machine) (cfg : List Path) (p : Path) (k : String)
    (d : StateDef) (kids : List (String × SNode)) (df : StateDef) (kf : List (String × SNode))
    (hat : m.root.at p = some (.mk d kids)) (hk : d.kind = .compound) (hod : d.onDone.isSome = true)
    (hc : findKid k kids = some (.mk df kf)) (hf : df.kind = .final)
    (hact : (p ++ [k]) ∈ cfg) (hu : ∀ k', (p ++ [k']) ∈ cfg → k' = k) :
    firingAncestor m cfg (p ++ [k]) = some p := by
  rw [firingAncestor_nearest]
  refine ⟨⟨List.prefix_append _ _, ?_⟩, ?_, ?_⟩
  · intro he
    have := congrArg List.length he
    simp at this
  · rw [onDoneReady_spec]
    refine ⟨⟨d, by simp [Machine.defAt, hat, SNode.d], hod⟩, ?_⟩
    unfold isStateDone
    rw [hat]
    simp only
    rw [doneNode_compound cfg p d kids hk k _ hc hact hu]
    exact doneNode_final cfg _ df kf hf
  · intro b hpb hne hbf hbne
    exfalso
    have h1 := hpb.length_le
    have h2 := hbf.length_le
    simp only [List.length_append, List.length_cons, List.length_nil] at h2
    have h3 : b.length ≠ p.length := fun he => hne (hpb.eq_of_length he.symm).symm
    have h4 : b.length ≠ p.length + 1 := fun he => hbne (hbf.eq_of_length (by simp [he]))
    omega

/-- `shadowM`: entering `af` while `B` is still in `b1` raises `A`'s done event -/
example : firingAncestor shadowM [[], ["P"], ["P", "A"], ["P", "B"], ["P", "B", "b1"], ["P", "A", "af"]]
    ["P", "A", "af"] = some ["P", "A"] := by decide +kernel

/-- in `nestedM`, entering `a1f` while `A2` is unfinished raises nothing (and `P`, `A` declare no
    `onDone` anyway); in `shadowM` entering `bf` while `A` is still in `a1` raises nothing although
    `P` declares `onDone` -/
example : firingAncestor nestedM nestedCfg ["P", "A", "A1", "a1f"] = none := nestedM_facts.2.2.1
example : firingAncestor shadowM [[], ["P"], ["P", "A"], ["P", "A", "a1"], ["P", "B"], ["P", "B", "bf"]]
    ["P", "B", "bf"] = none := by decide +kernel
/-- … and once `A` is in `af`, entering `bf` raises `P`'s done event (`B` declares no `onDone`) -/
example : firingAncestor shadowM [[], ["P"], ["P", "A"], ["P", "A", "af"], ["P", "B"], ["P", "B", "bf"]]
    ["P", "B", "bf"] = some ["P"] := by decide +kernel

/-- **Known limitation (a), as the model — like the code — behaves.** The search stops at the nearest
    ancestor that declares `onDone` and is done: whatever outer ancestors are ALSO done and declare
    `onDone` (e.g. a parallel grand-parent whose last region just completed), only the nearest one's
    event is sent. -/
theorem nearest_ancestor_shadows_outer (u : UEnv) (m : Machine) (fin : Path) (s : St) (a : Path)
    (ha : firingAncestor m s.cfg fin = some a) (hrun : s.status = "running") :
    ∀ b, b <+: a → b ≠ a → onDoneReady m s.cfg b = true →
      checkAndFireOnDone (hooksFlagged u m) m fin s =
        { s with queue := s.queue ++ [⟨doneEv m a, true⟩] } := by
  intro _ _ _ _
  rw [fires_for_ancestor _ m fin s a ha]
  show enqueueQ true _ s = _
  rw [enqueueQ_running true _ hrun]; rfl

/-- `shadowM`: `B` is in `bf`; `af` is entered, which makes BOTH `A` and `P` done, both declare
    `onDone`; only `done.state.s.P.A` is queued — `P`'s done event is not raised. -/
example : onDoneReady shadowM shadowS.cfg ["P", "A"] = true ∧ onDoneReady shadowM shadowS.cfg ["P"] = true := by
  decide +kernel
example : firingAncestor shadowM shadowS.cfg ["P", "A", "af"] = some ["P", "A"] := by decide +kernel
example : evTypes (checkAndFireOnDone (hooksFlagged exU shadowM) shadowM ["P", "A", "af"] shadowS) =
    ["done.state.s.P.A"] := by decide +kernel

/-- a compound root whose only active child is a final state is done -/
theorem root_done_when_final_child_active (m : Machine) (cfg : List Path) (d : StateDef)
    (kids : List (String × SNode)) (hroot : m.root = .mk d kids) (hk : d.kind = .compound) (k : String)
    (df : StateDef) (kf : List (String × SNode)) (hc : findKid k kids = some (.mk df kf))
    (hf : df.kind = .final) (hact : [k] ∈ cfg) (hu : ∀ k', [k'] ∈ cfg → k' = k) :
    isStateDone m cfg [] = true := by
  unfold isStateDone
  simp only [SNode.at, hroot]
  rw [doneNode_compound cfg [] d kids hk k _ hc hact hu]
  exact doneNode_final cfg _ df kf hf

/-- **Known limitation (b), as the model — like the code — behaves.** A root that declares `onDone`
    and is done (a final child was just entered) gets its done event; the machine is NOT completed:
    `status` stays what it was. -/
theorem root_onDone_suppresses_completion (h : Hooks) (hs : HooksStatusOK h) (m : Machine) (k : String)
    (s : St) (dr : StateDef) (hroot : m.defAt [] = some dr) (hod : dr.onDone.isSome = true)
    (hdone : isStateDone m s.cfg [] = true) :
    checkAndFireOnDone h m [k] s = h.snd (doneEv m []) s ∧
      (checkAndFireOnDone h m [k] s).status = s.status := by
  have hr : onDoneReady m s.cfg [] = true := (onDoneReady_spec m s.cfg []).2 ⟨⟨dr, hroot, hod⟩, hdone⟩
  have ha : firingAncestor m s.cfg [k] = some [] := by
    simp [firingAncestor, strictAncestors_single, hr]
  have := fires_for_ancestor h m [k] s [] ha
  refine ⟨this, ?_⟩
  rw [this]; exact hs.snd_status _ _

/-- `{"id":"m","initial":"f","onDone":{"actions":["x"]},"states":{"f":{"type":"final"}}}`: entering
    `f` queues `done.state.m` and leaves the status "running"; after `start()` has drained the queue
    (the root's `onDone` action `x` ran) the machine is still "running" — so is the Python library. -/
example : let s := checkAndFireOnDone (hooksFlagged exU rootOnDoneM) rootOnDoneM ["f"] rootOnDoneS
    (s.status, evTypes s) = ("running", ["done.state.m"]) := rootOnDoneM_plainM_runs.1.1
example : let s := syncStart rootOnDoneM exU {}
    (s.status, s.cfg, s.trace) = ("running", [[], ["f"]], ["#t:m,m.f", "x@done.state.m", "#recv:done.state.m"]) :=
  rootOnDoneM_plainM_runs.1.2
/-- without the root `onDone` the same machine completes -/
example : (syncStart plainM exU {}).status = "done" := rootOnDoneM_plainM_runs.2.1

/-! ## 3. completion is terminal -/

/-- *Clause "sets the status to done exactly once".* `_complete` acts only on a running machine, where
    it sets the status and nothing else; a second call changes nothing. -/
theorem complete_sets_done_once (s : St) :
    (s.status = "running" → complete s = { s with status := "done" }) ∧
    (s.status ≠ "running" → complete s = s) ∧
    ((complete s).status = "done" ↔ s.status = "running" ∨ s.status = "done") ∧
    complete (complete s) = complete s := by
  refine ⟨complete_of_running, complete_of_not_running, ?_, complete_idem s⟩
  by_cases h : s.status = "running"
  · rw [complete_of_running h]; simp [h]
  · rw [complete_of_not_running h]; simp [h]

example : (complete { status := "running" }).status = "done" := by decide +kernel
example : (complete { status := "stopped" }).status = "stopped" := by decide +kernel

/-- *Clause "from then on sent events are ignored".* `send` on a machine that is not running returns
    the state unchanged — every field: configuration, history, context, queue, trace (no action,
    guard or observer ran), counters. Both engines. -/
theorem status_done_is_terminal_for_send (m : Machine) (u : UEnv) (e : Ev) (s : St)
    (h : s.status ≠ "running") : syncSend m u e s = s ∧ asyncSend m u e s = s :=
  ⟨syncSend_not_running m u e h, asyncSend_not_running m u e h⟩

/-- *… "and no user code runs in response", for whole sequences of commands.* `cmd` is `send` with the
    error flag of the previous command cleared; on a machine that is not running any number of
    commands leaves everything as it was, except that the flag has been cleared. -/
theorem after_done_nothing_runs (fl : Flavor) (m : Machine) (u : UEnv) (evs : List Ev) (s : St)
    (h : s.status ≠ "running") :
    evs.foldl (cmd fl m u) s = if evs = [] then s else { s with err := none } := by
  induction evs generalizing s with
  | nil => rfl
  | cons e evs ih =>
    simp only [List.foldl_cons]
    rw [cmd_not_running fl m u e h, ih _ (by exact h)]
    cases evs <;> simp

/-- the same field by field -/
theorem after_done_fields (fl : Flavor) (m : Machine) (u : UEnv) (evs : List Ev) (s : St)
    (h : s.status ≠ "running") :
    let r := evs.foldl (cmd fl m u) s
    r.cfg = s.cfg ∧ r.hist = s.hist ∧ r.ctx = s.ctx ∧ r.queue = s.queue ∧ r.trace = s.trace ∧
      r.status = s.status ∧ r.raiseDepth = s.raiseDepth ∧ r.errors = s.errors := by
  simp only [after_done_nothing_runs fl m u evs s h]
  split <;> simp

/-- `goM` reaches its top-level final state on `GO`: status "done", the entry action of `f` ran; three
    more events change nothing at all (either engine) -/
example : let s := syncSend goM exU (.user "GO") (syncStart goM exU {})
    (s.status, s.cfg, s.trace) = ("done", [[], ["f"]], ["#t:m,m.f", "bye@GO", "going@GO", "#recv:GO"]) := goM_runs.1
example : let s := syncSend goM exU (.user "GO") (syncStart goM exU {})
    let r := [Ev.user "GO", .user "X", .done "done.state.m" "m"].foldl (cmd .sync goM exU) s
    (r.status, r.cfg, r.trace, evTypes r) = (s.status, s.cfg, s.trace, evTypes s) := goM_runs.2.1
example : let s := asyncSend goM exU (.user "GO") (asyncStart goM exU {})
    let r := [Ev.user "GO", .user "X"].foldl (cmd .async goM exU) s
    (s.status, r.status, r.cfg, r.trace == s.trace) = ("done", "done", [[], ["f"]], true) := goM_runs.2.2.1

/-- *Inside one macrostep (sync):* once the machine is not running, the rest of the queue is discarded
    without anything being processed. -/
theorem drain_stops_when_done (m : Machine) (u : UEnv) (n c : Nat) (s : St) (h : s.status ≠ "running") :
    drainLoop m u (n + 1) c s = if s.queue = [] then s else { s with queue := [] } :=
  drainLoop_not_running m u n c h

/-- *(async):* the run loop leaves a machine that is not running alone (queue included). -/
theorem asyncDrain_stops_when_done (m : Machine) (u : UEnv) (n : Nat) (s : St) (h : s.status ≠ "running") :
    asyncDrain m u n s = s := asyncDrain_not_running m u n h

example : let s : St := { status := "done", queue := [⟨.user "A", false⟩, ⟨.user "B", false⟩], cfg := [[], ["f"]] }
    let r := drainFlagged goM exU s
    (evTypes r, r.trace, r.cfg, r.status) = ([], [], [[], ["f"]], "done") := goM_runs.2.2.2

/-! ## 4. nothing is queued once the machine is not running -/

/-- a done event (or any event) raised after completion is dropped -/
theorem enqueue_refused_when_not_running (b : Bool) (e : Ev) (s : St) (h : s.status ≠ "running") :
    enqueueQ b e s = s := by simp [enqueueQ, h]

example : evTypes (enqueue (.done "done.state.m" "m") { status := "done" }) = [] := by decide +kernel
example : evTypes (enqueue (.done "done.state.m" "m") { status := "running" }) = ["done.state.m"] := by decide +kernel

/-! ## 5. entering a top-level final state completes the machine -/

/-- *Actions never change `status`* — user actions, `assign`, `choose`, `raise` — provided the two
    send hooks do not; … -/
theorem execActions_status (h : Hooks) (hok : HooksStatusOK h) (evType : String) (as : List ActionRef)
    (s : St) : (execActions h as evType s).status = s.status :=
  execActions_rel statusEq_act h ⟨hok.snd_status, hok.raise_status⟩ as evType s

/-- … and the hooks of both engines do not. -/
theorem engine_hooks_statusOK (u : UEnv) (m : Machine) :
    HooksStatusOK (hooksFlagged u m) ∧ HooksStatusOK (hooksAsync u m) ∧ HooksStatusOK (hooksAsyncStart u m) :=
  ⟨⟨enqueueQ_status true, enqueueQ_status true⟩,
   ⟨fun e s => enqueueQ_status true e _, fun e s => enqueueQ_status true e _⟩,
   ⟨enqueueQ_status false, enqueueQ_status false⟩⟩

/-- entering a final state whose entry actions do not fail = add it, run its entry actions, run the
    done check on the result -/
theorem enterOne_final (h : Hooks) (fl : Flavor) (m : Machine) (ev : Option String) (s : St) (e : Entry)
    (d : StateDef) (hd : m.defAt e.path = some d) (hk : d.kind = .final) (herr : s.err = none)
    (hact : (execActions h d.entry (entryEvName fl m e ev) (addActive e.path s)).err = none) :
    enterOne h fl m ev s e =
      checkAndFireOnDone h m e.path (execActions h d.entry (entryEvName fl m e ev) (addActive e.path s)) := by
  unfold enterOne
  simp [herr, hd, hact, hk]

/-- *Clause "entering a final child of the root sets the status to done".* From a running machine with
    no pending error, entering a final child of the root whose entry actions do not fail, while the
    root is not (declaring `onDone` and done) — in particular when it declares no `onDone` — yields the
    state after the entry actions with status "done". -/
theorem top_final_completes (h : Hooks) (hok : HooksOK h) (hs : HooksStatusOK h) (fl : Flavor) (m : Machine)
    (ev : Option String) (s : St) (e : Entry) (d : StateDef)
    (hd : m.defAt e.path = some d) (hk : d.kind = .final) (hlen : e.path.length = 1)
    (herr : s.err = none) (hrun : s.status = "running")
    (hact : (execActions h d.entry (entryEvName fl m e ev) (addActive e.path s)).err = none)
    (hroot : onDoneReady m (addActive e.path s).cfg [] = false) :
    enterOne h fl m ev s e =
        { execActions h d.entry (entryEvName fl m e ev) (addActive e.path s) with status := "done" } ∧
      (enterOne h fl m ev s e).status = "done" := by
  have hst : (execActions h d.entry (entryEvName fl m e ev) (addActive e.path s)).status = "running" := by
    rw [execActions_status h hs, addActive_status, hrun]
  have hcfg := execActions_cfg h hok (entryEvName fl m e ev) d.entry (addActive e.path s)
  obtain ⟨k, hk1⟩ : ∃ k, e.path = [k] := by
    match hp : e.path, hlen with
    | [k], _ => exact ⟨k, rfl⟩
  have hnone : firingAncestor m (execActions h d.entry (entryEvName fl m e ev) (addActive e.path s)).cfg
      e.path = none := by
    rw [hcfg]
    rw [hk1] at hroot ⊢
    simp [firingAncestor, strictAncestors_single, hroot]
  have heq := enterOne_final h fl m ev s e d hd hk herr hact
  rw [completes_when_no_ancestor h m e.path _ hnone hlen, complete_of_running hst] at heq
  exact ⟨heq, by rw [heq]⟩

/-- the common case: the root declares no `onDone` -/
theorem top_final_completes_no_root_onDone (h : Hooks) (hok : HooksOK h) (hs : HooksStatusOK h) (fl : Flavor)
    (m : Machine) (ev : Option String) (s : St) (e : Entry) (d : StateDef)
    (hd : m.defAt e.path = some d) (hk : d.kind = .final) (hlen : e.path.length = 1)
    (herr : s.err = none) (hrun : s.status = "running")
    (hact : (execActions h d.entry (entryEvName fl m e ev) (addActive e.path s)).err = none)
    (hroot : ∀ dr, m.defAt [] = some dr → dr.onDone = none) :
    (enterOne h fl m ev s e).status = "done" := by
  refine (top_final_completes h hok hs fl m ev s e d hd hk hlen herr hrun hact ?_).2
  unfold onDoneReady
  cases hr : m.defAt [] with
  | none => rfl
  | some dr => simp [hroot dr hr]

/-- with entry actions `[]` nothing can fail -/
theorem top_final_completes_no_entry (h : Hooks) (hok : HooksOK h) (hs : HooksStatusOK h) (fl : Flavor)
    (m : Machine) (ev : Option String) (s : St) (e : Entry) (d : StateDef)
    (hd : m.defAt e.path = some d) (hk : d.kind = .final) (hlen : e.path.length = 1)
    (herr : s.err = none) (hrun : s.status = "running") (hentry : d.entry = [])
    (hroot : onDoneReady m (addActive e.path s).cfg [] = false) :
    (enterOne h fl m ev s e).status = "done" := by
  refine (top_final_completes h hok hs fl m ev s e d hd hk hlen herr hrun ?_ hroot).2
  rw [hentry]
  simp only [execActions, execActionsF, List.foldl_nil]
  rw [addActive_err]; exact herr

/-- `plainM`: entering `f` (entry action `bye`) from the running machine completes it, either engine;
    the entry action has run -/
example : let s := enterOne (hooksFlagged exU plainM) .sync plainM none { cfg := [[]], status := "running" } ⟨["f"], true⟩
    (s.status, s.cfg, s.trace) = ("done", [[], ["f"]], ["bye@entry.m.f"]) := rootOnDoneM_plainM_runs.2.2.1
example : (enterOne (hooksAsync exU plainM) .async plainM (some "E") { cfg := [[]], status := "running" }
    ⟨["f"], true⟩).status = "done" := rootOnDoneM_plainM_runs.2.2.2
/-- a final state that is not a child of the root completes nothing -/
example : (enterOne (hooksFlagged exU nestedM) .sync nestedM none { cfg := nestedCfg, status := "running" }
    ⟨["P", "A", "A2", "a2f"], true⟩).status = "running" := nestedM_facts.2.2.2

/-! ## 6. completion ends the macrostep (finding F26, repaired in the library)

`_process_event` executes the transitions selected for one event in a loop. Since the repair the loop
starts with `if self.status not in ("running", "uninitialized"): break` — once an earlier transition
of the same macrostep has entered a top-level final state (status "done"), or the machine has failed
or been stopped, no later selected transition executes. In the model: `finished status`, and the fold
step `peStep` of `processEvent` (`processEvent_is_fold`, `peStep_def`). All statements are for both
engines (`fl`), every hook set and every user environment, any number of selected transitions. -/

/-- `finished` is the code's `self.status not in ("running", "uninitialized")` -/
theorem finished_spec (st : String) : finished st = true ↔ st ≠ "running" ∧ st ≠ "uninitialized" := by
  unfold finished; simp

example : finished "done" = true ∧ finished "error" = true ∧ finished "stopped" = true ∧
    finished "running" = false ∧ finished "uninitialized" = false := by decide +kernel

/-- what `processEvent` is when selection succeeds: the fold of `peStep` over the selected list … -/
theorem processEvent_is_fold (h : Hooks) (fl : Flavor) (m : Machine) (u : UEnv) (ev : Ev) (s : St)
    (sel : List Cand) (hsel : selectTransitions m s.cfg (u.genv s.ctx ev.type) ev = .ok sel) :
    processEvent h fl m u ev s = sel.foldl (peStep h fl m ev sel.length) s :=
  processEvent_peFold h fl m u ev s hsel

/-- … and what one step of that fold is (`n` = number of selected transitions): a pending error, a
    finished machine and (several selected) an inactive source each leave the state as it is -/
theorem peStep_def (h : Hooks) (fl : Flavor) (m : Machine) (ev : Ev) (n : Nat) (s : St) (c : Cand) :
    peStep h fl m ev n s c =
      if s.err.isSome then s
      else if finished s.status then s
      else if n > 1 && !(s.cfg.contains c.src) then s
      else execute h fl m ev (planTransition m s.cfg s.hist c) s := rfl

/-- *At the level of the loop:* from a finished state, whatever candidates remain, the state is
    returned unchanged — nothing executes. -/
theorem finished_stops_fold (h : Hooks) (fl : Flavor) (m : Machine) (ev : Ev) (n : Nat) (cs : List Cand)
    (s : St) (hf : finished s.status = true) : cs.foldl (peStep h fl m ev n) s = s :=
  peFold_finished h fl m ev n cs s hf

/-- **`finished_stops_macrostep`.** A machine that is finished processes an event (whenever selection
    succeeds, whatever was selected) by doing nothing: the state is returned unchanged — every field. -/
theorem finished_stops_macrostep (h : Hooks) (fl : Flavor) (m : Machine) (u : UEnv) (ev : Ev) (s : St)
    (hf : finished s.status = true) (sel : List Cand)
    (hsel : selectTransitions m s.cfg (u.genv s.ctx ev.type) ev = .ok sel) :
    processEvent h fl m u ev s = s := by
  rw [processEvent_peFold h fl m u ev s hsel]
  exact peFold_finished h fl m ev _ sel s hf

/-- the same field by field: no action ran and no observer was notified (trace), configuration,
    history, context, queue, status and counters are what they were -/
theorem finished_stops_macrostep_fields (h : Hooks) (fl : Flavor) (m : Machine) (u : UEnv) (ev : Ev) (s : St)
    (hf : finished s.status = true) (sel : List Cand)
    (hsel : selectTransitions m s.cfg (u.genv s.ctx ev.type) ev = .ok sel) :
    let r := processEvent h fl m u ev s
    r.trace = s.trace ∧ r.cfg = s.cfg ∧ r.hist = s.hist ∧ r.ctx = s.ctx ∧ r.queue = s.queue ∧
      r.status = s.status ∧ r.err = s.err ∧ r.raiseDepth = s.raiseDepth ∧ r.errors = s.errors := by
  simp only [finished_stops_macrostep h fl m u ev s hf sel hsel, and_self]

/-- **The loop is cut where the machine finishes.** If the state reached after the candidates
    `pre ++ [c]` is finished (`c` entered a top-level final state, say), folding the whole list
    `pre ++ c :: post` yields that very state: `post` contributes nothing. -/
theorem completion_cuts_fold (h : Hooks) (fl : Flavor) (m : Machine) (ev : Ev) (n : Nat) (pre post : List Cand)
    (c : Cand) (s : St) (hf : finished ((pre ++ [c]).foldl (peStep h fl m ev n) s).status = true) :
    (pre ++ c :: post).foldl (peStep h fl m ev n) s = (pre ++ [c]).foldl (peStep h fl m ev n) s := by
  rw [List.append_cons, List.foldl_append]
  exact peFold_finished h fl m ev n post _ hf

/-- **… for a whole event.** If the selected list is `pre ++ c :: post` and the machine is finished
    once `c` has been dealt with, the result of the macrostep is the state at that point: no transition
    of `post` executes — no action of theirs runs, the final state is not left again. -/
theorem completion_cuts_macrostep (h : Hooks) (fl : Flavor) (m : Machine) (u : UEnv) (ev : Ev) (s : St)
    (pre post : List Cand) (c : Cand)
    (hsel : selectTransitions m s.cfg (u.genv s.ctx ev.type) ev = .ok (pre ++ c :: post))
    (hf : finished ((pre ++ [c]).foldl (peStep h fl m ev (pre ++ c :: post).length) s).status = true) :
    processEvent h fl m u ev s = (pre ++ [c]).foldl (peStep h fl m ev (pre ++ c :: post).length) s := by
  rw [processEvent_is_fold h fl m u ev s _ hsel]
  exact completion_cuts_fold h fl m ev _ pre post c s hf

/-- in particular the status the macrostep ends with is the finished one (e.g. "done" stays "done") -/
theorem completion_status_kept (h : Hooks) (fl : Flavor) (m : Machine) (u : UEnv) (ev : Ev) (s : St)
    (pre post : List Cand) (c : Cand)
    (hsel : selectTransitions m s.cfg (u.genv s.ctx ev.type) ev = .ok (pre ++ c :: post))
    (hf : finished ((pre ++ [c]).foldl (peStep h fl m ev (pre ++ c :: post).length) s).status = true) :
    finished (processEvent h fl m u ev s).status = true := by
  rw [completion_cuts_macrostep h fl m u ev s pre post c hsel hf]; exact hf

/-- **The witness of F26** (`f26M`, `findings/F26_transitions_after_completion.json`): in the start
    configuration event `D` selects two transitions — `x → #m.f` (region `r2`, deepest source, first)
    and the root's `→ #m.p.r1.b` … -/
example : (syncStart f26M exU {}).cfg = f26S.cfg ∧ (syncStart f26M exU {}).status = "running" := f26M_runs.1
example : (match selectTransitions f26M f26S.cfg (exU.genv [] "D") (.user "D") with
    | .ok sel => some (sel.map (fun c => (c.src, c.t.tid)))
    | .error _ => none) = some [(["p", "r2", "x"], 1), ([], 0)] := by decide +kernel
/-- … the first one enters the top-level final state `f` and completes the machine; the source of the
    second (the root) is still active, so the stale-source test does not skip it … -/
example : let s1 := peStep (hooksFlagged exU f26M) .sync f26M (.user "D") 2 f26S ⟨["p", "r2", "x"], f26XT⟩
    (s1.status, s1.cfg, s1.cfg.contains [], s1.trace) =
      ("done", [[], ["f"]], true, ["#t:m,m.f", "en:f@D", "tr:p.r2.x:D:0@D"]) := f26M_runs.2.1.1
/-- … executing it there is what the unrepaired library did: `f` is left again (its exit action runs),
    the transition's action runs, the machine is "done" outside any final state … -/
example : let s1 := peStep (hooksFlagged exU f26M) .sync f26M (.user "D") 2 f26S ⟨["p", "r2", "x"], f26XT⟩
    let s2 := execute (hooksFlagged exU f26M) .sync f26M (.user "D") (planTransition f26M s1.cfg s1.hist ⟨[], f26RootT⟩) s1
    (s2.status, s2.cfg.contains ["f"], s2.trace.take 3) =
      ("done", false, ["#t:m,m.p,m.p.r2,m.p.r2.x,m.p.r1,m.p.r1.b", "tr::D:0@D", "ex:f@D"]) := f26M_runs.2.1.2.1
/-- … and the model, like the repaired library, stops: the second step returns the state unchanged,
    and the whole event ends in `f` with status "done"; `tr::D:0` and `ex:f` never run. Both engines. -/
example : let s1 := peStep (hooksFlagged exU f26M) .sync f26M (.user "D") 2 f26S ⟨["p", "r2", "x"], f26XT⟩
    let s2 := peStep (hooksFlagged exU f26M) .sync f26M (.user "D") 2 s1 ⟨[], f26RootT⟩
    (s2.status, s2.cfg, s2.trace) = (s1.status, s1.cfg, s1.trace) := f26M_runs.2.1.2.2
example : let s := processEvent (hooksFlagged exU f26M) .sync f26M exU (.user "D") f26S
    (s.status, s.cfg, s.trace) = ("done", [[], ["f"]], ["#t:m,m.f", "en:f@D", "tr:p.r2.x:D:0@D"]) := f26M_runs.2.2.1
example : let s := syncSend f26M exU (.user "D") (syncStart f26M exU {})
    (s.status, s.cfg, s.trace) = ("done", [[], ["f"]], ["#t:m,m.f", "en:f@D", "tr:p.r2.x:D:0@D", "#recv:D"]) :=
  f26M_runs.2.2.2.1
example : let s := asyncSend f26M exU (.user "D") (asyncStart f26M exU {})
    (s.status, s.cfg, s.trace) = ("done", [[], ["f"]], ["#t:m,m.f", "en:f@D", "tr:p.r2.x:D:0@D", "#recv:D"]) :=
  f26M_runs.2.2.2.2

end XSM.C10

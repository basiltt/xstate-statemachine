import Xsm.Proofs.Perm
/-!
# C16 — behaviour does not depend on the iteration order of the active configuration

"Two runs of the same machine definition with the same logic and the same event sequence yield
identical sequences of configurations, contexts and executed actions - including the order of entry
and exit actions across parallel regions and when history is restored - regardless of hash seed,
object addresses, process, or which interpreter is used. Generated identifiers (actor ids, timer
keys) may differ between runs but never influence ordering or selection."

In the implementation the active configuration is a `set` of node objects hashed by address: its
iteration order is unspecified and changes from run to run. The model keeps it as a `List Path`
(`St.cfg`). The formal counterpart of the property: **every model function that consumes `cfg` gives
the same result on every permutation of `cfg`.** The model is a function, so two runs of the model
on the same inputs are trivially equal; what is proved here is that the one degree of freedom the
implementation has and the model fixes arbitrarily — the order of the configuration — is irrelevant.

Sites that iterate the configuration, and the theorem for each:

| implementation                                   | model                    | theorem                     |
|--------------------------------------------------|--------------------------|-----------------------------|
| `_select_transitions`: `sorted(leaves, (-depth,id))` | `leavesSorted`        | `leavesSorted_perm`         |
| `_is_state_in`: `any(...)`                       | `isStateIn`, `evalGuard` | `isStateIn_perm`, `evalGuard_perm` |
| `_select_transitions` as a whole, `can`          | `selectTransitions`      | `selectTransitions_perm`, `can_perm` |
| `_compute_states_to_exit`: set comprehension     | `exitSet`                | `exitSet_perm`              |
| `_execute_transition`: `sorted(..., (depth,id), reverse=True)` | `sortExit` | `sortExit_perm`           |
| the plan of a transition                         | `planTransition`         | `planTransition_perm`       |
| `_record_history`: `sorted(..., (depth,id))`     | `recordHistory`          | `recordHistory_perm`        |
| `_is_state_done`: `next(active child)`           | `doneNode`, `isStateDone`| `doneNode_perm`, `isStateDone_perm_legal` |
| one transition / one event / the eventless loop  | `execute`, `processEvent`, `transientLoop` | `execute_perm`, `processEvent_perm`, `transientLoop_perm` |

Hypotheses, and why each is needed:

* `IdInj m cfg` — the dotted id is injective on the elements of `cfg`, i.e. the sort key (depth, id) is
  injective. Both sorts are stable (insertion sort here, timsort there), so among states of equal key
  the incoming order survives: without the hypothesis the statements are false (example below).
  `idOf_injective` gives it for keys that contain no `'.'` (`idInj_of_dotFree`).
* `CompUniq cfg p n` — in the subtree `n` at `p` every *compound* state has at most one active child
  (`UniqAt`). `_is_state_done` takes "the" active child of a compound state with `next(...)`; with two
  of them the answer depends on the order (example below). `Legal` (C01) implies it
  (`compUniq_root_of_legal`). The uniqueness is required of compound states only: an active parallel
  state has all its regions active.

**Generated identifiers.** The model state `St` (configuration, history, queue, status, trace, error
flag, integer context, two counters) contains no generated identifier at all: actor ids and timer
keys do not exist in the model, and nothing that selection (`selectTransitions`), planning
(`planTransition`) or execution (`execute`) reads could hold one. Transition identity (`Trans.tid`,
Python `id(transition)`) is used only for equality (`seen`, guard cache), never for ordering. So the
last sentence of the property is true of the model by construction; there is no theorem to state.

Helper definitions and all proofs: `Xsm/Proofs/Perm.lean`.
-/
namespace XSM.C16
open XSM XSM.Spec XSM.SelEx

/-! ## 0. sorting -/

/-- *Two sorted permutations of a list with unique keys are equal.* If `le` is, on the elements of
    `xs`, total, transitive and antisymmetric, sorting any permutation of `xs` gives the same list. -/
theorem sortBy_perm_eq {α : Type} (le : α → α → Bool) {xs ys : List α} (hp : xs.Perm ys)
    (htot : ∀ a ∈ xs, ∀ b ∈ xs, le a b = true ∨ le b a = true)
    (htr : ∀ a ∈ xs, ∀ b ∈ xs, ∀ c ∈ xs, le a b = true → le b c = true → le a c = true)
    (hanti : ∀ a ∈ xs, ∀ b ∈ xs, le a b = true → le b a = true → a = b) :
    sortBy le xs = sortBy le ys :=
  XSM.sortBy_perm_eq le hp htot htr hanti

example : sortBy (fun a b : Nat => decide (a ≤ b)) [3, 1, 2, 5] = sortBy (fun a b : Nat => decide (a ≤ b)) [5, 2, 3, 1] := by
  decide +kernel
/-- without antisymmetry the incoming order shows (the sort is stable): key = value / 10 -/
example : sortBy (fun a b : Nat => decide (a / 10 ≤ b / 10)) [11, 12] ≠
    sortBy (fun a b : Nat => decide (a / 10 ≤ b / 10)) [12, 11] := by decide +kernel

/-! ## 1. the sort key is injective -/

/-- *`idOf` is injective on paths whose keys contain no dot*, whatever the machine id (it is a common
    prefix). Together with the depth this makes (depth, id) an injective key. -/
theorem idOf_injective (m : Machine) (p q : Path)
    (hp : ∀ k ∈ p, '.' ∉ k.toList) (hq : ∀ k ∈ q, '.' ∉ k.toList)
    (h : m.idOf p = m.idOf q) : p = q :=
  XSM.idOf_injective m p q hp hq h

/-- hence `IdInj` for every configuration with dot-free keys -/
theorem idInj_of_dotFree (m : Machine) (c : List Path) (h : DotFree c) : IdInj m c :=
  fun a ha b hb e => XSM.idOf_injective m a b (h a ha) (h b hb) e

example : exM.idOf ["P", "A", "a1"] = "m.P.A.a1" := by decide +kernel
example : DotFree exCfg := by decide +kernel
/-- keys with dots are outside the theorem: two different states of equal depth and equal id -/
example : exM.idOf ["a.b", "c"] = exM.idOf ["a", "b.c"] ∧ (["a.b", "c"] : Path) ≠ ["a", "b.c"] := by decide +kernel

/-- a non-trivial permutation of `exCfg`, used by the examples below -/
def exCfg' : List Path := [["P", "B", "b1"], [], ["P", "A", "a1"], ["P"], ["P", "B"], ["P", "A"]]
example : exCfg.Perm exCfg' := by decide +kernel

/-! ## 2. each ordering site -/

/-- *Selection order.* The list of leaves selection walks — deepest first, then by id, with the
    fallback "no leaf: every active state" — is the same for every order of the configuration. -/
theorem leavesSorted_perm (m : Machine) {cfg cfg' : List Path} (hp : cfg.Perm cfg') (hinj : IdInj m cfg) :
    leavesSorted m cfg = leavesSorted m cfg' :=
  XSM.leavesSorted_perm m hp hinj

example : leavesSorted exM exCfg = [["P", "A", "a1"], ["P", "B", "b1"]] ∧
    leavesSorted exM exCfg' = [["P", "A", "a1"], ["P", "B", "b1"]] := by decide +kernel
/-- the fallback branch: a configuration without leaves -/
example : leavesSorted exM [[], ["P"], ["P", "A"]] = leavesSorted exM [["P", "A"], [], ["P"]] := by decide +kernel

/-- *`stateIn` guards* ask whether some active state has the id: no order involved. -/
theorem isStateIn_perm (m : Machine) {cfg cfg' : List Path} (hp : cfg.Perm cfg') (params : Option J) :
    isStateIn m cfg params = isStateIn m cfg' params :=
  XSM.isStateIn_perm m hp params

/-- *Guard evaluation* (any nesting of `and` / `or` / `not` / `stateIn` / user guards). -/
theorem evalGuard_perm (m : Machine) {cfg cfg' : List Path} (hp : cfg.Perm cfg') (env : GEnv) (g : GuardExpr) :
    evalGuard m cfg env g = evalGuard m cfg' env g :=
  XSM.evalGuard_perm m hp env g

example :
    (evalGuard exM exCfg exEnv (.and [.stateIn (some (.str "P.B.b1")), .not (.stateIn (some (.str "#m.Q")))])).toOption
      = some true ∧
    (evalGuard exM exCfg' exEnv (.and [.stateIn (some (.str "P.B.b1")), .not (.stateIn (some (.str "#m.Q")))])).toOption
      = some true := by
  decide +kernel

/-- *Selection as a whole*: the same transitions, in the same order, with the same sources; and the
    same error when a guard has no implementation. -/
theorem selectTransitions_perm (m : Machine) {cfg cfg' : List Path} (hp : cfg.Perm cfg')
    (hinj : IdInj m cfg) (env : GEnv) (ev : Ev) :
    selectTransitions m cfg env ev = selectTransitions m cfg' env ev :=
  XSM.selectTransitions_perm m hp hinj env ev

/-- `can(event)` -/
theorem can_perm (m : Machine) {cfg cfg' : List Path} (hp : cfg.Perm cfg')
    (hinj : IdInj m cfg) (env : GEnv) (ev : Ev) : can m cfg env ev = can m cfg' env ev := by
  simp only [can, XSM.selectTransitions_perm m hp hinj]

example : tidsOf (selectTransitions exM exCfg exEnv (.user "F")) = some [2, 3] ∧
    tidsOf (selectTransitions exM exCfg' exEnv (.user "F")) = some [2, 3] := by decide +kernel

/-- *The exit set* of a permuted configuration is a permutation of the exit set. -/
theorem exitSet_perm (m : Machine) {c c' : List Path} (hp : c.Perm c') (dom tgt : Path) :
    (exitSet m c dom tgt).Perm (exitSet m c' dom tgt) :=
  XSM.exitSet_perm m hp dom tgt

/-- *Exit order* — deepest first, ties by id descending — does not depend on the incoming order. -/
theorem sortExit_perm (m : Machine) {xs ys : List Path} (hp : xs.Perm ys) (hinj : IdInj m xs) :
    sortExit m xs = sortExit m ys :=
  XSM.sortExit_perm m hp hinj

example : sortExit exM exCfg' =
    [["P", "B", "b1"], ["P", "A", "a1"], ["P", "B"], ["P", "A"], ["P"], []] ∧
    sortExit exM exCfg = sortExit exM exCfg' := by decide +kernel

/-- *The whole plan of a transition* — ordered exits, actions, ordered entries (default descent,
    restored history), pending error — is the same. Entries never read the configuration; history
    targets read `hist` only. -/
theorem planTransition_perm (m : Machine) {cfg cfg' : List Path} (hp : cfg.Perm cfg') (hinj : IdInj m cfg)
    (hist : List (Path × List Path)) (c : Cand) :
    planTransition m cfg hist c = planTransition m cfg' hist c :=
  XSM.planTransition_perm m hp hinj hist c

/-- `a1 --X--> #m.Q` leaves both regions: exits across the parallel state in one fixed order -/
example : (planTransition exM exCfg [] ⟨["P", "A", "a1"], t4⟩).exits =
      [["P", "B", "b1"], ["P", "A", "a1"], ["P", "B"], ["P", "A"], ["P"]] ∧
    (planTransition exM exCfg' [] ⟨["P", "A", "a1"], t4⟩).exits =
      [["P", "B", "b1"], ["P", "A", "a1"], ["P", "B"], ["P", "A"], ["P"]] := by decide +kernel

/-! ### history -/

/-- *What is remembered when a state with a history child is left* is EQUAL — as a list, in order —
    for every order of the configuration (with the same list of exiting states, which
    `planTransition_perm` provides). The remembered list is the entry order when the history is
    restored (`resolveHistoryTarget` filters it, `planEnter` walks it). -/
theorem recordHistory_perm (m : Machine) (ex : List Path) (s s' : St) (hp : s.cfg.Perm s'.cfg)
    (hh : s.hist = s'.hist) (hinj : IdInj m s.cfg) :
    (recordHistory m ex s).hist = (recordHistory m ex s').hist :=
  XSM.recordHistory_perm m ex s s' hp hh hinj

/-- a parallel state with two regions and a history child -/
def hM : Machine :=
  { id := "m", maxIterations := 10, customIds := [],
    root := .mk (mkD .compound (some "P")) [
      ("P", .mk (mkD .parallel) [
        ("A", .mk (mkD .compound (some "a1")) [("a1", .mk (mkD .atomic) []), ("a2", .mk (mkD .atomic) [])]),
        ("B", .mk (mkD .compound (some "b1")) [("b1", .mk (mkD .atomic) [])]),
        ("H", .mk { mkD .history with deep := true } [])]),
      ("Q", .mk (mkD .atomic) [])] }

def hEx : List Path := [["P", "B", "b1"], ["P", "A", "a1"], ["P", "B"], ["P", "A"], ["P"]]

example : (recordHistory hM hEx { cfg := exCfg }).hist =
      [(["P"], [["P", "A"], ["P", "B"], ["P", "A", "a1"], ["P", "B", "b1"]])] ∧
    (recordHistory hM hEx { cfg := exCfg' }).hist =
      [(["P"], [["P", "A"], ["P", "B"], ["P", "A", "a1"], ["P", "B", "b1"]])] := by decide +kernel

/-- the code before the fix "record history in a deterministic (depth, id) order": the remembered list
    in configuration order -/
def recordHistoryUnsorted (m : Machine) (exiting : List Path) (s : St) : St :=
  let cands := (exiting.flatMap chainUp).eraseDups
  let hist := cands.foldl (fun hist st =>
    match m.root.at st with
    | none => hist
    | some n =>
      if hasHistoryKid n then
        let rem := s.cfg.filter (fun q => q != st && st.isPrefixOf q)
        if rem.isEmpty then hist else (hist.filter (fun kv => kv.1 != st)) ++ [(st, rem)]
      else hist) s.hist
  { s with hist := hist }

/-- for that version the statement of `recordHistory_perm` is false -/
example : (recordHistoryUnsorted hM hEx { cfg := exCfg }).hist ≠
    (recordHistoryUnsorted hM hEx { cfg := exCfg' }).hist := by decide +kernel

/-! ### done-ness -/

/-- *`_is_state_done`.* When every compound state below `p` has at most one active child, the answer
    does not depend on the order. -/
theorem doneNode_perm {cfg cfg' : List Path} (hp : cfg.Perm cfg') (p : Path) (n : SNode)
    (hu : CompUniq cfg p n) : doneNode cfg p n = doneNode cfg' p n :=
  XSM.doneNode_perm hp p n hu

/-- the hypothesis in the flat form "every state has at most one active child" (stronger than needed:
    it excludes two active regions of a parallel state) -/
theorem doneNode_perm_of_forall {cfg cfg' : List Path} (hp : cfg.Perm cfg') (p : Path) (n : SNode)
    (hU : ∀ p, ∀ q₁ ∈ cfg, ∀ q₂ ∈ cfg, q₁.dropLast = p → q₂.dropLast = p → q₁ ≠ [] → q₂ ≠ [] → q₁ = q₂) :
    doneNode cfg p n = doneNode cfg' p n :=
  XSM.doneNode_perm hp p n (compUniq_of_forall hU p n)

/-- a legal configuration (C01) of a well-formed machine satisfies the hypothesis -/
theorem compUniq_of_legal (m : Machine) (hwf : WF m.root) {cfg : List Path} (hL : Legal m.root cfg) :
    CompUniq cfg [] m.root :=
  compUniq_root_of_legal hwf hL

/-- *`_is_state_done` on legal configurations*, for any state of the machine -/
theorem isStateDone_perm_legal (m : Machine) (hwf : WF m.root) {cfg cfg' : List Path} (hp : cfg.Perm cfg')
    (hL : Legal m.root cfg) (p : Path) : isStateDone m cfg p = isStateDone m cfg' p :=
  XSM.isStateDone_perm m hp (compUniq_root_of_legal hwf hL) p

/-- a compound state with an atomic and a final child -/
def dM : Machine :=
  { id := "m", maxIterations := 10, customIds := [],
    root := .mk (mkD .compound (some "a")) [("a", .mk (mkD .atomic) []), ("f", .mk (mkD .final) [])] }

example : isStateDone dM [[], ["f"]] [] = true ∧ isStateDone dM [["f"], []] [] = true := by decide +kernel
/-- the hypothesis is needed: on an ILLEGAL configuration (both children active) the answer is the
    done-ness of whichever child comes first -/
example : isStateDone dM [[], ["a"], ["f"]] [] = false ∧ isStateDone dM [["f"], ["a"], []] [] = true := by
  decide +kernel

/-! ## 3. the step level -/

/-- *One transition, whole state.* `St.equiv m s s'`: the configurations are permutations of each other,
    every other field is equal, and the traces are equal record by record except that a `#t:`
    observer record may list the same configuration in another order (`RecEq`). Executing the same plan
    from equivalent states gives equivalent states: the same context, history, queue (raised and
    `done.state` events in the same order), status, error, and the same executed actions in the same
    order. `hh`: the engine's hooks respect the equivalence (`hooksFlagged_perm`,
    `hooksAsyncStart_perm`, `hooksAsync_perm`); `hu`: at-most-one-active-child in the configuration the
    plan produces (entries only add states, so it then holds wherever done-ness is evaluated). -/
theorem execute_perm {m : Machine} {h : Hooks} (hok : HooksOK h) (hh : HooksPerm m h) (fl : Flavor)
    (ev : Ev) (pl : Plan) {s s' : St} (he : St.equiv m s s') (hinj : IdInj m s.cfg)
    (hu : pl.internal = false → CompUniq (runPlan h fl m ev pl s).cfg [] m.root) :
    St.equiv m (execute h fl m ev pl s) (execute h fl m ev pl s') :=
  execute_equiv hok hh fl ev pl he hinj hu

/-- *Plan and execute* one selected transition, each in its own state. -/
theorem microstep_perm {m : Machine} {h : Hooks} (hok : HooksOK h) (hh : HooksPerm m h) (fl : Flavor)
    (ev : Ev) (c : Cand) {s s' : St} (he : St.equiv m s s') (hinj : IdInj m s.cfg)
    (hu : (planTransition m s.cfg s.hist c).internal = false →
      CompUniq (runPlan h fl m ev (planTransition m s.cfg s.hist c) s).cfg [] m.root) :
    St.equiv m (execute h fl m ev (planTransition m s.cfg s.hist c) s)
      (execute h fl m ev (planTransition m s'.cfg s'.hist c) s') :=
  microstep_equiv hok hh fl ev c he hinj hu

/-- the same from the hypotheses of C01 only, for a transition that completes: well-formed machine,
    legal configuration, keys without dots -/
theorem microstep_perm_legal {m : Machine} {h : Hooks} (hok : HooksOK h) (hh : HooksPerm m h) (fl : Flavor)
    (ev : Ev) (c : Cand) {s s' : St} (he : St.equiv m s s')
    (hwf : WF m.root) (hi : InitOK m.root) (hl : Legal m.root s.cfg) (hc : CandOK m c) (hsrc : c.src ∈ s.cfg)
    (hdf : DotFree s.cfg)
    (herr : (execute h fl m ev (planTransition m s.cfg s.hist c) s).err = none) :
    St.equiv m (execute h fl m ev (planTransition m s.cfg s.hist c) s)
      (execute h fl m ev (planTransition m s'.cfg s'.hist c) s') :=
  microstep_equiv hok hh fl ev c he (idInj_of_dotFree m s.cfg hdf)
    (fun hint => compUniq_runPlan_of_legal h fl m ev _ s hwf hint herr
      (legal_microstep h hok fl m ev c s hwf hi hl hc hsrc))

/-- *One event* (select, then plan and execute every selected transition, stale ones skipped), for any
    invariant `P` of the run that provides the two hypotheses at every step, for every candidate
    (`StepInv`; legality alone is not such an invariant — the version for the candidates actually
    selected, which legality does provide, is `Snap.processEvent_equiv_run`, used by C12). -/
theorem processEvent_perm {m : Machine} {h : Hooks} (hok : HooksOK h) (hh : HooksPerm m h) (fl : Flavor)
    (u : UEnv) (ev : Ev) {P : St → Prop} (hP : StepInv m h fl P) {s s' : St} (he : St.equiv m s s') (hs : P s) :
    St.equiv m (processEvent h fl m u ev s) (processEvent h fl m u ev s') ∧ P (processEvent h fl m u ev s) :=
  processEvent_equiv hok hh fl u ev hP he hs

/-- *The eventless ("always") loop.* -/
theorem transientLoop_perm {m : Machine} {h : Hooks} (hok : HooksOK h) (hh : HooksPerm m h) (fl : Flavor)
    (u : UEnv) {P : St → Prop} (hP : StepInv m h fl P) (fuel : Nat) {s s' : St} (he : St.equiv m s s') (hs : P s) :
    St.equiv m (transientLoop h fl m u fuel s) (transientLoop h fl m u fuel s') ∧
      P (transientLoop h fl m u fuel s) :=
  transientLoop_equiv_of hP.inj hP.fail (processEvent_equiv hok hh fl u _ hP) fuel he hs

/-- the hooks of both engines respect the equivalence -/
example (u : UEnv) (m : Machine) : HooksPerm m (hooksFlagged u m) := hooksFlagged_perm u m
example (u : UEnv) (m : Machine) : HooksPerm m (hooksAsyncStart u m) := hooksAsyncStart_perm u m
example (u : UEnv) (m : Machine) : HooksPerm m (hooksAsync u m) := hooksAsync_perm u m

/-- a transition inside region `A` (`a1 → a2`), run from `exCfg` and from `exCfg'`: same actions; the
    resulting configurations are permutations of each other and so are the two `#t:` records — the one
    place where the order of `cfg` is visible, and the reason `St.equiv` compares traces by `RecEq` -/
def tG : Trans := mkT 9 "G" (some "a2") none ["go"]
example :
    (execute (hooksFlagged exU exM) .sync exM (.user "G") (planTransition exM exCfg [] ⟨["P", "A", "a1"], tG⟩)
        { cfg := exCfg, status := "running" }).trace =
      ["#t:m,m.P,m.P.A,m.P.B,m.P.B.b1,m.P.A.a2", "go@G"] ∧
    (execute (hooksFlagged exU exM) .sync exM (.user "G") (planTransition exM exCfg' [] ⟨["P", "A", "a1"], tG⟩)
        { cfg := exCfg', status := "running" }).trace =
      ["#t:m.P.B.b1,m,m.P,m.P.B,m.P.A,m.P.A.a2", "go@G"] := by decide +kernel

end XSM.C16

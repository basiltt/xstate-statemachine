import Xsm.Proofs.TraceEx
import Xsm.Proofs.SelSound
/-!
# C03 — order of exit / transition / entry actions, event identity, accounting, frame

"While one transition executes, every exit action runs before its transition actions and every
entry action after them; a state's exit actions run before those of its ancestors and its entry
actions after those of its ancestors, and entry/exit/transition actions receive the event that
caused them. Over any processed event, for every state, (times its entry actions ran) minus (times
its exit actions ran) equals its change in activity (+1, 0 or -1), a state is never entered while
already active, and states outside the subtree of the least common ancestor of the transition's
source and target - in particular sibling parallel regions - see no entry, exit, timer cancellation
or service restart at all."

Statements about the executable model (`Xsm/Model/Engine.lean`: `execActions`, `exitOne`, `enterOne`,
`runPlan`, `execute`, `processEvent`; `Xsm/Model/Plan.lean`: `planTransition`, `sortExit`); helper
definitions and lemmas live in `Xsm/Proofs/Trace.lean`. Everything is for arbitrary machines, user
environments and hooks that only enqueue (`HooksOK`, `HooksTraceOK` — true of the hooks of both
engines in every phase, see `hooks_ok`).

Vocabulary (all from `Xsm/Proofs/Trace.lean`):
* `St.chron s` — the trace of `s` oldest record first (`St.trace` is newest first);
* `Adds P s s'` — `s'.trace = t ++ s.trace` for some `t` all of whose records satisfy `P`;
* `ActRec evn r` — `r` is `name ++ "@" ++ evn` (an action run with event name `evn`) or `"#aerr:" ++ name`
  (a raising action, contained); `TransRec evn r` — that, or the observer record `"#t:" ++ …`;
* `actRecords h as evn s` — what running the action list `as` with event name `evn` from state `s`
  appends (it depends on `s`: `choose` reads the context, user actions may raise or be missing);
  `exitRecords`/`entryRecords` — the same for the exit/entry list of one state;
  `exitsRecords`/`entriesRecords` — for a list of states, state by state in list order;
  `exitPhase`/`actionPhase`/`entryPhase` — for the three phases of a plan; `obsPart` — `[#t:…]` or `[]`;
* `recOf evn a` — `a.type ++ "@" ++ evn`; `exitNames`/`entryNames` — the declared exit/entry actions of a
  state as such records; `AllActionsOK h` — every action is implemented and returns;
* `NoLaterPrefix l` — no element of `l` is an ancestor-or-self of an earlier element;
* `PlainTarget m c tgt` — candidate `c` has a declared target resolving to the existing, non-history,
  non-root state `tgt` and is external (the hypotheses of `C01`'s plain microstep);
* `regionOf dom tgt` — the child of `dom` on the way to `tgt`; `activity c q` — 1 if `q ∈ c` else 0.

The `example`s use the machine `exM` (`Xsm/Proofs/TraceEx.lean`, where its runs are evaluated), in
configuration `exCfg = {m, P, A, a1, B, b1}`; state `n` has entry action `en<n>` and exit action `ex<n>`;
every action is implemented (`exU`) except in `exUMissing`, which implements none called `nope`:
```
m (compound, initial P)
├─ P (parallel)
│  ├─ A (compound, initial a1)
│  │  ├─ a1   on X → a2 [tx]   on Y → #m.Q [ty]   on I (no target) [ti]   on Z → #m.P.B.b2 [tz]
│  │  │       on W → a2 [nope]
│  │  └─ a2
│  └─ B (compound, initial b1)
│     ├─ b1
│     └─ b2
└─ Q
```
-/
namespace XSM.C03
open XSM XSM.Spec

/-- the hypotheses of the theorems below are met on `exM` / `exCfg` -/
theorem exWF : WF exM.root := by
  simp only [exM, WF, WFKids, HasRealKid, mkD, SNode.kind, SNode.d, reduceCtorEq, false_or, Option.some.injEq,
    exists_eq_left']
  decide +kernel
theorem exInitOK : InitOK exM.root := by
  simp only [exM, InitOK, InitOKKids, mkD, truthyInit, reduceCtorEq, false_implies, Option.some.injEq,
    exists_eq_left', and_true, true_and, ne_eq, not_false_eq_true, true_implies]
  decide
theorem exLegal : Legal exM.root exCfg := by
  apply legal_of_legalAt exM.root exWF
  · simp only [exM, LegalAt, OneKid, AllKids, ClearKids, mkD, SNode.kind, SNode.d, reduceCtorEq, ↓reduceIte,
      false_or]
    decide +kernel
  · intro q hq
    have : (exM.root.at q).isSome = true := by
      revert q; decide +kernel
    exact Option.isSome_iff_exists.1 this
theorem exPlainX : PlainTarget exM cX ["P", "A", "a2"] :=
  ⟨⟨"a2", rfl, by decide +kernel, exM_runs.2.2.2.2.2.2.1⟩, by decide +kernel, by decide +kernel, by decide⟩
theorem exPlainY : PlainTarget exM cY ["Q"] :=
  ⟨⟨"#m.Q", rfl, by decide +kernel, exM_runs.2.2.2.2.2.2.2.1⟩, by decide +kernel, by decide +kernel, by decide⟩
theorem exPlainZ : PlainTarget exM cZ ["P", "B", "b2"] :=
  ⟨⟨"#m.P.B.b2", rfl, by decide +kernel, exM_runs.2.2.2.2.2.2.2.2⟩, by decide +kernel, by decide +kernel,
   by decide⟩
example : exCfg.Nodup := by decide +kernel
example : a1 ∈ exCfg := by decide +kernel

/-! ## 0. hypotheses on the hooks; the trace only grows -/

/-- the hooks of both engines, in every phase, only enqueue: they touch neither the configuration,
    the error flag, the trace nor the recorded history -/
theorem hooks_ok (u : UEnv) (m : Machine) :
    (HooksOK (hooksFlagged u m) ∧ HooksTraceOK (hooksFlagged u m)) ∧
    (HooksOK (hooksAsync u m) ∧ HooksTraceOK (hooksAsync u m)) ∧
    (HooksOK (hooksAsyncStart u m) ∧ HooksTraceOK (hooksAsyncStart u m)) :=
  ⟨⟨hooksFlagged_ok u m, hooksFlagged_traceOK u m⟩, ⟨hooksAsync_ok u m, hooksAsync_traceOK u m⟩,
   ⟨hooksAsyncStart_ok u m, hooksAsyncStart_traceOK u m⟩⟩

/-- *Key lemma.* The action executor only PREPENDS to the trace (newest first), at every nesting depth,
    and every record it writes carries the event name it was called with. -/
theorem trace_suffix (h : Hooks) (htr : HooksTraceOK h) (fuel : Nat) (as : List ActionRef) (evType : String)
    (s : St) : ∃ t, (execActionsF h fuel as evType s).trace = t ++ s.trace ∧ ∀ r ∈ t, ActRec evType r :=
  execActionsF_adds h htr fuel as evType s

/-- one transition only prepends; each record is an action record of that event, a contained-failure
    marker, or the observer record -/
theorem trace_suffix_execute (h : Hooks) (htr : HooksTraceOK h) (fl : Flavor) (m : Machine) (ev : Ev)
    (pl : Plan) (s : St) :
    ∃ t, (execute h fl m ev pl s).trace = t ++ s.trace ∧ ∀ r ∈ t, TransRec ev.type r :=
  execute_adds h htr fl m ev pl s

/-- a whole processed event (every selected transition, stale ones skipped) only prepends -/
theorem trace_suffix_event (h : Hooks) (htr : HooksTraceOK h) (fl : Flavor) (m : Machine) (u : UEnv) (ev : Ev)
    (s : St) : ∃ t, (processEvent h fl m u ev s).trace = t ++ s.trace ∧ ∀ r ∈ t, TransRec ev.type r :=
  processEvent_adds h htr fl m u ev s

/-! ## 1. exit actions, then transition actions, then entry actions -/

/-- *Clause "every exit action runs before its transition actions and every entry action after them".*
    What `runPlan` appends to the trace is, oldest first, the records of the exit phase, then those of
    the transition's own actions, then those of the entry phase — for every plan, whether or not some
    phase fails (a failed phase makes the later ones empty). -/
theorem trace_shape (h : Hooks) (htr : HooksTraceOK h) (fl : Flavor) (m : Machine) (ev : Ev) (pl : Plan) (s : St) :
    (runPlan h fl m ev pl s).chron =
      s.chron ++ exitPhase h fl m ev pl s ++ actionPhase h fl m ev pl s ++ entryPhase h fl m ev pl s :=
  runPlan_chron h htr fl m ev pl s

/-- the same for `execute` of an external plan: the observer record comes last (only when no phase failed) -/
theorem trace_shape_execute (h : Hooks) (htr : HooksTraceOK h) (fl : Flavor) (m : Machine) (ev : Ev)
    (pl : Plan) (s : St) (hint : pl.internal = false) :
    (execute h fl m ev pl s).chron =
      s.chron ++ exitPhase h fl m ev pl s ++ actionPhase h fl m ev pl s ++ entryPhase h fl m ev pl s
        ++ obsPart h fl m ev pl s :=
  execute_external_chron h htr fl m ev pl s hint

/-- *The phases, unfolded.* The exit phase is one segment per element of `pl.exits`, in that order, each
    segment being the records of that state's `exit` list run with the triggering event's name from
    some intermediate state (empty once an error is pending); the action phase is `pl.actions` run
    after the exits; the entry phase is one segment per element of `pl.entries`, in order. -/
theorem phases_unfold (h : Hooks) (fl : Flavor) (m : Machine) (ev : Ev) (pl : Plan) (s : St) :
    (∃ segs : List (Path × List String), segs.map (·.1) = pl.exits ∧
        exitPhase h fl m ev pl s = segs.flatMap (·.2) ∧
        ∀ x ∈ segs, ∃ s0, x.2 = exitRecords h m ev.type x.1 s0) ∧
    actionPhase h fl m ev pl s = actRecords h pl.actions ev.type (afterExits h fl m ev pl s) ∧
    (∃ segs : List (Entry × List String), segs.map (·.1) = pl.entries ∧
        entryPhase h fl m ev pl s = segs.flatMap (·.2) ∧
        ∀ x ∈ segs, ∃ s0, x.2 = entryRecords h m ev.type x.1 s0) := by
  unfold exitPhase entryPhase
  rw [exitsRecords_eq, entriesRecords_eq]
  exact ⟨foldRecords_segments _ _ _ _, rfl, foldRecords_segments _ _ _ _⟩

/-- one exit / one entry: `exitOne` (`enterOne`) appends exactly the records of that state's exit
    (entry) list run with the event's name; neither depends on the engine flavour -/
theorem exit_one (h : Hooks) (htr : HooksTraceOK h) (fl : Flavor) (m : Machine) (evn : String) (s : St) (p : Path) :
    (exitOne h fl m (some evn) s p).chron = s.chron ++ exitRecords h m evn p s ∧
    exitRecords h m evn p s =
      (if s.err.isSome then [] else
        match m.defAt p with | none => [] | some d => actRecords h d.exit evn s) :=
  ⟨exitOne_chron h htr fl m evn s p, rfl⟩
theorem enter_one (h : Hooks) (htr : HooksTraceOK h) (fl : Flavor) (m : Machine) (evn : String) (s : St) (e : Entry) :
    (enterOne h fl m (some evn) s e).chron = s.chron ++ entryRecords h m evn e s ∧
    entryRecords h m evn e s =
      (if s.err.isSome then [] else
        match m.defAt e.path with | none => [] | some d => actRecords h d.entry evn (addActive e.path s)) :=
  ⟨enterOne_chron h htr fl m evn s e, rfl⟩

/-- *Fully explicit, when every action is implemented and returns:* the trace of a plan is the declared
    exit actions of `pl.exits` in order, then `pl.actions`, then the declared entry actions of
    `pl.entries` in order, each record tagged with the triggering event. -/
theorem trace_shape_explicit (h : Hooks) (hok : HooksOK h) (htr : HooksTraceOK h) (hall : AllActionsOK h)
    (fl : Flavor) (m : Machine) (ev : Ev) (pl : Plan) (s : St) (he : s.err = none) :
    (runPlan h fl m ev pl s).chron =
      s.chron ++ pl.exits.flatMap (exitNames m ev.type) ++ pl.actions.map (recOf ev.type)
        ++ pl.entries.flatMap (fun e => entryNames m ev.type e.path) := by
  rw [runPlan_chron h htr]
  unfold exitPhase actionPhase entryPhase
  rw [exitsRecords_eq, entriesRecords_eq]
  obtain ⟨x1, x2⟩ := foldRecords_flatMap _ _ (I := fun s => s.err = none)
    (fun s p hs => exitOne_ok h hall fl m ev.type s p hs) pl.exits (recordHistory m pl.exits s) he
  have a0 : (afterExits h fl m ev pl s).err = none := x1
  have a1 : afterActions h fl m ev pl s = execActions h pl.actions ev.type (afterExits h fl m ev pl s) := by
    unfold afterActions; simp [a0]
  obtain ⟨_, e2⟩ := foldRecords_flatMap _ _ (I := fun s => s.err = none)
    (fun s e hs => enterOne_ok h hok hall fl m ev.type s e hs) pl.entries (afterActions h fl m ev pl s)
    (by rw [a1]; exact (execActions_ok h hall pl.actions ev.type _ a0).1)
  rw [x2, e2, actRecords_ok h hall _ _ _ a0]

/-- `a1 -Y-> Q` leaves the parallel state: exits deepest first, then `ty`, then the entry of `Q`, then
    the observers; identical in both engines -/
example : (run exU .sync "Y" cY).chron =
    ["exb1@Y", "exa1@Y", "exB@Y", "exA@Y", "exP@Y", "ty@Y", "enQ@Y", "#t:m,m.Q"] := exM_runs.1.1
example : (run exU .async "Y" cY).chron = (run exU .sync "Y" cY).chron := exM_runs.1.2.1
example : exitPhase (hooksFlagged exU exM) .sync exM (.user "Y") (planOf cY) exS =
    ["exb1@Y", "exa1@Y", "exB@Y", "exA@Y", "exP@Y"] := exM_runs.1.2.2.1
example : actionPhase (hooksFlagged exU exM) .sync exM (.user "Y") (planOf cY) exS = ["ty@Y"] := exM_runs.1.2.2.2.1
example : entryPhase (hooksFlagged exU exM) .sync exM (.user "Y") (planOf cY) exS = ["enQ@Y"] := exM_runs.1.2.2.2.2.1
/-- `a1 -W-> a2` whose action `nope` has no implementation: the exit ran, the action phase and the
    entry phase are empty, no observer record -/
example : (run exUMissing .sync "W" cW).chron = ["exa1@W"] ∧ (run exUMissing .sync "W" cW).err.isSome = true :=
  ⟨exM_runs.2.1.1, exM_runs.2.1.2.1⟩

/-! ## 2. every action receives the triggering event -/

/-- exit actions are handed the triggering event's name, in both engines -/
theorem exitEvName_some (fl : Flavor) (m : Machine) (p : Path) (t : String) : exitEvName fl m p (some t) = t :=
  XSM.exitEvName_some fl m p t
/-- entry actions are handed the triggering event's name, in both engines, also when the state is
    reached by default descent (`e.nested = true`): what the fix "sync engine forwards the triggering
    event to default-descent entries" established -/
theorem entryEvName_some (fl : Flavor) (m : Machine) (e : Entry) (t : String) : entryEvName fl m e (some t) = t :=
  XSM.entryEvName_some fl m e t

/-- *Clause "entry/exit/transition actions receive the event that caused them".* Every record of an
    action list run with event name `evType` is `a ++ "@" ++ evType` or starts with `#aerr:` — including
    the follow-up actions of `choose`, at every depth. -/
theorem event_identity (h : Hooks) (htr : HooksTraceOK h) (as : List ActionRef) (evType : String) (s : St) :
    ∀ r ∈ actRecords h as evType s, (∃ a, r = a ++ "@" ++ evType) ∨ (∃ a, r = "#aerr:" ++ a) :=
  actRecords_event h htr as evType s

/-- all three phases of a transition triggered by `ev` use `ev.type` -/
theorem event_identity_phases (h : Hooks) (htr : HooksTraceOK h) (fl : Flavor) (m : Machine) (ev : Ev)
    (pl : Plan) (s : St) :
    (∀ r ∈ exitPhase h fl m ev pl s, ActRec ev.type r) ∧ (∀ r ∈ actionPhase h fl m ev pl s, ActRec ev.type r) ∧
    (∀ r ∈ entryPhase h fl m ev pl s, ActRec ev.type r) :=
  phases_event h htr fl m ev pl s

/-- `a1 -Z-> b2`: `B` is on the explicit path, `b2` too; `a1 -X-> a2`; every record carries the event -/
example : (run exU .sync "Z" cZ).chron =
    ["exb1@Z", "exB@Z", "tz@Z", "enB@Z", "enb2@Z", "#t:m,m.P,m.P.A,m.P.A.a1,m.P.B,m.P.B.b2"] := exM_runs.2.2.1.1
/-- default-descent entries (`nested = true`) get the event as well: re-entering `P` from `Q` -/
example : ((planEnter exM [["P"]]).1.map (fun e => (e.path, e.nested)),
    entriesRecords (hooksFlagged exU exM) .sync exM "GO" (planEnter exM [["P"]]).1 { cfg := [[], ["Q"]] }) =
    ([(["P"], false), (["P", "A"], true), (["P", "A", "a1"], true), (["P", "B"], true), (["P", "B", "b1"], true)],
     ["enP@GO", "enA@GO", "ena1@GO", "enB@GO", "enb1@GO"]) := exM_runs.2.2.2.2.2.1

/-! ## 3. children exit before parents, parents enter before children -/

theorem exit_depth_order (m : Machine) (xs : List Path) :
    (sortExit m xs).Pairwise (fun a b => b.length ≤ a.length) := by
  have : sortExit m xs = (sortBy (leAsc List.length m.idOf) xs).reverse := rfl
  rw [this, List.pairwise_reverse]
  exact sortBy_pairwise (S := fun a b => a.length ≤ b.length) (P := fun _ => True)
    (fun _ _ _ _ => leAsc_key) (fun _ _ _ _ => leAsc_false_key) (fun _ _ _ _ _ _ => Nat.le_trans)
    xs (fun _ _ => trivial)

/-- *Clause "a state's exit actions run before those of its ancestors".* In `sortExit m xs` (the exit
    list of every external plan, `plan_exits_sorted`) a state never comes before one of its strict
    descendants: the list is ordered by non-increasing depth. -/
theorem exit_children_first (m : Machine) (xs l1 l2 : List Path) (a b : Path)
    (h : sortExit m xs = l1 ++ a :: l2) (hb : b ∈ l2) : ¬ (a <+: b ∧ a ≠ b) := by
  have hle : b.length ≤ a.length := pairwise_split (R := fun a b => b.length ≤ a.length) (exit_depth_order m xs) h hb
  intro ⟨hp, hne⟩
  have := strict_prefix_length hp hne
  omega

/-- every plan `planTransition` produces (history targets included) exits in such an order -/
theorem plan_exits_sorted (m : Machine) (cfg : List Path) (hist : List (Path × List Path)) (c : Cand) :
    (planTransition m cfg hist c).exits = [] ∨ ∃ xs, (planTransition m cfg hist c).exits = sortExit m xs := by
  unfold planTransition
  dsimp only
  cases c.t.target with
  | none => exact .inl rfl
  | some tstr =>
    dsimp only
    by_cases h1 : tstr = ""
    · rw [if_pos h1]; exact .inl rfl
    · rw [if_neg h1]
      cases resolveRobust m c.src tstr with
      | none => exact .inl rfl
      | some tgt =>
        dsimp only
        by_cases h2 : (decide (tgt = c.src) && !c.t.reenter) = true
        · rw [if_pos h2]; exact .inl rfl
        · rw [if_neg h2]
          by_cases h3 : m.kindAt tgt = some Kind.history
          · rw [if_pos h3]; exact .inr ⟨_, rfl⟩
          · rw [if_neg h3]; exact .inr ⟨_, rfl⟩

example : (planOf cY).exits = [["P", "B", "b1"], ["P", "A", "a1"], ["P", "B"], ["P", "A"], ["P"]] :=
  exM_runs.1.2.2.2.2.2.1

/-- default descent lists a state before everything below it, and nothing twice -/
theorem enterDefault_parents_first (p : Path) (n : SNode) (hwf : WF n) : NoLaterPrefix (enterDefault p n) :=
  XSM.enterDefault_parents_first p n hwf

/-- *Clause "its entry actions after those of its ancestors".* In the entry list of a transition whose
    explicit path is the chain from the domain down to the target, no state comes before one of its
    strict ancestors. -/
theorem entry_parents_first (root : SNode) (hwf : WF root) (dom tgt : Path) (hd : dom <+: tgt)
    (l1 l2 : List Path) (a b : Path)
    (h : enterStates root (pathToEnter dom tgt) = l1 ++ b :: l2) (ha : a ∈ l2) : ¬ (a <+: b ∧ a ≠ b) :=
  fun hab => pairwise_split (enterStates_chain_parents_first root hwf dom tgt hd) h ha hab.1

/-- the general form (it also covers the combined entry list of a history target, once that list is shown
    parents-first and convex): `_enter_states(L)` is parents-first and duplicate-free whenever `L` is
    parents-first and contains, with two comparable members, every state between them -/
theorem entry_parents_first_general (root : SNode) (hwf : WF root) (L : List Path) (hL : NoLaterPrefix L)
    (hconv : ∀ a ∈ L, ∀ q ∈ L, a <+: q → ∀ p', a <+: p' → p' <+: q → p' ∈ L) :
    NoLaterPrefix (enterStates root L) :=
  enterStates_parents_first root hwf L hL hconv

/-- the same on the plan of a plain-target transition (the plan's entry list *is* `enterStates`, in order) -/
theorem plan_entries_parents_first (m : Machine) (cfg : List Path) (hist : List (Path × List Path)) (c : Cand)
    (tgt : Path) (hwf : WF m.root) (hi : InitOK m.root) (hp : PlainTarget m c tgt) :
    NoLaterPrefix ((planTransition m cfg hist c).entries.map (·.path)) :=
  plain_entries_order m cfg hist c tgt hwf hi hp

example : (planOf cZ).entries.map (·.path) = [["P", "B"], ["P", "B", "b2"]] := exM_runs.2.2.1.2.1
example : enterDefault ["P"] (.mk (mkD .parallel none "P") [
      ("A", .mk (mkD .compound (some "a1") "A") [("a1", .mk (mkD .atomic none "a1") [])]),
      ("B", .mk (mkD .atomic none "B") [])]) = [["P"], ["P", "A"], ["P", "A", "a1"], ["P", "B"]] := by decide +kernel

/-! ## 4. never entered while active; entries minus exits = change in activity -/

/-- *Clause "a state is never entered while already active", plan level.* Whatever the configuration,
    every state a plain-target transition enters is either inactive or exited first. -/
theorem never_enter_active (m : Machine) (cfg : List Path) (hist : List (Path × List Path)) (c : Cand)
    (tgt : Path) (hwf : WF m.root) (hi : InitOK m.root) (hp : PlainTarget m c tgt) :
    ∀ e ∈ (planTransition m cfg hist c).entries, e.path ∈ cfg → e.path ∈ (planTransition m cfg hist c).exits :=
  plain_never_enter_active m cfg hist c tgt hwf hi hp

/-- no state is exited twice, none entered twice, only active states are exited -/
theorem exits_entries_nodup (m : Machine) (cfg : List Path) (hist : List (Path × List Path)) (c : Cand)
    (tgt : Path) (hwf : WF m.root) (hi : InitOK m.root) (hp : PlainTarget m c tgt) (hn : cfg.Nodup) :
    (planTransition m cfg hist c).exits.Nodup ∧ ((planTransition m cfg hist c).entries.map (·.path)).Nodup ∧
    ∀ p ∈ (planTransition m cfg hist c).exits, p ∈ cfg :=
  ⟨plain_exits_nodup m cfg hist c tgt hp hn, (plain_entries_order m cfg hist c tgt hwf hi hp).nodup,
   plain_exits_active m cfg hist c tgt hp⟩

/-- the configuration of the model never holds a state twice (so `cfg.Nodup` above is an invariant) -/
theorem cfg_nodup_preserved (h : Hooks) (hok : HooksOK h) (fl : Flavor) (m : Machine) (ev : Ev) (pl : Plan)
    (s : St) (hn : s.cfg.Nodup) : (execute h fl m ev pl s).cfg.Nodup :=
  execute_nodup h hok fl m ev pl s hn

/-- *The same clause, dynamically.* In a transition that completed, each `enterOne` is applied in a
    state whose configuration does not contain the path being entered. -/
theorem enter_while_inactive (h : Hooks) (hok : HooksOK h) (fl : Flavor) (m : Machine) (ev : Ev) (c : Cand) (s : St)
    (tgt : Path) (hwf : WF m.root) (hi : InitOK m.root) (hp : PlainTarget m c tgt)
    (hst : ∀ q ∈ s.cfg, ∃ n, m.root.at q = some n)
    (hr : (execute h fl m ev (planTransition m s.cfg s.hist c) s).err = none)
    (l1 l2 : List Entry) (e : Entry) (hsplit : (planTransition m s.cfg s.hist c).entries = l1 ++ e :: l2) :
    e.path ∉ (l1.foldl (enterOne h fl m (some ev.type))
      (afterActions h fl m ev (planTransition m s.cfg s.hist c) s)).cfg := by
  obtain ⟨hvx, hve⟩ := plain_valid m s.cfg s.hist c tgt hwf hi hp hst
  exact enter_fresh h hok fl m ev _ s (plain_plan m s.cfg s.hist c tgt hwf hi hp).1 hvx hve hr
    (plain_entries_order m s.cfg s.hist c tgt hwf hi hp).nodup
    (plain_never_enter_active m s.cfg s.hist c tgt hwf hi hp) l1 l2 e hsplit

/-- *Clause "(times its entry actions ran) minus (times its exit actions ran) equals its change in
    activity".* For a plain-target transition that completed, for every state `q`: activity after minus
    activity before = (occurrences of `q` in the entry list) − (occurrences in the exit list); both
    counts are 0 or 1 (`exits_entries_nodup`) and each occurrence is one run of that state's entry
    (exit) list (`phases_unfold`). -/
theorem accounting (h : Hooks) (hok : HooksOK h) (fl : Flavor) (m : Machine) (ev : Ev) (c : Cand) (s : St)
    (tgt : Path) (hwf : WF m.root) (hi : InitOK m.root) (hp : PlainTarget m c tgt)
    (hst : ∀ q ∈ s.cfg, ∃ n, m.root.at q = some n) (hn : s.cfg.Nodup)
    (hr : (execute h fl m ev (planTransition m s.cfg s.hist c) s).err = none) (q : Path) :
    activity (execute h fl m ev (planTransition m s.cfg s.hist c) s).cfg q - activity s.cfg q =
      (((planTransition m s.cfg s.hist c).entries.map (·.path)).count q : Int) -
        ((planTransition m s.cfg s.hist c).exits.count q : Int) :=
  plain_accounting h hok fl m ev c s tgt hwf hi hp hst hn hr q

/-- the set form it is derived from (any external plan that completed) -/
theorem accounting_sets (h : Hooks) (hok : HooksOK h) (fl : Flavor) (m : Machine) (ev : Ev) (pl : Plan) (s : St)
    (hint : pl.internal = false)
    (hvx : ∀ p ∈ pl.exits, (m.defAt p).isSome) (hve : ∀ e ∈ pl.entries, (m.defAt e.path).isSome)
    (hr : (execute h fl m ev pl s).err = none) (q : Path) :
    q ∈ (execute h fl m ev pl s).cfg ↔ (q ∈ s.cfg ∧ q ∉ pl.exits) ∨ q ∈ pl.entries.map (·.path) :=
  (execute_cfg h hok fl m ev pl s hint hvx hve hr).2 q

/-- and the arithmetic step, for arbitrary lists -/
theorem accounting_arith (cfg cfg' X E : List Path)
    (hmem : ∀ q, q ∈ cfg' ↔ (q ∈ cfg ∧ q ∉ X) ∨ q ∈ E)
    (hX : ∀ q ∈ X, q ∈ cfg) (hXn : X.Nodup) (hEn : E.Nodup) (hnea : ∀ q ∈ E, q ∈ cfg → q ∈ X) (q : Path) :
    activity cfg' q - activity cfg q = (E.count q : Int) - (X.count q : Int) :=
  accounting_count cfg cfg' X E hmem hX hXn hEn hnea q

/-- *"Over any processed event".* If an event is processed without error, then for every state the
    change in activity equals `evNet`: entries minus exits of that state summed over the transitions
    the event fires (`evNet_cons`: nothing fires once the machine has finished, stale candidates contribute nothing, every other one contributes
    its plan's counts). `TargetsPlain`: every declared transition is target-less or has a plain target. -/
theorem accounting_event (h : Hooks) (hok : HooksOK h) (fl : Flavor) (m : Machine) (u : UEnv) (ev : Ev)
    (hwf : WF m.root) (hi : InitOK m.root) (ht : TargetsPlain m) (s : St) (hl : Legal m.root s.cfg)
    (hn : s.cfg.Nodup) (sel : List Cand)
    (hs : selectTransitions m s.cfg (u.genv s.ctx ev.type) ev = .ok sel)
    (hr : (processEvent h fl m u ev s).err = none) (q : Path) :
    activity (processEvent h fl m u ev s).cfg q - activity s.cfg q =
      evNet h fl m ev (decide (sel.length > 1)) sel s q :=
  event_accounting h hok fl m u ev hwf hi (selSoundPlain_of_targetsPlain m ht) s hl hn sel hs hr q

theorem evNet_cons (h : Hooks) (fl : Flavor) (m : Machine) (ev : Ev) (multi : Bool) (c : Cand) (cs : List Cand)
    (s : St) (q : Path) :
    evNet h fl m ev multi (c :: cs) s q =
      if s.err.isSome then 0
      else if finished s.status then 0
      else if multi && !(s.cfg.contains c.src) then evNet h fl m ev multi cs s q
      else
        (((planTransition m s.cfg s.hist c).entries.map (·.path)).count q : Int)
          - ((planTransition m s.cfg s.hist c).exits.count q : Int)
          + evNet h fl m ev multi cs (execute h fl m ev (planTransition m s.cfg s.hist c) s) q := rfl

/-- event `Y` in `exCfg`: one transition fires; `b1` is exited once (net −1), `Q` entered once (net +1) -/
example : (match selectTransitions exM exCfg (exU.genv [] "Y") (.user "Y") with
    | .ok sel => some (sel.map (·.t.tid),
        evNet (hooksFlagged exU exM) .sync exM (.user "Y") (decide (sel.length > 1)) sel exS ["P", "B", "b1"],
        evNet (hooksFlagged exU exM) .sync exM (.user "Y") (decide (sel.length > 1)) sel exS ["Q"])
    | .error _ => none) = some ([1], -1, 1) := by decide +kernel

/-- `a1 -X-> a2`: `a1` −1, `a2` +1, `B` 0 -/
example : (activity (run exU .sync "X" cX).cfg a1 - activity exCfg a1,
           activity (run exU .sync "X" cX).cfg ["P", "A", "a2"] - activity exCfg ["P", "A", "a2"],
           activity (run exU .sync "X" cX).cfg ["P", "B"] - activity exCfg ["P", "B"]) = (-1, 1, 0) :=
  exM_runs.2.2.2.1.1
/-- **The clause does not hold for a transition that fails** (model and library alike: the rollback
    restores the configuration, but the exit actions have run). `a1 -W-> a2` with the unimplemented
    action `nope`: `a1`'s exit list ran once, no entry list ran, yet `a1`'s activity is unchanged. -/
example : (run exUMissing .sync "W" cW).chron = ["exa1@W"] ∧
    activity (run exUMissing .sync "W" cW).cfg a1 - activity exCfg a1 = 0 := ⟨exM_runs.2.1.1, exM_runs.2.1.2.2⟩

/-! ## 5. frame: nothing outside the subtree of the least common ancestor is touched -/

/-- the set-level core: it needs legality only when the target is the source or one of its ancestors
    (then the domain is the target's parent and the one-active-child rule is what confines the exits) -/
theorem frame_sets (root : SNode) (hwf : WF root) (c : List Path) (hL : Legal root c) (src tgt : Path)
    (hsrc : src ∈ c) (q : Path)
    (hq : q ∈ Spec.exitSet root c (Spec.domain src tgt) tgt ∨
          q ∈ enterStates root (pathToEnter (Spec.domain src tgt) tgt)) :
    lcp src tgt <+: q := by
  have hdp := domain_prefix_tgt src tgt
  rcases domain_cases src tgt with ⟨hts, hdom, hl⟩ | ⟨_, hdom⟩
  · rw [hl]
    by_cases hne : tgt = []
    · rw [hne]; exact List.nil_prefix
    · -- tgt = dom ++ [k0]
      have htl : tgt.length = (Spec.domain src tgt).length + 1 := by
        rw [hdom, List.length_dropLast]
        have : tgt.length ≠ 0 := by simpa using hne
        omega
      have hreg : regionOf (Spec.domain src tgt) tgt = tgt := by
        unfold regionOf; rw [← htl]; exact List.take_length
      rcases hq with hx | he
      · obtain ⟨hqc, hdq, hqne, hpar⟩ := mem_exitSet.1 hx
        have htc : tgt ∈ c := prefix_closed hL.parent_active hts hsrc
        have hdc : Spec.domain src tgt ∈ c := prefix_closed hL.parent_active hdp htc
        obtain ⟨nd, hnd, _⟩ := hL.states _ hdc
        obtain ⟨nt, hnt, _⟩ := hL.states _ htc
        obtain ⟨k0, hk0⟩ : ∃ k0, tgt = Spec.domain src tgt ++ [k0] :=
          ⟨tgt.getLast hne, by rw [hdom]; exact (List.dropLast_concat_getLast hne).symm⟩
        match nd, hnd with
        | .mk d kids, hnd =>
          have hkid : findKid k0 kids = some nt := by
            rw [← at_snoc root _ d kids k0 hnd, ← hk0]; exact hnt
          rcases kind_of_findKid (wf_at hwf _ _ hnd) hkid with hk | hk
          · -- compound: one active child
            have hkids : kids ≠ [] := by
              intro h0; subst h0; simp [findKid] at hkid
            obtain ⟨k1, _, huniq⟩ := hL.compound_one _ hdc d kids hnd hk hkids
            obtain ⟨k, hkq⟩ := strict_prefix_snoc hdq (fun e => hqne e.symm)
            have hkc : (Spec.domain src tgt ++ [k]) ∈ c := prefix_closed hL.parent_active hkq hqc
            have e1 : k = k1 := huniq k hkc
            have e2 : k0 = k1 := huniq k0 (by rw [← hk0]; exact htc)
            rw [hk0, e2, ← e1]; exact hkq
          · -- parallel: the exit set is scoped to the target's region
            have := hpar ⟨by simp only [Spec.kindAt, hnd, Option.map_some]; exact congrArg some hk, by omega⟩
            rw [← hreg]; exact this
      · rw [← hreg]; exact (entered_below hdp he).1
  · rw [← hdom]
    rcases hq with hx | he
    · exact (exited_below hx).2.1
    · exact (entered_below hdp he).2.1

/-- *Clause "states outside the subtree of the least common ancestor of the transition's source and
    target see no entry, exit … at all".* In a legal configuration with the source active, every state
    exited or entered by a plain-target transition lies in the inclusive subtree of `lcp src tgt`. -/
theorem frame (m : Machine) (cfg : List Path) (hist : List (Path × List Path)) (c : Cand) (tgt : Path)
    (hwf : WF m.root) (hi : InitOK m.root) (hp : PlainTarget m c tgt)
    (hL : Legal m.root cfg) (hsrc : c.src ∈ cfg) (q : Path)
    (hq : q ∈ (planTransition m cfg hist c).exits ∨ q ∈ (planTransition m cfg hist c).entries.map (·.path)) :
    lcp c.src tgt <+: q := by
  obtain ⟨_, _, _, hx, hE⟩ := plain_plan m cfg hist c tgt hwf hi hp
  rw [hx, hE, mem_sortExit] at hq
  exact frame_sets m.root hwf cfg hL c.src tgt hsrc q hq

/-- whatever the outcome (completed or rolled back), a state outside that subtree is in no exit or
    entry list and keeps its activity -/
theorem frame_untouched (h : Hooks) (hok : HooksOK h) (fl : Flavor) (m : Machine) (ev : Ev) (c : Cand) (s : St)
    (tgt : Path) (hwf : WF m.root) (hi : InitOK m.root) (hp : PlainTarget m c tgt)
    (hL : Legal m.root s.cfg) (hsrc : c.src ∈ s.cfg) (q : Path) (hq : ¬ lcp c.src tgt <+: q) :
    q ∉ (planTransition m s.cfg s.hist c).exits ∧
    q ∉ (planTransition m s.cfg s.hist c).entries.map (·.path) ∧
    (q ∈ (execute h fl m ev (planTransition m s.cfg s.hist c) s).cfg ↔ q ∈ s.cfg) := by
  have hfr := frame m s.cfg s.hist c tgt hwf hi hp hL hsrc q
  have h1 : q ∉ (planTransition m s.cfg s.hist c).exits := fun hx => hq (hfr (Or.inl hx))
  have h2 : q ∉ (planTransition m s.cfg s.hist c).entries.map (·.path) := fun hx => hq (hfr (Or.inr hx))
  refine ⟨h1, h2, ?_⟩
  have hint := (plain_plan m s.cfg s.hist c tgt hwf hi hp).1
  cases herr : (execute h fl m ev (planTransition m s.cfg s.hist c) s).err with
  | some e => rw [execute_rollback h fl m ev _ s hint (by rw [herr]; simp)]
  | none =>
    have hst : ∀ q ∈ s.cfg, ∃ n, m.root.at q = some n := fun q hq => by
      obtain ⟨n, hn, _⟩ := hL.states q hq; exact ⟨n, hn⟩
    obtain ⟨hvx, hve⟩ := plain_valid m s.cfg s.hist c tgt hwf hi hp hst
    obtain ⟨_, hmem⟩ := execute_cfg h hok fl m ev _ s hint hvx hve herr
    rw [hmem q]
    exact ⟨fun hx => hx.elim (·.1) (absurd · h2), fun hc => .inl ⟨hc, h1⟩⟩

/-- *Clause "in particular sibling parallel regions".* When the transition domain is a parallel state,
    everything exited or entered lies in the region leading to the target (no legality needed): sibling
    regions see neither exit nor entry. -/
theorem frame_sibling_regions (m : Machine) (cfg : List Path) (hist : List (Path × List Path)) (c : Cand)
    (tgt : Path) (hwf : WF m.root) (hi : InitOK m.root) (hp : PlainTarget m c tgt)
    (hpar : m.kindAt (Spec.domain c.src tgt) = some .parallel) (q : Path)
    (hq : q ∈ (planTransition m cfg hist c).exits ∨ q ∈ (planTransition m cfg hist c).entries.map (·.path)) :
    regionOf (Spec.domain c.src tgt) tgt <+: q ∧
    ∃ k, regionOf (Spec.domain c.src tgt) tgt = Spec.domain c.src tgt ++ [k] := by
  have hd := domain_prefix_tgt c.src tgt
  have hne := domain_ne_tgt c.src tgt hp.nonroot
  refine ⟨?_, regionOf_snoc _ _ hd hne⟩
  obtain ⟨_, _, _, hx, hE⟩ := plain_plan m cfg hist c tgt hwf hi hp
  rw [hx, hE, mem_sortExit] at hq
  rcases hq with hx | he
  · exact (mem_exitSet.1 hx).2.2.2 ⟨hpar, strict_prefix_length hd hne⟩
  · exact (entered_below hd he).1

/-- the domain is the target's parent when the target is the source or an ancestor of it, and the
    longest common prefix of source and target otherwise -/
theorem domain_is (src tgt : Path) :
    (tgt <+: src ∧ Spec.domain src tgt = tgt.dropLast ∧ lcp src tgt = tgt) ∨
    (¬ tgt <+: src ∧ Spec.domain src tgt = lcp src tgt) := domain_cases src tgt

/-- `frame` instantiated: everything `a1 -X-> a2` exits or enters lies below `A` -/
example : ∀ q, q ∈ (planOf cX).exits ∨ q ∈ (planOf cX).entries.map (·.path) → ["P", "A"] <+: q :=
  fun q hq => frame exM exCfg [] cX ["P", "A", "a2"] exWF exInitOK exPlainX exLegal (by decide) q hq
/-- `a1 -X-> a2` inside region `A`: the least common ancestor is `A`, region `B` is untouched -/
example : lcp a1 ["P", "A", "a2"] = ["P", "A"] ∧ (planOf cX).exits = [a1] ∧
    (planOf cX).entries.map (·.path) = [["P", "A", "a2"]] := exM_runs.2.2.2.1.2
/-- **a transition from one region into another**: the domain is the parallel state `P`, the exit set is
    scoped to the TARGET's region `B` — the source `a1` is not exited and stays active (the library does
    the same: `_compute_states_to_exit` keeps only the branch containing the target) -/
example : Spec.domain a1 ["P", "B", "b2"] = ["P"] ∧ (planOf cZ).exits = [["P", "B", "b1"], ["P", "B"]] ∧
    (run exU .sync "Z" cZ).cfg = [[], ["P"], ["P", "A"], a1, ["P", "B"], ["P", "B", "b2"]] := exM_runs.2.2.1.2.2

/-! ## 6. a target-less (internal) transition runs its actions only -/

/-- for `pl.internal = true`, `execute` changes neither the configuration nor the recorded history, and
    appends only the records of `pl.actions` (none when the plan carries a resolution error) followed by
    the observer record (absent when the transition failed) -/
theorem internal_runs_actions_only (h : Hooks) (hok : HooksOK h) (htr : HooksTraceOK h) (fl : Flavor)
    (m : Machine) (ev : Ev) (pl : Plan) (s : St) (hint : pl.internal = true) :
    (execute h fl m ev pl s).cfg = s.cfg ∧ (execute h fl m ev pl s).hist = s.hist ∧
    (execute h fl m ev pl s).chron =
      s.chron ++ (match pl.err with | some _ => [] | none => actRecords h pl.actions ev.type s)
        ++ obsPart h fl m ev pl s :=
  ⟨execute_internal_cfg h hok fl m ev pl s hint, execute_internal_hist h htr fl m ev pl s hint,
   execute_internal_chron h htr fl m ev pl s hint⟩

example : (planOf cI).internal = true ∧ (run exU .sync "I" cI).cfg = exCfg ∧
    (run exU .sync "I" cI).chron = ["ti@I", "#t:m,m.P,m.P.A,m.P.A.a1,m.P.B,m.P.B.b1"] := exM_runs.2.2.2.2.1

/-! ## 7. the exit set leaves the configuration one state at a time -/

/-- once the error flag is set the rest of the exit set is not processed -/
theorem exits_stop_at_an_error (h : Hooks) (fl : Flavor) (m : Machine) (ev : Option String) :
    ∀ (xs : List Path) (s : St), s.err.isSome = true → xs.foldl (exitOne h fl m ev) s = s :=
  fun xs s hs => foldl_fixed _ s (fun p => exitOne_sticky h fl m ev s p hs) xs

/-- **a state leaves the configuration only after its OWN exit actions ran.** After the first part `pre` of an exit
    set has been processed without an escaping error, the configuration is the one the transition started from minus
    exactly `pre`: every state that is exited later - the ancestors and the sibling regions of what went first - is
    still active, and is what the exit actions of the next state `p` see (`stateIn`, `choose`):
    `exitOne … p` runs `p`'s exit actions in that state and removes `p` afterwards -/
theorem exit_set_leaves_one_by_one (h : Hooks) (hok : HooksOK h) (fl : Flavor) (m : Machine) (ev : Option String) :
    ∀ (pre : List Path) (s : St), (∀ p ∈ pre, (m.defAt p).isSome = true) →
      (pre.foldl (exitOne h fl m ev) s).err = none →
      (pre.foldl (exitOne h fl m ev) s).cfg = s.cfg.filter (fun q => !pre.contains q) := by
  intro pre
  induction pre with
  | nil =>
    intro s _ _
    exact (List.filter_eq_self.2 (fun _ _ => rfl)).symm
  | cons a pre ih =>
    intro s hdef herr
    -- no error at the end, so none at the start
    have hs := (exitFold_spec h hok fl m ev (a :: pre) s hdef herr).1
    obtain ⟨d, hd⟩ := Option.isSome_iff_exists.1 (hdef a List.mem_cons_self)
    have h1 : exitOne h fl m ev s a = delActive a (execActions h d.exit (exitEvName fl m a ev) s) := by
      unfold exitOne; simp [hs, hd]
    rw [List.foldl_cons, h1] at herr ⊢
    rw [ih _ (fun p hp => hdef p (List.mem_cons_of_mem _ hp)) herr]
    simp only [delActive, execActions_cfg h hok, List.filter_filter]
    apply List.filter_congr
    intro q _
    by_cases hqa : q = a
    · subst hqa; simp
    · have : (q != a) = true := by simp [hqa]
      simp [hqa, this]

/-- … in particular the state whose exit actions run next is itself still active then -/
theorem exiting_state_active_during_its_exit_actions (h : Hooks) (hok : HooksOK h) (fl : Flavor) (m : Machine)
    (ev : Option String) (pre : List Path) (p : Path) (s : St) (hdef : ∀ q ∈ pre, (m.defAt q).isSome = true)
    (herr : (pre.foldl (exitOne h fl m ev) s).err = none) (hp : p ∈ s.cfg) (hnew : p ∉ pre) (d : StateDef)
    (hd : m.defAt p = some d) :
    p ∈ (pre.foldl (exitOne h fl m ev) s).cfg ∧
    exitOne h fl m ev (pre.foldl (exitOne h fl m ev) s) p =
      delActive p (execActions h d.exit (exitEvName fl m p ev) (pre.foldl (exitOne h fl m ev) s)) := by
  refine ⟨?_, ?_⟩
  · rw [exit_set_leaves_one_by_one h hok fl m ev pre s hdef herr]
    simp [List.mem_filter, hp, hnew]
  · generalize pre.foldl (exitOne h fl m ev) s = sk at herr
    unfold exitOne
    simp [herr, hd]

/-- the hypotheses are met on the example, and the statement says something: after the two leaves of the exit set of
    `Y` have been exited, the regions `P.A`, `P.B` and `P` itself - exited later in the same transition - are still
    in the configuration their exit actions see -/
example : (((planOf cY).exits.take 2).foldl (exitOne (hooksFlagged exU exM) .sync exM (some "Y")) exS).cfg =
      [[], ["P"], ["P", "A"], ["P", "B"]] ∧
    (((planOf cY).exits.take 2).foldl (exitOne (hooksFlagged exU exM) .sync exM (some "Y")) exS).err.isNone = true ∧
    (∀ p ∈ (planOf cY).exits, (exM.defAt p).isSome = true) := exM_runs.1.2.2.2.2.2.2

end XSM.C03

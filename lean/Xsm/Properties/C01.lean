import Xsm.Proofs.SelSound
import Xsm.Properties.C11
/-!
# C01 — the active configuration is always a legal statechart configuration

Statements only; the proofs live in `Xsm/Proofs`. `Legal` is the property's own wording
(`Xsm/Proofs/Legal.lean`, `structure Legal`): root active, every active id names a non-history
state, parent of an active state active, an active compound state with children has exactly one
active child, an active parallel state has every non-history child active.

Hypotheses: `WF` (sibling keys distinct, kinds consistent with children), `InitOK` (a compound
state with children names an existing non-history initial child — what the library itself checks
when the state is entered), `TargetsOK` (every declared transition is target-less, or resolves to a
state that is not a history pseudo-state — the machine root included). Where they are defined: `WF`, `Legal`,
`HistInv` in `Xsm/Proofs/Legal.lean`; `HooksOK` (send hooks that touch only queue and counters), `InitOK` in
`Xsm/Proofs/Bridge.lean`; `CandOK` (the condition of `TargetsOK`, for one candidate), `StartOK`, `cmd` (one `send`, the caller
having seen the previous error) in `Xsm/Proofs/Run.lean`; `TargetsOK` in `Xsm/Proofs/SelSound.lean`; `HistFire`,
`HistNodeOK`, `histGet` in `Xsm/Proofs/History.lean`.
History targets: `legal_microstep_history` covers a history target fired while the history state's
parent is inactive (the documented "resume" use, C11's scope) under `HistNodeOK` (the history node's
default target, if any, lies below its parent and is not itself a history node; a parallel parent has
a real region). `HistFire` packs the hypotheses of `legal_microstep` with "the target resolves to a history node
whose parent is inactive"; `hI` says that what is remembered for that parent satisfies `HistInv` (a legal
selection below it), which `recordHistory` maintains from a legal configuration (`Hist.histAll_recordHistory`).
It is a per-transition theorem, because whether the parent is active is a property
of the run, not of the machine. A history target fired from INSIDE its parent, and the three
degenerate shapes `HistNodeOK` excludes, are covered by the correspondence check and the monitor only.
-/
namespace XSM.C01
open XSM XSM.Spec

/-- one selected transition of the executable model (either engine, any enqueue-only hooks) keeps
    the configuration legal whether its actions succeed, raise or are missing -/
theorem legal_microstep (h : Hooks) (hok : HooksOK h) (fl : Flavor) (m : Machine) (ev : Ev)
    (c : Cand) (s : St) (hwf : WF m.root) (hi : InitOK m.root) (hl : Legal m.root s.cfg)
    (hc : CandOK m c) (hsrc : c.src ∈ s.cfg) :
    Legal m.root (execute h fl m ev (planTransition m s.cfg s.hist c) s).cfg :=
  XSM.legal_microstep h hok fl m ev c s hwf hi hl hc hsrc

/-- a transition to a history pseudo-state, fired while the history state's parent is inactive:
    the restored (or default) configuration is legal — or the transition failed and nothing changed -/
theorem legal_microstep_history (h : Hooks) (hok : HooksOK h) (fl : Flavor) (m : Machine) (ev : Ev)
    (c : Cand) (s : St) (hh : Path) (hn : SNode) (hf : Hist.HistFire m s c hh hn)
    (hI : ∀ R, Hist.histGet s.hist hh.dropLast = some R → R ≠ [] → HistInv m.root hh.dropLast R)
    (hOK : Hist.HistNodeOK m hh) :
    Legal m.root (execute h fl m ev (planTransition m s.cfg s.hist c) s).cfg :=
  XSM.C11.legal_microstep_history h hok fl m ev c s hh hn hf hI hOK

/-- a failed transition (missing action or service, unresolvable target, failing entry) leaves the
    configuration exactly as it was -/
theorem failed_transition_restores (h : Hooks) (fl : Flavor) (m : Machine) (ev : Ev) (pl : Plan) (s : St)
    (hint : pl.internal = false) (he : (execute h fl m ev pl s).err ≠ none) :
    (execute h fl m ev pl s).cfg = s.cfg :=
  XSM.execute_rollback h fl m ev pl s hint he

/-- every event processed (all selected transitions, stale ones skipped) keeps the configuration
    legal: this is the configuration `on_transition` hooks and subscribers observe -/
theorem legal_event (h : Hooks) (hok : HooksOK h) (fl : Flavor) (m : Machine) (u : UEnv) (ev : Ev)
    (hwf : WF m.root) (hi : InitOK m.root) (ht : TargetsOK m) (s : St) (hl : Legal m.root s.cfg) :
    Legal m.root (processEvent h fl m u ev s).cfg :=
  XSM.processEvent_inv h hok fl m u ev hwf hi (selSound_of_targetsOK m ht) s hl

/-- `start()` either refuses the machine (an error reaches the caller) or returns a legal configuration -/
theorem legal_start (fl : Flavor) (m : Machine) (u : UEnv) (hwf : WF m.root) (hi : InitOK m.root)
    (hk : m.root.kind ≠ .history) (ht : TargetsOK m) : StartOK m (start fl m u {}) := by
  cases fl with
  | sync => exact syncStart_ok m u hwf hi hk (selSound_of_targetsOK m ht)
  | async => exact asyncStart_ok m u hwf hi hk (selSound_of_targetsOK m ht)

/-- **whole runs, both engines**: after `start()` and after every one of any finite sequence of
    events, for every user environment (actions and guards may succeed, raise, be missing) -/
theorem legal_run (fl : Flavor) (m : Machine) (u : UEnv) (hwf : WF m.root) (hi : InitOK m.root)
    (hk : m.root.kind ≠ .history) (ht : TargetsOK m) (hstart : (start fl m u {}).err = none)
    (evs : List Ev) : Legal m.root (evs.foldl (cmd fl m u) (start fl m u {})).cfg :=
  XSM.legal_run fl m u hwf hi hk (selSound_of_targetsOK m ht) hstart evs

end XSM.C01

import Xsm.Proofs.Termination
import Xsm.Proofs.Fifo
import Xsm.Proofs.SyncDrain
import Xsm.Proofs.TermEx
/-!
# C13 — bounded self-feeding chains: `start()` and `send()` return

"start() and send() return, and the asynchronous run loop keeps yielding to other tasks, for every
machine and every event: any self-feeding chain - mutually enabling always-transitions, an action
raising its own trigger, an onDone that re-completes its own state, self-enqueueing
pure/choose/enqueueActions expansion - is cut after the machine's maxIterations bound with an error
log, leaving a legal configuration and an interpreter that still answers the next event. Chains
shorter than the bound run to their natural end, and the bound never throttles or discards events
sent from outside."

Statements about the executable model (`Xsm/Model/Engine.lean`); helper definitions and lemmas live
in `Xsm/Proofs/Termination.lean`, `Xsm/Proofs/SyncDrain.lean` and (`drainRaised`, the split of a run loop's log into
external and self-raised events) `Xsm/Proofs/Fifo.lean`; the runs of the witness machines in `Xsm/Proofs/TermEx.lean`.

**What "returns" means here.** Every model function is a total Lean function, so the question is
only which recursions are bounded by the code's OWN counters and which by a fuel the model adds.

* SYNC engine (`syncStart`, `syncSend`, `transientLoop`, `execActionsF`): these recursions are structural
  on a counter the Python code itself maintains — `iterations` of `_process_transient_transitions` (bounded
  by `machine.max_iterations`), `_action_depth` of `_execute_actions` (`MAX_ACTION_DEPTH`; the depth counter bounds how DEEP an
  expansion nests, the flag `_expansion_cut` — `St.expCut`, repair of F77 — ends the whole expansion once it tripped, §2). The queue drain
  `drainLoop` (`_process_event_queue`) is different since the second repair of F10: its counter `chained`
  counts only the dequeues of MARKED events (enqueued while a drain was in flight) and is RESET by a cut, after
  which the loop goes on with the external events — so the code's loop is not bounded by one counter, and the
  model recurses on a MODEL fuel `drainFuel m s = (external events queued + 1) * (maxIterations + 2)`. §4
  proves that this fuel never runs out (`sync_drain_terminates`: the measure `drainPot` — `maxIterations + 2`
  per pending external event plus the room left below the bound — strictly decreases in every iteration,
  because a macrostep only ever enqueues MARKED events) and is irrelevant (`sync_fuel_irrelevant`): the real,
  fuel-less loop terminates after at most `drainFuel` iterations, for every machine and user code. §1 and §2
  say what the counters bound, that they do not disturb chains shorter than the bound, and what a cut does.
* ASYNC engine: `transientLoop` and `execActionsF` as above; but the run loop `asyncDrain`
  (`_run_event_loop`) recurses on a MODEL fuel (`asyncFuel m = 10 * maxIterations + 50`) — the code
  has no such bound, and the model reports an exhausted fuel as status "HANG". §3 proves the fuel
  irrelevant above an explicit bound: the real, fuel-less loop empties its queue after at most
  `(n0 + 1) * (maxIterations + 4)` iterations, `n0` the number of pending external events, whatever
  the machine and whatever user code does. "HANG" is unreachable from `asyncStart` / `asyncSend`.

Vocabulary (from `Xsm/Proofs/Termination.lean`):
* `cntSelf q`, `cntExt q` — the number of self-raised / external entries of a queue; `extOf q` — the
  external entries, in order;
* `Grow b s s'` — from `s` to `s'` the queue was only appended to, by entries flagged `b`; every
  appended self-flagged entry was counted in `raiseDepth` (exactly those, if `s'` is running);
  `status` is unchanged or became "done"; `HooksGrow b h` — both send hooks of `h` satisfy it;
* `AInv s` — `cntSelf s.queue ≤ s.raiseDepth`: every self-raised event still queued was counted
  since the counter was last reset;
* `potential L s` — `cntExt s.queue * (L + 4) + chainPot L (cntSelf s.queue) s.raiseDepth`, where
  `chainPot L cs d = if cs = 0 then 0 else 1 + (L + 2 - (d - cs))`;
* `transientSteps` / `transientCut` — instrumented twins of `transientLoop` (same recursion): the number of
  iterations, and whether the loop was cut (counter exhausted with work pending); `transientPending` —
  another settling iteration would do something;
* `drainSteps` / `drainTrips` / `drainCut` / `drainHang` (from `Xsm/Proofs/SyncDrain.lean`) — instrumented
  twins of `drainLoop` (same recursion, arguments: model fuel, the counter `chained`, the state): the number
  of events processed, the number of cuts, "a cut happened or the model fuel ran out", "the model fuel ran
  out with events pending on a running interpreter"; `drainLogQ` / `drainLog` (with the model) — the entries /
  events received; `drainRaised` — the events the macrosteps of the drain enqueued; `syncTrips m c q` — the head
  `q` is marked and is the `maxIterations + 1`-st marked event dequeued (`c` the counter); `syncPurge` — the
  cut; `MacroFanout m u K` — no macrostep of `m` under `u` enqueues more than `K` events;
* `asyncProcess` — what the run loop does with an event it processes (macrostep, settling, error
  logging, end-of-chain test; defined with the model), `asyncBase m s` — the state it is processed in
  (`s`, purged if the breaker fired); `Idle m s` — empty queue and `raiseDepth ≤ maxIterations`;
  `Quiet s` — empty queue and `raiseDepth = 0`; `RunOK m s` — status is "running" / "done" / "stopped"
  and a running interpreter is idle; `asyncStartSettled m u s` — the state `start()` hands to the run loop;
* `selfSendsOf m u e s` — the number of events the machine sends itself while `e` is processed in `s`;
  `asyncTrips` / `asyncSelfSends` — instrumented twins of `asyncDrain` (same recursion): the number of
  iterations in which the chain breaker fired, and the number of events the machine sent itself;
* `asyncLogQ` (from `Xsm/Model/Lifecycle.lean`) — the entries the run loop dequeues and processes.

**The last sentence of the property, async engine** (repaired in the library: F30, F31; the model follows):
1. *"the bound never … discards events sent from outside"*: `external_event_is_processed`,
   `external_events_never_discarded_async` — the breaker drops the event in hand only if it is itself
   self-raised; every external event is received exactly once, in order. On the witness of F30:
   `burst_keeps_external_event`.
2. *"chains shorter than the bound run to their natural end"*: the counter is reset whenever a chain ends,
   after a FAILED macrostep too (`counter_reset_when_chain_ends`, `counter_reset_after_failed_macrostep`),
   every digested command leaves it at 0 (`async_run_quiet`), and a run of the loop in which the machine
   sends itself at most `maxIterations` events IN TOTAL is never cut (`short_chain_not_cut_async`; see F70 below). On the
   witness of F31: `failed_chains_do_not_leak`.
**The last sentence of the property, sync engine** (repaired in the library: F10, twice; the model follows):
3. the bound of one `_process_event_queue()` counts only the dequeues of MARKED events — those `send()` /
   `send_events()` enqueued while a drain was in flight (`_is_processing`: the `raise` built-in, `done.state.*`,
   a send made by an action or a timer thread; also during `start()`) — and the cut discards the marked
   events only and goes on, so an event accepted from outside is neither counted nor discarded:
   `external_events_never_discarded_sync` (the external events received plus those still queued are the
   external events queued at the start, in order — whatever marked entries are queued between them, however
   often the bound cuts — unless the machine stops running) and `short_chain_not_cut_sync` (a drain in which
   at most `maxIterations` marked events come up — queued at its start or enqueued by its macrosteps — is
   never cut; `sync_cut_needs_long_chain`: a cut needs MORE than `maxIterations` of them). On the
   witness of F10: `sync_burst_not_throttled`. The cut
   (`cut_purges_marked_only`) removes the marked entries and nothing else.
   The FIRST repair (budget `maxIterations` + queue length at the start of the drain) exempted the events LEFT
   QUEUED by a drain that raised — mostly self-raised ones — from the bound; with a fan-out machine the queue
   then grew geometrically from `send` to `send` and `send()` effectively hung. `leftovers_stay_bounded`: the
   marks outlive an aborted drain, the number of events one drain processes does not depend on the number of
   marked leftovers (`sync_drain_work_bounded`), and a cut purges them all.
**What the positive theorems do NOT say (open finding F70).** `short_chain_not_cut_async` and
`short_chain_not_cut_sync` bound the TOTAL number of events the machine sends itself during one BUSY PERIOD
(one run of the loop / one drain: `asyncSelfSends`, `drainRaised` — over ALL events processed in it), not the
length of each causal chain. Both engines count that way: the async counter `_raise_depth` is reset only when
nothing self-raised is pending, the sync counter `chained` counts every marked dequeue of a drain and is reset
only by a cut. Read per CAUSAL CHAIN (the events raised, transitively, while ONE external event is
handled — the reading the monitor `c14.c04_monitor`, rule `short-chains-cut-by-burst`, checks) the clause
"chains shorter than the bound run to their natural end" FAILS on both engines: a burst of more than
`maxIterations` external events each of which raises one event — independent chains of length 1 — is cut.
Witness (`shortM`: `E` raises `R` once, bound 3; four `E` queued by one `send_events`):
`burst_of_short_chains_is_cut_async` (all four `R` discarded) and `burst_of_short_chains_is_cut_sync` (the fourth
`R` discarded). They do not contradict the positive theorems: the total of the busy period is 4 > 3.
The "error log" of a cut is outside the model (no record is emitted for it).
-/
namespace XSM.C13
open XSM XSM.Spec XSM.Done XSM.Done.Ex XSM.Term XSM.Term.Ex

/-! ## 1. the sync engine: bounded by the code's own counters -/

/-- *Clause "mutually enabling always-transitions … cut after the machine's maxIterations bound".*
    `transientLoop … n` runs `processEvent` at most `n` times (`transientSteps` is the same
    recursion, counting); both engines call it with `n = m.maxIterations`. -/
theorem transientLoop_bound (h : Hooks) (fl : Flavor) (m : Machine) (u : UEnv) (n : Nat) (s : St) :
    transientSteps h fl m u n s ≤ n := (transient_twins h fl m u n s).1

/-- *"leaving … an interpreter that still answers the next event":* the cut of the settling loop is
    the identity — nothing is changed, no error is set. -/
theorem transientLoop_cut_is_identity (h : Hooks) (fl : Flavor) (m : Machine) (u : UEnv) (s : St) :
    transientLoop h fl m u 0 s = s := rfl

/-- a state in which nothing is pending is left alone, whatever the budget -/
theorem transientLoop_stable (h : Hooks) (fl : Flavor) (m : Machine) (u : UEnv) (n : Nat) (s : St)
    (hp : transientPending m u s = false) : transientLoop h fl m u n s = s :=
  transientLoop_not_pending h fl m u n hp

/-- *Clause "chains shorter than the bound run to their natural end" (fuel monotonicity).* If with
    budget `k` the loop is not cut — it stopped by itself: an error, or no enabled eventless
    transition — then every budget `≥ k` gives the same result; in particular the bound
    `m.maxIterations ≥ k` does not affect the chain. -/
theorem transientLoop_fuel_mono (h : Hooks) (fl : Flavor) (m : Machine) (u : UEnv) (k : Nat) (s : St)
    (hk : transientCut h fl m u k s = false) (n : Nat) (hn : k ≤ n) :
    transientLoop h fl m u n s = transientLoop h fl m u k s := by
  obtain ⟨j, rfl⟩ := Nat.exists_eq_add_of_le hn
  exact (transient_twins h fl m u k s).2.2 hk j

theorem transientLoop_short_chain_unaffected (h : Hooks) (fl : Flavor) (m : Machine) (u : UEnv) (k : Nat)
    (s : St) (hk : transientCut h fl m u k s = false) (n n' : Nat) (hn : k ≤ n) (hn' : k ≤ n') :
    transientLoop h fl m u n s = transientLoop h fl m u n' s := by
  rw [transientLoop_fuel_mono h fl m u k s hk n hn, transientLoop_fuel_mono h fl m u k s hk n' hn']

/-- a loop that needed fewer iterations than its budget was not cut -/
theorem transientLoop_not_cut_of_steps_lt (h : Hooks) (fl : Flavor) (m : Machine) (u : UEnv) (n : Nat) (s : St)
    (hlt : transientSteps h fl m u n s < n) : transientCut h fl m u n s = false :=
  (transient_twins h fl m u n s).2.1 hlt

/-- `pingPongM` (`a` and `b` target each other by `always` transitions, bound 4): exactly 4 iterations,
    then the cut; `start()` returns on both engines in a legal configuration, still running -/
example : (transientSteps (hooksFlagged u0 pingPongM) .sync pingPongM u0 4 running,
    transientCut (hooksFlagged u0 pingPongM) .sync pingPongM u0 4 running) = (4, true) := pingPongM_runs.1
example : let s := syncStart pingPongM u0 {}
    (s.status, s.cfg, s.err.isSome, count "toB@" s, count "toA@" s) = ("running", [[], ["a"]], false, 2, 2) :=
  pingPongM_runs.2.1
example : let s := asyncStart pingPongM u0 {}
    (s.status, s.cfg, s.err.isSome, count "toB@" s, count "toA@" s) = ("running", [[], ["a"]], false, 2, 2) :=
  pingPongM_runs.2.2
/-- `settleM` (`a` → `b` by an `always` transition, `b` stable): one iteration, not cut; any budget
    `≥ 2` would have given the same -/
example : (transientSteps (hooksFlagged u0 settleM) .sync settleM u0 4 running,
    transientCut (hooksFlagged u0 settleM) .sync settleM u0 2 running) = (1, false) := settleM_runs.1
example : (syncStart settleM u0 {}).cfg = [[], ["b"]] := settleM_runs.2

/-- *Clause "an action raising its own trigger … cut after the machine's maxIterations bound" (sync).*
    One `_process_event_queue()` started with the counter at 0 processes (`drainSteps`: dequeues and hands to
    `_process_event`) at most `maxIterations + 1` events per EXTERNAL event queued when it starts, plus
    `maxIterations` — whatever the model fuel, and however many marked entries are queued: between two
    external events at most `maxIterations` marked events are processed before the cut. -/
theorem drainLoop_bound (m : Machine) (u : UEnv) (fuel : Nat) (s : St) :
    drainSteps m u fuel 0 s ≤ cntExt s.queue * (m.maxIterations + 1) + m.maxIterations :=
  Term.drainSteps_le m u fuel s

/-- one `send` on the sync engine IS one such drain (counter 0, the event appended unmarked), and processes at
    most `(n + 1) * (maxIterations + 1) + maxIterations` events, `n` the external events already queued -/
theorem syncSend_bound (m : Machine) (u : UEnv) (e : Ev) (s : St) (hr : s.status = "running") :
    syncSend m u e s =
      drainLoop m u (drainFuel m { s with queue := s.queue ++ [⟨e, false⟩] }) 0 { s with queue := s.queue ++ [⟨e, false⟩] } ∧
    drainSteps m u (drainFuel m { s with queue := s.queue ++ [⟨e, false⟩] }) 0 { s with queue := s.queue ++ [⟨e, false⟩] }
      ≤ (cntExt s.queue + 1) * (m.maxIterations + 1) + m.maxIterations := by
  refine ⟨?_, ?_⟩
  · unfold syncSend sndUnflagged drainFlagged
    rw [if_pos hr]
  · have h := drainLoop_bound m u (drainFuel m { s with queue := s.queue ++ [⟨e, false⟩] })
      { s with queue := s.queue ++ [⟨e, false⟩] }
    have hc : cntExt ({ s with queue := s.queue ++ [⟨e, false⟩] } : St).queue = cntExt s.queue + 1 := by
      show cntExt (s.queue ++ [⟨e, false⟩]) = _
      rw [cntExt_append]; rfl
    rw [hc] at h; exact h

/-- *What the cut does (sync).* When the head of the queue is a marked event that trips the bound
    (`syncTrips`: the `maxIterations + 1`-st marked event dequeued since the counter was last 0), the loop
    goes on — with the counter at 0 — from `syncPurge s`: the MARKED entries (the head included) are
    discarded, every external entry is kept, in order (`extOf`), nothing marked is left. -/
theorem cut_purges_marked_only (m : Machine) (u : UEnv) (fuel c : Nat) (s : St) (q : QEv) (rest : List QEv)
    (hq : s.queue = q :: rest) (hrun : s.status = "running") (ht : syncTrips m c q = true) :
    drainLoop m u (fuel + 1) c s = drainLoop m u fuel 0 (syncPurge s) ∧
    (syncPurge s).queue = extOf s.queue ∧ (∀ x ∈ (syncPurge s).queue, x.self = false) :=
  ⟨drainLoop_trip m u fuel c s q rest hq hrun ht, rfl, Term.syncPurge_all_ext s⟩

/-- the bound trips exactly on a MARKED head that would be the `maxIterations + 1`-st -/
theorem cut_condition (m : Machine) (c : Nat) (q : QEv) :
    syncTrips m c q = true ↔ (q.self = true ∧ m.maxIterations < c + 1) := Term.syncTrips_eq_true m c q

/-- *"leaving a legal configuration and an interpreter that still answers the next event" (sync).* The
    cut changes nothing but the queue: configuration, status, error flag, context, history, trace are
    as they were — in particular no error is raised to the caller and the status stays "running". -/
theorem cut_keeps_running (s : St) :
    syncPurge s = { s with queue := s.queue.filter (fun q => !q.self) } ∧
    (syncPurge s).cfg = s.cfg ∧ (syncPurge s).status = s.status ∧
      (syncPurge s).err = s.err ∧ (syncPurge s).ctx = s.ctx ∧ (syncPurge s).hist = s.hist ∧
      (syncPurge s).trace = s.trace := ⟨rfl, rfl, rfl, rfl, rfl, rfl, rfl⟩

/-- `fanM` (`E` raises `E` twice, bound 3), sync: `send(E)` — the `E` sent is external and does not count —
    processes exactly 4 events (the external `E` and three marked ones) and is cut by the fourth marked `E`; it
    returns running, with an empty queue, no error; the next event is answered -/
example : (drainSteps fanM u0 (drainFuel fanM { running with queue := [⟨.user "E", false⟩] }) 0
      { running with queue := [⟨.user "E", false⟩] },
    drainTrips fanM u0 (drainFuel fanM { running with queue := [⟨.user "E", false⟩] }) 0
      { running with queue := [⟨.user "E", false⟩] },
    drainCut fanM u0 (drainFuel fanM { running with queue := [⟨.user "E", false⟩] }) 0
      { running with queue := [⟨.user "E", false⟩] }) = (4, 1, true) := fanM_sync.1.1
example : let s := syncSend fanM u0 (.user "E") running
    (s.status, s.cfg, evTypes s, s.err.isSome, count "sawE@E" s) = ("running", [[], ["a"]], [], false, 4) :=
  fanM_sync.1.2.1
example : count "sawX@X" (syncSend fanM u0 (.user "X") (syncSend fanM u0 (.user "E") running)) = 1 := fanM_sync.1.2.2.1
/-- `shortM` (`E` raises `R` once): two events, not cut; the chain ran to its natural end -/
example : (drainSteps shortM u0 (drainFuel shortM { running with queue := [⟨.user "E", false⟩] }) 0
      { running with queue := [⟨.user "E", false⟩] },
    drainCut shortM u0 (drainFuel shortM { running with queue := [⟨.user "E", false⟩] }) 0
      { running with queue := [⟨.user "E", false⟩] }) = (2, false) := shortM_runs.1.1.1
example : count "sawR@R" (syncSend shortM u0 (.user "E") running) = 1 := shortM_runs.1.1.2.1

/-! ## 2. nested action expansion (`choose` …) is bounded by the code's depth counter — and once the
bound tripped, the rest of that expansion produces no follow-ups (`_expansion_cut`, repair of F77: the
counter bounds the DEPTH of an expansion, the flag its size; model: `St.expCut`, set at the cut level by
`assignStep`, read by `builtinStep`, cleared by `endExpansion` when the expansion of a top-level built-in
is over — the code resets it at the next top-level built-in, before any read) -/

/-- *Clause "self-enqueueing pure/choose/enqueueActions expansion".* `execActions` is `execActionsF`
    with fuel `MAX_ACTION_DEPTH + 1`; a follow-up list of a built-in runs one level deeper, with
    fuel one less — the recursion is structural on it (`endExpansion f` is the identity except when the
    built-in sat at the top level, `f = MAX_ACTION_DEPTH`, where it clears `_expansion_cut`) … -/
theorem execActions_levels (h : Hooks) (as : List ActionRef) (ev : String) (s : St) :
    execActions h as ev s = execActionsF h (Tables.maxActionDepth + 1) as ev s := rfl

theorem execActionsF_succ (h : Hooks) (f : Nat) (as : List ActionRef) (ev : String) (s : St) :
    execActionsF h (f + 1) as ev s =
      (as.foldl (actStep h (fun fs e s => endExpansion f (execActionsF h f fs e s)) false ev) (s, false)).1 := rfl

/-- … and at fuel 0 no built-in produces follow-ups: the function that would run them is never
    consulted (the result is the same whatever it is), so expansion stops after
    `MAX_ACTION_DEPTH + 1` levels. -/
theorem execActionsF_depth_bound (h : Hooks) (nested : List ActionRef → String → St → St)
    (as : List ActionRef) (ev : String) (s : St) :
    execActionsF h 0 as ev s = (as.foldl (actStep h nested true ev) (s, false)).1 := by
  have : actStep h (fun _ _ s => s) true ev = actStep h nested true ev := by
    funext acc a; exact actStep_cut_ignores_nested h _ nested ev acc a
  rw [execActionsF, this]

/-- `choose([{actions: [assign({x: 1})]}])`: with two levels the nested assignment runs, with one
    level the follow-up is cut, with none the `choose` itself produces nothing -/
example : ((execActionsF (hooksFlagged u0 fanM) 2 [chooseA] "E" running).ctx,
           (execActionsF (hooksFlagged u0 fanM) 1 [chooseA] "E" running).ctx,
           (execActionsF (hooksFlagged u0 fanM) 0 [chooseA] "E" running).ctx) = ([("x", 1)], [], []) := by
  decide +kernel

/-- *Once the bound tripped, the rest of the expansion produces no follow-ups* (`_expansion_cut`; the
    depth counter alone bounds how DEEP an expansion goes, not how large it is). The trip is recorded: at
    the cut level every built-in that is reached sets the flag … -/
theorem cut_level_records_trip (h : Hooks) (hc : HooksCutOK h) (nested : List ActionRef → String → St → St)
    (ev canon : String) (a : ActionRef) (s : St) :
    (builtinStep h nested true ev canon a s).1.expCut = true := by
  simp [builtinStep, finishBuiltin_expCut h hc, assignStep_expCut]

/-- … it is seen by every later sibling of the same expansion: below the top level a set flag stays set
    through any list … -/
theorem trip_persists (h : Hooks) (hc : HooksCutOK h) (fuel : Nat) (hf : fuel ≤ Tables.maxActionDepth)
    (as : List ActionRef) (ev : String) (s : St) (ht : s.expCut = true) :
    (execActionsF h fuel as ev s).expCut = true := by
  induction fuel generalizing as ev s with
  | zero =>
    unfold execActionsF
    exact foldl_actStep_expCut h hc (nested := _) (v := true) (hn := fun _ _ _ h => h) (cut := true) (hcut := fun _ => rfl)
      ev as (s, false) ht
  | succ f ih =>
    unfold execActionsF
    refine foldl_actStep_expCut h hc (nested := _) (v := true) (hn := fun fs e s hs => ?_) (cut := false) (hcut := fun _ => rfl)
      ev as (s, false) ht
    rw [endExpansion_below (by omega)]
    exact ih (by omega) fs e s hs

/-- … and while it is set a sibling `choose` (in the code also `pure`, `enqueueActions`) produces no
    follow-ups, at ANY level: the function that would run them is never consulted (the result is the
    same whatever it is) — the `choose` is a no-op, its guards are not even evaluated. `assign`,
    `raise`, user actions are not affected. -/
theorem tripped_choose_no_followups (h : Hooks) (nested nested' : List ActionRef → String → St → St)
    (ev canon : String) (a : ActionRef) (s : St) (ht : s.expCut = true) :
    builtinStep h nested false ev canon a s = builtinStep h nested' false ev canon a s :=
  builtinStep_tripped_ignores_nested h nested nested' ev canon a s ht

theorem tripped_choose_noop (h : Hooks) (nested : List ActionRef → String → St → St) (ev : String)
    (a : ActionRef) (s : St) (ht : s.expCut = true) (he : s.err = none) :
    builtinStep h nested false ev Tables.act_CHOOSE a s = (s, false) := by
  have h1 : Tables.act_CHOOSE ≠ Tables.act_ASSIGN := by decide
  have h2 : Tables.act_CHOOSE ≠ Tables.act_RAISE := by decide
  simp [builtinStep, ht, assignStep, finishBuiltin, he, h1, h2]

/-- *A fresh top-level list expands again* (`if depth == 0: self._expansion_cut = False`): whatever
    tripped inside the expansions of a top-level list, the flag is clear when the list is over — and
    before each of its actions (`foldl_top_expCut`) — so the next top-level built-in starts from scratch. -/
theorem top_level_starts_fresh (h : Hooks) (hc : HooksCutOK h) (as : List ActionRef) (ev : String) (s : St)
    (hs : s.expCut = false) : (execActions h as ev s).expCut = false :=
  foldl_top_expCut h hc ev as (s, false) hs

/-- `choose` with one unguarded branch, as JSON and as an action -/
def chooseJ (acts : List J) : J :=
  .obj [("type", .str "choose"), ("params", .obj [("conditions", .arr [.obj [("actions", .arr acts)]])])]
def chooseR (acts : List J) : ActionRef :=
  { type := "choose", params := some (.obj [("conditions", .arr [.obj [("actions", .arr acts)]])]) }
/-- `n` nested `choose`s around the marker `deep`, each followed by a sibling `choose` of the marker `late` -/
def nestJ : Nat → J
  | 0 => .str "deep"
  | n + 1 => chooseJ [nestJ n, chooseJ [.str "late"]]

/-- three levels of fuel, four levels of `choose`: the innermost reached one trips (its sibling marker
    `m0` still runs — user actions are not affected), the sibling `choose` one level up (`late1`) and the
    one two levels up (`late2`) then produce nothing -/
example : (execActionsF (hooksFlagged u0 fanM) 2
    [chooseR [chooseJ [chooseJ [.str "deep"], .str "m0"], chooseJ [.str "late1"], .str "m1"],
     chooseR [.str "late2"]] "E" running).trace = ["m1@E", "m0@E"] := by decide +kernel
/-- without a trip the siblings expand -/
example : (execActionsF (hooksFlagged u0 fanM) 3
    [chooseR [chooseJ [chooseJ [.str "deep"], .str "m0"], chooseJ [.str "late1"], .str "m1"],
     chooseR [.str "late2"]] "E" running).trace = ["late2@E", "m1@E", "late1@E", "m0@E", "deep@E"] := by decide +kernel
set_option maxRecDepth 100000 in
/-- top level, the code's own bound (`MAX_ACTION_DEPTH` = 50): a `choose` nested 53 deep trips — no `late`
    sibling at any level expands, `deep` is never reached — and the SECOND top-level `choose` expands again -/
example : let s := execActions (hooksFlagged u0 fanM) [chooseR [nestJ 52], chooseR [.str "fresh"]] "E" running
    (s.trace, s.expCut) = (["fresh@E"], false) := by decide +kernel
set_option maxRecDepth 100000 in
/-- three levels less (the innermost sibling `choose` at depth 50) and nothing trips: `deep` runs and every
    `late` sibling expands -/
example : let s := execActions (hooksFlagged u0 fanM) [chooseR [nestJ 49], chooseR [.str "fresh"]] "E" running
    (count "deep@E" s, count "late@E" s, count "fresh@E" s) = (1, 49, 1) := by decide +kernel

/-! ## 3. the async run loop terminates: the model fuel is irrelevant -/

/-- *(a) append-only.* With the hooks of the run loop (`hooksAsync`: both `raise` and a done event
    enqueue a self-flagged entry after incrementing `raiseDepth`) … -/
theorem hooksAsync_append_only (u : UEnv) (m : Machine) : HooksGrow true (hooksAsync u m) := hooksAsync_grow u m

/-- … one macrostep — selection, every selected transition with its exits, actions, entries, done
    checks, rollback on failure — only appends self-flagged entries to the queue, counts each of them
    in `raiseDepth`, and leaves the status alone or sets it to "done"; so does settling. (For any
    hooks with `HooksGrow b h`; `hooksAsyncStart` satisfies it with `b = false`. The sync hooks `hooksFlagged`
    append MARKED entries without counting them in `raiseDepth` — the sync engine has no such counter:
    `Term.syncMacro_marked`.) -/
theorem processEvent_append_only {b : Bool} (h : Hooks) (hg : HooksGrow b h) (fl : Flavor) (m : Machine)
    (u : UEnv) (ev : Ev) (s : St) : Grow b s (processEvent h fl m u ev s) := processEvent_grow h hg fl m u ev s

theorem transientLoop_append_only {b : Bool} (h : Hooks) (hg : HooksGrow b h) (fl : Flavor) (m : Machine)
    (u : UEnv) (n : Nat) (s : St) : Grow b s (transientLoop h fl m u n s) := transientLoop_grow h hg fl m u n s

/-- `Grow`, spelled out -/
theorem grow_iff (b : Bool) (s s' : St) :
    Grow b s s' ↔
      (∃ l, s'.queue = s.queue ++ l ∧ (∀ q ∈ l, q.self = b) ∧ s.raiseDepth + cntSelf l ≤ s'.raiseDepth ∧
        (s'.status = "running" → s'.raiseDepth = s.raiseDepth + cntSelf l)) ∧
      (s'.status = s.status ∨ s'.status = "done") := Iff.rfl

/-- *(b) + (c): one iteration of `_run_event_loop`.* `s` is the state when the event `q` is taken off
    the queue. The invariant is kept, the measure strictly decreases, the status is unchanged or
    became "done". -/
theorem asyncStep_measure (m : Machine) (u : UEnv) (s : St) (q : QEv) (rest : List QEv)
    (hq : s.queue = q :: rest) (hI : AInv s) :
    AInv (asyncStep m u q { s with queue := rest }) ∧
    potential m.maxIterations (asyncStep m u q { s with queue := rest }) < potential m.maxIterations s ∧
    ((asyncStep m u q { s with queue := rest }).status = s.status ∨
      (asyncStep m u q { s with queue := rest }).status = "done") :=
  Term.asyncStep_measure m u s q rest hq hI

theorem potential_bound (L : Nat) (s : St) : potential L s ≤ (cntExt s.queue + 1) * (L + 4) := potential_le L s

/-- **MAIN THEOREM.** For every machine `m`, user code `u` and state `s` satisfying the invariant
    `AInv` (pending self-raised events were all counted), with `n0` pending external events and
    `L = m.maxIterations`: for every fuel `F ≥ (n0 + 1) * (L + 4)` the run loop ends with the status
    it started with, or "done" — so never with the model's "HANG" marker (unless that was the status
    to begin with, which no model function produces otherwise). -/
theorem asyncDrain_no_hang (m : Machine) (u : UEnv) (s : St) (hI : AInv s) (hs : s.status ≠ "HANG") (F : Nat)
    (hF : (cntExt s.queue + 1) * (m.maxIterations + 4) ≤ F) : (asyncDrain m u F s).status ≠ "HANG" := by
  rcases (asyncDrain_no_hang_aux m u s hI F hF).1 with h | h
  · rw [h]; exact hs
  · rw [h]; decide

theorem asyncDrain_status (m : Machine) (u : UEnv) (s : St) (hI : AInv s) (F : Nat)
    (hF : (cntExt s.queue + 1) * (m.maxIterations + 4) ≤ F) :
    (asyncDrain m u F s).status = s.status ∨ (asyncDrain m u F s).status = "done" :=
  (asyncDrain_no_hang_aux m u s hI F hF).1

/-- **… and the fuel is irrelevant above that bound**: the real, fuel-less loop is `asyncDrain m u F`
    for any such `F`. -/
theorem fuel_irrelevant (m : Machine) (u : UEnv) (s : St) (hI : AInv s) (F : Nat)
    (hF : (cntExt s.queue + 1) * (m.maxIterations + 4) ≤ F) (F' : Nat) (hF' : F ≤ F') :
    asyncDrain m u F s = asyncDrain m u F' s :=
  ((asyncDrain_no_hang_aux m u s hI F hF).2 F' hF').symm

/-- the same with the sharper, state-dependent bound -/
theorem fuel_irrelevant_potential (m : Machine) (u : UEnv) (s : St) (hI : AInv s) (F : Nat)
    (hF : potential m.maxIterations s ≤ F) (F' : Nat) (hF' : F ≤ F') :
    asyncDrain m u F s = asyncDrain m u F' s :=
  ((asyncDrain_enough m u F s hI hF).2 F' hF').symm

/-- *What the loop leaves behind:* whatever the fuel, a run that returns "running" has emptied the
    queue (a run cut short by the fuel is "HANG", one that completed the machine is "done") … -/
theorem asyncDrain_leaves_quiescent (m : Machine) (u : UEnv) (F : Nat) (s : St)
    (hr : (asyncDrain m u F s).status = "running") : (asyncDrain m u F s).queue = [] :=
  asyncDrain_running_queue_nil m u F s hr

/-- … with the counter within the bound (`Idle`), if it was so whenever the queue was empty at the
    start (and at `0` if it was `0` then: `asyncDrain_leaves_quiet`, §4) -/
theorem asyncDrain_leaves_idle (m : Machine) (u : UEnv) (F : Nat) (s : St)
    (h0 : s.queue = [] → s.raiseDepth ≤ m.maxIterations) (hr : (asyncDrain m u F s).status = "running") :
    Idle m (asyncDrain m u F s) :=
  asyncDrain_idle m u F s h0 hr

/-- the model's constant `asyncFuel m = 10 * L + 50` covers up to 9 pending external events -/
theorem asyncFuel_enough (m : Machine) (n : Nat) (hn : n ≤ 9) : (n + 1) * (m.maxIterations + 4) ≤ asyncFuel m :=
  asyncFuel_ge m n hn

/-- **`send` returns (async).** From any state satisfying the invariant with at most 8 external events
    already pending — in particular from what the loop leaves behind: an empty queue, ANY counter — the
    status after `asyncSend` is the one before or "done": never "HANG". -/
theorem asyncSend_terminates (m : Machine) (u : UEnv) (e : Ev) (s : St) (hI : AInv s) (hn : cntExt s.queue ≤ 8) :
    (asyncSend m u e s).status = s.status ∨ (asyncSend m u e s).status = "done" :=
  asyncSend_status m u e s hI hn

theorem asyncSend_terminates_idle (m : Machine) (u : UEnv) (e : Ev) (s : St) (hq : s.queue = [])
    (hs : s.status ≠ "HANG") : (asyncSend m u e s).status ≠ "HANG" := by
  rcases asyncSend_status m u e s (by simp [AInv, hq, cntSelf]) (by simp [hq, cntExt]) with h | h
  · rw [h]; exact hs
  · rw [h]; decide

/-- the constant `asyncFuel` is not observable: `asyncSend` is the run loop with any larger fuel -/
theorem asyncSend_fuel_irrelevant (m : Machine) (u : UEnv) (e : Ev) (s : St) (hI : AInv s)
    (hn : cntExt s.queue ≤ 8) (hs : s.status = "running") (F : Nat) (hF : asyncFuel m ≤ F) :
    asyncSend m u e s = asyncDrain m u F { s with queue := s.queue ++ [⟨e, false⟩] } := by
  rw [asyncSend_eq m u e s hs]
  exact ((asyncDrain_no_hang_aux m u _ (AInv_push_ext hI e) _ (pushed_fuel_ok m e s hn)).2 F hF).symm

/-- **`start()` returns (async)**, under the explicit hypothesis that at most 9 events are pending
    when the initial entry and settling are over (`start()` runs outside the run loop: what entry
    actions raise then is queued like external events, not counted). The status is "running", "done",
    or — the library refused to start — "stopped". -/
theorem asyncStart_terminates (m : Machine) (u : UEnv) (s : St) (hI : AInv s)
    (hn : cntExt (asyncStartSettled m u s).queue ≤ 9) :
    (asyncStart m u s).status = "running" ∨ (asyncStart m u s).status = "done" ∨
      (asyncStart m u s).status = "stopped" := Term.asyncStart_no_hang m u s hI hn

/-- **whole runs (async).** After `start()` and after each of any finite sequence of events, each sent
    when the previous one has been digested: the status is "running", "done" or "stopped" — never
    "HANG" — and a running interpreter is idle (empty queue, counter within the bound). -/
theorem async_run_never_hangs (m : Machine) (u : UEnv) (hn : cntExt (asyncStartSettled m u {}).queue ≤ 9)
    (evs : List Ev) :
    let r := evs.foldl (cmd .async m u) (asyncStart m u {})
    r.status ≠ "HANG" ∧ (r.status = "running" ∨ r.status = "done" ∨ r.status = "stopped") ∧
      (r.status = "running" → r.queue = [] ∧ r.raiseDepth ≤ m.maxIterations) := by
  intro r
  obtain ⟨h1, h2⟩ := async_run_ok m u hn evs
  refine ⟨?_, h1, h2⟩
  rcases h1 with h | h | h <;> (show r.status ≠ "HANG"; rw [h]; decide)

/-- `fanM`: `E` raises its own trigger twice (fan-out 2), bound 3. `asyncSend` returns with status
    "running", an empty queue, the counter reset, a legal configuration; `E` was processed twice (the
    second time the counter reached 4 > 3: the third `E` tripped the breaker, which purged the rest);
    the next event is answered. -/
example : let s := asyncSend fanM u0 (.user "E") running
    (s.status, evTypes s, s.raiseDepth, s.cfg, s.err.isSome, count "sawE@E" s) =
      ("running", [], 0, [[], ["a"]], false, 2) := fanM_async.1
example : count "sawX@X" (asyncSend fanM u0 (.user "X") (asyncSend fanM u0 (.user "E") running)) = 1 := fanM_async.2.1
/-- the same from `start()`; the hypothesis of `asyncStart_terminates` holds (nothing is raised) -/
example : cntExt (asyncStartSettled fanM u0 {}).queue = 0 := fanM_async.2.2.1
example : let s := asyncSend fanM u0 (.user "E") (asyncStart fanM u0 {})
    (s.status, evTypes s) = ("running", []) := fanM_async.2.2.2.1
/-- the invariant and the measure on a state of that run: `E` processed once, two `E` pending -/
example : let s : St := { running with queue := [⟨.user "E", true⟩, ⟨.user "E", true⟩], raiseDepth := 2 }
    (decide (cntSelf s.queue ≤ s.raiseDepth), potential 3 s,
     potential 3 (asyncStep fanM u0 ⟨.user "E", true⟩ { s with queue := [⟨.user "E", true⟩] })) = (true, 6, 5) :=
  fanM_async.2.2.2.2.1
/-- `reDoneM` (*"an onDone that re-completes its own state"*), bound 3: `start()` returns on both
    engines, running, in a legal configuration; the `onDone` transition ran 3 times on the sync engine (the done
    event queued by `start()` itself is MARKED — `_is_processing` is set during the initial entry — so it is
    the first of the three marked events the drain processes before the cut) and 4 times on the async one (one
    done event queued by `start()` itself, uncounted: `start()` runs outside the run loop; then 3 more before
    the breaker fires) -/
example : let s := syncStart reDoneM u0 {}
    (s.status, s.cfg, evTypes s, count "again@done.state.m.p" s) = ("running", [[], ["p"], ["p", "f"]], [], 3) :=
  reDoneM_runs.1
example : let s := asyncStart reDoneM u0 {}
    (s.status, s.cfg, evTypes s, s.raiseDepth, count "again@done.state.m.p" s) =
      ("running", [[], ["p"], ["p", "f"]], [], 0, 4) := reDoneM_runs.2.1
example : cntExt (asyncStartSettled reDoneM u0 {}).queue = 1 := reDoneM_runs.2.2
/-- The hypothesis of `asyncStart_terminates` cannot simply be dropped — an artefact of the MODEL's fuel
    constant, not of the code: `manyM` raises 60 events from its initial entry actions (queued like
    external events) with bound 0, so `asyncFuel = 50` iterations do not suffice and the model says
    "HANG"; with fuel 61 the same run ends normally, as `fuel_irrelevant` predicts for every fuel
    `≥ (60 + 1) * 4`. -/
example : (cntExt (asyncStartSettled manyM u0 {}).queue, (asyncStart manyM u0 {}).status) = (60, "HANG") :=
  manyM_runs.1
example : let s := asyncDrain manyM u0 61 (asyncStartSettled manyM u0 {})
    (s.status, evTypes s, count "sawR@R" s) = ("running", [], 60) := manyM_runs.2
/-- `shortM` (`E` raises `R`, `R` raises nothing), bound 3: the chain runs to its natural end and the
    counter is reset -/
example : let s := asyncSend shortM u0 (.user "E") running
    (s.status, evTypes s, s.raiseDepth, count "sawR@R" s) = ("running", [], 0, 1) := shortM_runs.2.1.1

/-! ## 4. events sent from outside -/

/-- *The breaker and the queue.* When the counter exceeds the bound and the dequeued event is itself
    SELF-RAISED it is dropped, every queued self-raised event is purged and the counter reset — nothing
    else changes (configuration, status, error flag, context …: the interpreter "still answers the next
    event"). -/
theorem trip_keeps_running (m : Machine) (u : UEnv) (q : QEv) (s : St) (h : m.maxIterations < s.raiseDepth)
    (hq : q.self = true) :
    asyncStep m u q s = { s with raiseDepth := 0, queue := s.queue.filter (fun q => !q.self) } :=
  asyncStep_above_bound_self m u q s h hq

/-- … an EXTERNAL event dequeued then is not part of the runaway chain: same purge and reset, and the
    event is processed like any other -/
theorem trip_processes_external (m : Machine) (u : UEnv) (q : QEv) (s : St) (h : m.maxIterations < s.raiseDepth)
    (hq : q.self = false) :
    asyncStep m u q s =
      asyncProcess m u q.ev { s with raiseDepth := 0, queue := s.queue.filter (fun q => !q.self) } :=
  asyncStep_above_bound_ext m u q s h hq

/-- below the bound the dequeued event is processed -/
theorem below_bound_processes (m : Machine) (u : UEnv) (q : QEv) (s : St) (h : s.raiseDepth ≤ m.maxIterations) :
    asyncStep m u q s = asyncProcess m u q.ev s := asyncStep_below_bound m u q s h

/-- *"the bound never … discards events sent from outside" (i):* whatever one iteration does — process
    or trip — the external events that were QUEUED stay queued, in order. -/
theorem asyncStep_keeps_queued_external (m : Machine) (u : UEnv) (q : QEv) (s0 : St) :
    extOf (asyncStep m u q s0).queue = extOf s0.queue := Term.asyncStep_keeps_queued_external m u q s0

/-- *(ii):* the event IN HAND is never dropped either if it came from outside: the iteration that
    dequeues an external event processes it, whatever the counter says (from the purged state,
    `asyncBase`, if the breaker fired). -/
theorem external_event_is_processed (m : Machine) (u : UEnv) (q : QEv) (s : St) (hq : q.self = false) :
    asyncStep m u q s = asyncProcess m u q.ev (asyncBase m s) := asyncStep_external m u q s hq

/-- *(iii):* **external events are never discarded by the async run loop.** For every machine, user code,
    state, counter and fuel: the external events the loop received (`asyncLogQ`: dequeued AND processed),
    followed by those still queued when it returns, are exactly the external events queued at the start —
    none lost, none duplicated, order kept; and a loop that returns "running" has received them all. -/
theorem external_events_never_discarded_async (m : Machine) (u : UEnv) (F : Nat) (s : St) :
    extOf (asyncLogQ m u F s) ++ extOf (asyncDrain m u F s).queue = extOf s.queue ∧
    ((asyncDrain m u F s).status = "running" → extOf (asyncLogQ m u F s) = extOf s.queue) := by
  have h := async_external_split m u F s
  refine ⟨h, fun hr => ?_⟩
  rw [asyncDrain_running_queue_nil m u F s hr] at h
  simpa [extOf] using h

/-- *(iv):* an event sent to a running, idle interpreter — what `start()` and every digested `send`
    leave behind, see `async_run_never_hangs` — is processed, never dropped. -/
theorem asyncSend_at_idle_processes (m : Machine) (u : UEnv) (e : Ev) (s : St) (hs : s.status = "running")
    (hi : Idle m s) :
    asyncSend m u e s =
      asyncDrain m u (10 * m.maxIterations + 49) (asyncProcess m u e { s with queue := [] }) := by
  rw [asyncSend_eq m u e s hs, show asyncFuel m = (10 * m.maxIterations + 49) + 1 by unfold asyncFuel; omega,
    asyncDrain_step m u _ (s := { s with queue := s.queue ++ [⟨e, false⟩] }) (q := ⟨e, false⟩) (rest := []) hs
      (by simp [hi.1])]
  exact congrArg _ (asyncStep_below_bound m u ⟨e, false⟩ _ hi.2)

/-- **F30, repaired outcome.** `burstM`, bound 3: `E` raises `R` four times in one
    step. With `E` and `X` both sent before the loop runs (two `await send(…)` in a row), `X` — an external
    event — is dequeued with the counter at 4 > 3: the breaker fires, the four `R`s are purged, and `X` IS
    PROCESSED (`sawX` runs once; before the repair it was dropped: 0). Sent in the other order both are
    processed, as before. -/
theorem burst_keeps_external_event :
    count "sawX@X" (asyncDrain burstM u0 (asyncFuel burstM)
      { running with queue := [⟨.user "E", false⟩, ⟨.user "X", false⟩] }) = 1 ∧
    count "sawR@R" (asyncDrain burstM u0 (asyncFuel burstM)
      { running with queue := [⟨.user "E", false⟩, ⟨.user "X", false⟩] }) = 0 ∧
    asyncTrips burstM u0 (asyncFuel burstM)
      { running with queue := [⟨.user "E", false⟩, ⟨.user "X", false⟩] } = 1 ∧
    count "sawX@X" (asyncDrain burstM u0 (asyncFuel burstM)
      { running with queue := [⟨.user "X", false⟩, ⟨.user "E", false⟩] }) = 1 := by decide +kernel

/-! ### chains shorter than the bound run to their natural end -/

/-- **the chain counter is reset whenever a chain ends.** After an event has been processed —
    successfully or NOT — with the machine still running and no self-raised event queued, the counter
    is 0: nothing leaks into the next chain. -/
theorem counter_reset_when_chain_ends (m : Machine) (u : UEnv) (e : Ev) (s : St)
    (hr : (asyncProcess m u e s).status = "running") (hq : cntSelf (asyncProcess m u e s).queue = 0) :
    (asyncProcess m u e s).raiseDepth = 0 := asyncProcess_counter_zero m u e s hr hq

/-- … spelled out for a macrostep that FAILED (the case the reset used to skip, F31): the failure is
    logged and counted, the error flag cleared, and the counter is reset all the same -/
theorem counter_reset_after_failed_macrostep (m : Machine) (u : UEnv) (e : Ev) (s : St)
    (hfail : (asyncProcessed m u e s).err ≠ none)
    (hr : (asyncProcess m u e s).status = "running") (hq : cntSelf (asyncProcess m u e s).queue = 0) :
    (asyncProcess m u e s).raiseDepth = 0 ∧ (asyncProcess m u e s).errors = s.errors + 1 ∧
      (asyncProcess m u e s).err = none := by
  refine ⟨asyncProcess_counter_zero m u e s hr hq, ?_, asyncProcess_err_none m u e s⟩
  rw [asyncProcess_failed m u e s hfail, asyncChainEnd_errors]

/-- the same for a whole iteration of the loop, tripping or not -/
theorem asyncStep_counter_reset (m : Machine) (u : UEnv) (q : QEv) (s : St)
    (hr : (asyncStep m u q s).status = "running") (hq : cntSelf (asyncStep m u q s).queue = 0) :
    (asyncStep m u q s).raiseDepth = 0 := asyncStep_counter_zero m u q s hr hq

/-- *What the loop leaves behind, sharpened:* a run of the loop that returns "running" has emptied the
    queue and left the counter at 0 — whatever happened on the way, failed macrosteps included — if
    the counter was 0 whenever the queue was empty at the start. -/
theorem asyncDrain_leaves_quiet (m : Machine) (u : UEnv) (F : Nat) (s : St)
    (h0 : s.queue = [] → s.raiseDepth = 0) (hr : (asyncDrain m u F s).status = "running") :
    Quiet (asyncDrain m u F s) :=
  asyncDrain_quiet m u F s h0 hr

/-- **whole runs: every command starts with the counter at 0.** After `start()` and after each of any
    finite sequence of events, each sent when the previous one has been digested, a running interpreter
    has an empty queue and `raiseDepth = 0` (no hypothesis on the machine or on user code: macrosteps may
    fail, chains may have been cut). -/
theorem async_run_quiet (m : Machine) (u : UEnv) (evs : List Ev)
    (hr : (evs.foldl (cmd .async m u) (asyncStart m u {})).status = "running") :
    (evs.foldl (cmd .async m u) (asyncStart m u {})).queue = [] ∧
    (evs.foldl (cmd .async m u) (asyncStart m u {})).raiseDepth = 0 := Term.async_run_quiet m u evs hr

/-- **a chain of at most `maxIterations` self-raised events, started from a state with the counter at 0,
    is never cut** (the formal counterpart of the monitor `oracles.c13_short_chain_not_cut`; general form:
    the counter at the start plus the number of events the machine sends itself during this run of the
    loop — `asyncSelfSends`, over all events processed, external or raised — within the bound). The chain
    breaker does not fire in any iteration (`asyncTrips = 0`), for every fuel. -/
theorem short_chain_not_cut_async (m : Machine) (u : UEnv) (F : Nat) (s : St)
    (h : s.raiseDepth + asyncSelfSends m u F s ≤ m.maxIterations) : asyncTrips m u F s = 0 :=
  short_chain_not_cut m u F s h

/-- … for one `send` to a quiet interpreter (what every command of a run finds, `async_run_quiet`) -/
theorem short_chain_not_cut_send (m : Machine) (u : UEnv) (e : Ev) (s : St) (hq : Quiet s)
    (h : asyncSelfSends m u (asyncFuel m) { s with queue := s.queue ++ [⟨e, false⟩] } ≤ m.maxIterations) :
    asyncTrips m u (asyncFuel m) { s with queue := s.queue ++ [⟨e, false⟩] } = 0 := by
  apply short_chain_not_cut
  have : ({ s with queue := s.queue ++ [⟨e, false⟩] } : St).raiseDepth = 0 := hq.2
  omega

/-- when the breaker never fires every dequeued event is received: nothing at all is dropped -/
theorem no_trip_receives_everything (m : Machine) (q : QEv) (s : St)
    (h : ¬ s.raiseDepth > m.maxIterations) : asyncReceives m q s = true :=
  (asyncReceives_eq_true m q s).2 (fun hh => h hh.1)

/-- `shortM` (`E` raises `R` once, bound 3): one self-send, no trip; `fanM` (fan-out 2, bound 3): the
    machine sends itself 4 events, more than the bound — the hypothesis fails, and the breaker fires once -/
example : (asyncSelfSends shortM u0 (asyncFuel shortM) { running with queue := [⟨.user "E", false⟩] },
    asyncTrips shortM u0 (asyncFuel shortM) { running with queue := [⟨.user "E", false⟩] }) = (1, 0) := shortM_runs.2.1.2.1
example : (asyncSelfSends fanM u0 (asyncFuel fanM) { running with queue := [⟨.user "E", false⟩] },
    asyncTrips fanM u0 (asyncFuel fanM) { running with queue := [⟨.user "E", false⟩] }) = (4, 1) := fanM_async.2.2.2.2.2

/-- **Counterexample to the per-causal-chain reading (F70, async; open).** `shortM`, bound 3: `E` raises `R` once,
    `R` raises nothing — every external `E` starts a chain of length 1. ALONE such a chain is within the bound,
    is not cut and its `R` is received. FOUR of them queued together (`send_events([E, E, E, E])`, or four sends
    while the loop is busy): the counter is never reset while a self-raised event is pending, reaches 4 > 3 after
    the fourth `E`, and the breaker — fired by the first `R` dequeued — purges all four `R`: every `E` is received,
    NO `R` is. The interpreter stays running with an empty queue. The hypothesis of `short_chain_not_cut_async`
    does not hold for this run (4 self-sends in the busy period), so the theorem is not contradicted: it bounds
    the total of a busy period, not a chain. -/
theorem burst_of_short_chains_is_cut_async :
    let e : QEv := ⟨.user "E", false⟩
    let one : St := { running with queue := [e] }
    let s0 : St := { running with queue := [e, e, e, e] }
    (shortM.maxIterations, asyncSelfSends shortM u0 (asyncFuel shortM) one,
      asyncTrips shortM u0 (asyncFuel shortM) one, count "sawR@R" (asyncDrain shortM u0 (asyncFuel shortM) one)) = (3, 1, 0, 1) ∧
    (asyncLogQ shortM u0 (asyncFuel shortM) s0).map (·.ev.type) = ["E", "E", "E", "E"] ∧
    count "sawR@R" (asyncDrain shortM u0 (asyncFuel shortM) s0) = 0 ∧
    asyncTrips shortM u0 (asyncFuel shortM) s0 = 1 ∧
    ((asyncDrain shortM u0 (asyncFuel shortM) s0).status, evTypes (asyncDrain shortM u0 (asyncFuel shortM) s0)) = ("running", []) ∧
    asyncSelfSends shortM u0 (asyncFuel shortM) s0 = 4 := shortM_runs.2.2
/-- … five of them: the fifth `E` (external) is dequeued with the counter at 4, the breaker purges the four `R`
    queued so far and `E` is processed from 0: one `R` of five survives (in general `N mod (maxIterations + 1)`
    of `N`; the code with its default bound 1000 and a burst of 1500: 499) -/
example : let e : QEv := ⟨.user "E", false⟩
    count "sawR@R" (asyncDrain shortM u0 (asyncFuel shortM) { running with queue := [e, e, e, e, e] }) = 1 :=
  shortM_runs.2.1.2.2

/-- **F31, repaired outcome.** `errChainM`, bound 3: `E` raises `R`; handling `R`
    runs `sawR` and then fails on a missing action. The counter IS reset after the failed macrostep: after
    three such (independent, length-1) chains it stands at 0 with an empty queue (before the repair: 3),
    and the fourth chain runs to its natural end: its `R` is received, `sawR` ran 4 times (before: 3, the
    fourth `R` was dropped by the breaker although the chain is shorter than the bound). -/
theorem failed_chains_do_not_leak :
    let s3 := [Ev.user "E", .user "E", .user "E"].foldl (cmd .async errChainM u0) running
    let s4 := cmd .async errChainM u0 s3 (.user "E")
    (s3.status, evTypes s3, s3.raiseDepth, count "sawR@R" s3) = ("running", [], 0, 3) ∧
    (s4.status, evTypes s4, s4.raiseDepth, count "sawR@R" s4) = ("running", [], 0, 4) ∧
    asyncTrips errChainM u0 (asyncFuel errChainM) { s3 with err := none, queue := [⟨.user "E", false⟩] } = 0 := by
  decide +kernel

/-! ### the sync engine: termination, external events, short chains, leftovers (F10, repaired twice) -/

/-- `_process_event_queue()`: the loop with `chained = 0`; `syncSend` / `send_events` / `syncStart` all drain
    through `drainFlagged`. The first argument is the MODEL's fuel (`drainFuel`). -/
theorem sync_drain_is (m : Machine) (u : UEnv) (s : St) :
    drainFlagged m u s = drainLoop m u ((cntExt s.queue + 1) * (m.maxIterations + 2)) 0 s := rfl

/-- the measure of the sync drain strictly decreases in every iteration: processing the head (marked and
    within the bound, or external) … -/
theorem sync_measure_decreases (m : Machine) (u : UEnv) (c : Nat) (s : St) (q : QEv) (rest : List QEv)
    (hq : s.queue = q :: rest) (hc : c ≤ m.maxIterations) (ht : syncTrips m c q = false) :
    drainPot m.maxIterations (chainedNext c q) (syncMacro m u q.ev { s with queue := rest }).queue <
      drainPot m.maxIterations c s.queue ∧ chainedNext c q ≤ m.maxIterations :=
  ⟨Term.drainPot_step m u c s q rest hq ht, Term.chainedNext_le m c q hc ht⟩

/-- … and a cut -/
theorem sync_measure_decreases_cut (m : Machine) (c : Nat) (s : St) (q : QEv) (rest : List QEv)
    (hq : s.queue = q :: rest) (hc : c ≤ m.maxIterations) (ht : syncTrips m c q = true) :
    drainPot m.maxIterations 0 (syncPurge s).queue < drainPot m.maxIterations c s.queue :=
  Term.drainPot_trip m c s q rest hq hc ht

/-- **the sync drain terminates — for every machine, user code and state.** With any fuel `F ≥ drainFuel m s`
    (in general: at least the measure `drainPot`) the model's fuel never runs out with events pending on a
    running interpreter (`drainHang`): the `while self._event_queue:` loop of the code, which has no such
    bound, ends after at most `(external events queued + 1) * (maxIterations + 2)` iterations. -/
theorem sync_drain_terminates (m : Machine) (u : UEnv) (s : St) (F : Nat) (hF : drainFuel m s ≤ F) :
    drainHang m u F 0 s = false := Term.drain_no_hang m u s F hF

theorem sync_drain_terminates_pot (m : Machine) (u : UEnv) (F c : Nat) (s : St) (hc : c ≤ m.maxIterations)
    (hF : drainPot m.maxIterations c s.queue ≤ F) : drainHang m u F c s = false :=
  Term.drain_no_hang_pot m u F c s hc hF

/-- **… and the fuel is irrelevant**: the drain the model runs is the drain with ANY larger fuel — the real,
    fuel-less loop — in its result and in the events it receives. -/
theorem sync_fuel_irrelevant (m : Machine) (u : UEnv) (s : St) (F : Nat) (hF : drainFuel m s ≤ F) :
    drainLoop m u F 0 s = drainFlagged m u s ∧ drainLogQ m u F 0 s = drainLogQ m u (drainFuel m s) 0 s :=
  Term.sync_fuel_irrelevant m u s F hF

/-- `send` returns (sync): `syncSend` is the fuel-less drain of the queue with the event appended -/
theorem syncSend_terminates (m : Machine) (u : UEnv) (e : Ev) (s : St) (hr : s.status = "running") (F : Nat)
    (hF : drainFuel m { s with queue := s.queue ++ [⟨e, false⟩] } ≤ F) :
    syncSend m u e s = drainLoop m u F 0 { s with queue := s.queue ++ [⟨e, false⟩] } ∧
    drainHang m u F 0 { s with queue := s.queue ++ [⟨e, false⟩] } = false := by
  refine ⟨?_, Term.drain_no_hang m u _ F hF⟩
  rw [(Term.sync_fuel_irrelevant m u _ F hF).1]
  unfold syncSend sndUnflagged
  rw [if_pos hr]

/-- with the model's fuel, "cut" (`drainCut`) means exactly: the bound tripped at least once -/
theorem sync_cut_iff_trips (m : Machine) (u : UEnv) (s : St) :
    drainCut m u (drainFuel m s) 0 s = true ↔ 0 < drainTrips m u (drainFuel m s) 0 s :=
  Term.drainCut_iff_trips m u _ 0 s (Term.drain_no_hang m u s _ (Nat.le_refl _))

/-- **external events are never discarded by the sync bound** (the sync counterpart of
    `external_events_never_discarded_async`; on the witness of F10: `sync_burst_not_throttled`).
    For every machine, user code and state — in particular with MARKED leftovers of a drain that raised queued
    in front of, or between, the external events: the external events the drain received (`drainLogQ`:
    dequeued AND handed to `_process_event`), followed by those still queued when it returns, are an initial
    segment of the external events queued at its start — none skipped, none twice, order kept; ALL of them when
    the interpreter is still "running" then (the only way an external event is lost: the machine completed or
    was stopped — status gate, C10); and a drain that returns "running" without raising has received every one
    of them and left nothing queued. -/
theorem external_events_never_discarded_sync (m : Machine) (u : UEnv) (s : St) :
    (extOf (drainLogQ m u (drainFuel m s) 0 s) ++ extOf (drainFlagged m u s).queue <+: extOf s.queue) ∧
    ((drainFlagged m u s).status = "running" →
      extOf (drainLogQ m u (drainFuel m s) 0 s) ++ extOf (drainFlagged m u s).queue = extOf s.queue) ∧
    ((drainFlagged m u s).err = none → (drainFlagged m u s).status = "running" →
      extOf (drainLogQ m u (drainFuel m s) 0 s) = extOf s.queue ∧ (drainFlagged m u s).queue = []) := by
  have h1 := (Term.drain_external m u (drainFuel m s) 0 s).1
  have h2 := (Term.drain_external m u (drainFuel m s) 0 s).2 (Term.drain_no_hang m u s _ (Nat.le_refl _))
  refine ⟨h1, h2, fun he hr => ?_⟩
  have hnil : (drainLoop m u (drainFuel m s) 0 s).queue = [] := Term.drainLoop_queue_nil_of_ok m u _ _ _ he
  have := h2 hr
  rw [hnil] at this
  exact ⟨by simpa [extOf] using this, hnil⟩

/-- … for every fuel and counter: a prefix, always -/
theorem external_events_prefix_sync (m : Machine) (u : UEnv) (fuel c : Nat) (s : St) :
    extOf (drainLogQ m u fuel c s) ++ extOf (drainLoop m u fuel c s).queue <+: extOf s.queue :=
  (Term.drain_external m u fuel c s).1

/-- **a drain in which at most `maxIterations` marked events come up is never cut** (the sync counterpart of
    `short_chain_not_cut_async`, and of the monitor `oracles.c13_short_chain_not_cut`). The marked entries
    queued when the drain starts (`cntSelf`: leftovers of a drain that raised, what `start()` queued) plus
    `drainRaised`: the events the macrosteps of this drain append to the queue — every `raise`, every
    `done.state.*`, every `send` to itself, over all events processed. However many EXTERNAL events are queued. -/
theorem short_chain_not_cut_sync (m : Machine) (u : UEnv) (s : St)
    (h : cntSelf s.queue + (drainRaised m u (drainFuel m s) 0 s).length ≤ m.maxIterations) :
    drainTrips m u (drainFuel m s) 0 s = 0 ∧ drainCut m u (drainFuel m s) 0 s = false := by
  have h0 := drainTrips_zero_of_raised m u (drainFuel m s) 0 s (by omega)
  refine ⟨h0, ?_⟩
  cases hc : drainCut m u (drainFuel m s) 0 s with
  | false => rfl
  | true => have := (sync_cut_iff_trips m u s).1 hc; omega

/-- … the exact threshold: the bound trips only in a drain in which MORE than `maxIterations` marked events
    come up -/
theorem sync_cut_needs_long_chain (m : Machine) (u : UEnv) (s : St)
    (hc : drainCut m u (drainFuel m s) 0 s = true) :
    m.maxIterations < cntSelf s.queue + (drainRaised m u (drainFuel m s) 0 s).length := by
  by_cases h : m.maxIterations < cntSelf s.queue + (drainRaised m u (drainFuel m s) 0 s).length
  · exact h
  · rw [(short_chain_not_cut_sync m u s (by omega)).2] at hc; exact absurd hc (by simp)

/-- … for one `send` to an interpreter with nothing marked queued (the event appended, then the drain) -/
theorem short_chain_not_cut_send_sync (m : Machine) (u : UEnv) (e : Ev) (s : St) (hs : cntSelf s.queue = 0)
    (h : (drainRaised m u (drainFuel m { s with queue := s.queue ++ [⟨e, false⟩] }) 0
      { s with queue := s.queue ++ [⟨e, false⟩] }).length ≤ m.maxIterations) :
    drainCut m u (drainFuel m { s with queue := s.queue ++ [⟨e, false⟩] }) 0
      { s with queue := s.queue ++ [⟨e, false⟩] } = false := by
  apply (short_chain_not_cut_sync m u { s with queue := s.queue ++ [⟨e, false⟩] } ?_).2
  have : cntSelf ({ s with queue := s.queue ++ [⟨e, false⟩] } : St).queue = 0 := by
    show cntSelf (s.queue ++ [⟨e, false⟩]) = 0
    rw [cntSelf_append, hs]; rfl
  omega

/-- **the work of one drain does not depend on the marked leftovers** (what made the first repair of F10 hang:
    there, every event left queued by a drain that raised was exempt from the bound, so a fan-out machine
    processed ALL of them in the next drain, each enqueuing several more). One `_process_event_queue()`
    processes at most `maxIterations + 1` events per external event queued plus `maxIterations`, and with
    `MacroFanout m u K` enqueues at most `K` times as many. -/
theorem sync_drain_work_bounded (m : Machine) (u : UEnv) (K : Nat) (hK : Term.MacroFanout m u K) (s : St) :
    drainSteps m u (drainFuel m s) 0 s ≤ cntExt s.queue * (m.maxIterations + 1) + m.maxIterations ∧
    (drainFlagged m u s).queue.length ≤ s.queue.length + K * drainSteps m u (drainFuel m s) 0 s :=
  ⟨drainLoop_bound m u _ s, (Term.drain_leftovers m u K hK _ 0 s).2⟩

/-- **the queue left behind by a drain stays bounded** (the formal counterpart of the regression of the first
    repair of F10). When `_process_event_queue()` returns — in particular with an error, which keeps what is
    queued, marks included — the MARKED entries still queued are at most the marked entries queued when it
    started, if the bound never tripped, and none of those otherwise (a cut purges them ALL), plus `K` per
    event this drain processed, `K` any bound on what one macrostep enqueues; and the drain processed at most
    `cntExt s.queue * (maxIterations + 1) + maxIterations` events. So what a later drain finds is bounded by
    what the earlier ones PROCESSED (not by what they found): the queue cannot grow geometrically from `send`
    to `send`; and as soon as more than `maxIterations` marked leftovers are dequeued in one drain — at the
    `maxIterations + 1`-st — they are all gone. -/
theorem leftovers_stay_bounded (m : Machine) (u : UEnv) (K : Nat) (hK : Term.MacroFanout m u K) (s : St) :
    cntSelf (drainFlagged m u s).queue ≤
      (if drainTrips m u (drainFuel m s) 0 s = 0 then cntSelf s.queue else 0) +
        K * drainSteps m u (drainFuel m s) 0 s ∧
    cntSelf (drainFlagged m u s).queue ≤
      (if drainTrips m u (drainFuel m s) 0 s = 0 then cntSelf s.queue else 0) +
        K * (cntExt s.queue * (m.maxIterations + 1) + m.maxIterations) ∧
    cntExt (drainFlagged m u s).queue ≤ cntExt s.queue := by
  have h1 := (Term.drain_leftovers m u K hK (drainFuel m s) 0 s).1
  have h2 := drainLoop_bound m u (drainFuel m s) s
  refine ⟨h1, Nat.le_trans h1 (Nat.add_le_add_left (Nat.mul_le_mul_left K h2) _), ?_⟩
  have h3 := (Term.drain_external m u (drainFuel m s) 0 s).1
  have h4 := h3.length_le
  rw [List.length_append, Term.extOf_length, Term.extOf_length, Term.extOf_length] at h4
  show cntExt (drainLoop m u (drainFuel m s) 0 s).queue ≤ _
  omega

/-- `cut_condition`, read for a marked head: it is processed only while fewer than `maxIterations` marked events were
    dequeued since the last cut (so of MORE than `maxIterations` marked leftovers at the head of a queue the
    `maxIterations + 1`-st is not processed but trips the bound) -/
theorem marked_head_processed_iff (m : Machine) (c : Nat) (q : QEv) (hq : q.self = true) :
    syncTrips m c q = false ↔ c + 1 ≤ m.maxIterations := by
  rw [Term.syncTrips_eq_false]; simp [hq]

/-- `fanErrM` (`E` raises `R` twice and then FAILS, `R` raises `R` twice; bound 3), `send(E)` four times (each
    from the state the previous one left, error flag cleared — the exception went to the caller): every `send`
    raises; the queue it leaves behind has length 2, 6, 2, 6 — bounded: the second send finds `R R E`, processes
    `R R` (marked, 2 ≤ 3) and `E`, leaves 6 marked `R`; the third finds `R⁶ E`, processes three `R`, the fourth
    trips the bound: all marked entries are purged, `E` is processed and leaves 2. (Under the first repair
    every leftover was exempt from the bound: 2, 6, 14, 30, … — each drain processed all of them.) `K = 2` is a
    fan-out bound for the run, and `leftovers_stay_bounded` gives 2, 2 + 2·3, 0 + 2·4, 2 + 2·3. -/
theorem leftovers_example :
    let s1 := cmd .sync fanErrM u0 running (.user "E")
    let s2 := cmd .sync fanErrM u0 s1 (.user "E")
    let s3 := cmd .sync fanErrM u0 s2 (.user "E")
    let s4 := cmd .sync fanErrM u0 s3 (.user "E")
    (s1.queue.length, s2.queue.length, s3.queue.length, s4.queue.length) = (2, 6, 2, 6) ∧
    (s1.err.isSome, s2.err.isSome, s3.err.isSome, s4.err.isSome) = (true, true, true, true) ∧
    (cntSelf s1.queue, cntSelf s2.queue, cntSelf s3.queue, cntSelf s4.queue) = (2, 6, 2, 6) ∧
    (let q2 : St := { s1 with err := none, queue := s1.queue ++ [⟨.user "E", false⟩] }
     let q3 : St := { s2 with err := none, queue := s2.queue ++ [⟨.user "E", false⟩] }
     (drainSteps fanErrM u0 (drainFuel fanErrM q2) 0 q2, drainTrips fanErrM u0 (drainFuel fanErrM q2) 0 q2,
      drainSteps fanErrM u0 (drainFuel fanErrM q3) 0 q3, drainTrips fanErrM u0 (drainFuel fanErrM q3) 0 q3) =
       (3, 0, 4, 1)) := by decide +kernel

/-- **Counterexample to the per-causal-chain reading (F70, sync; open).** The same witness on the sync engine: one
    `E` alone enqueues one event while draining, is not cut, its `R` is received. Four `E` queued by one
    `send_events`: every raised `R` is marked and every marked dequeue of the drain counts, so after
    `E E E E R R R` the counter stands at 3 and the fourth `R` trips the bound: the cut discards it — the whole
    (length 1) chain of the fourth `E` (in general `N - maxIterations` of `N`). The hypothesis of
    `short_chain_not_cut_sync` does not hold (4 events enqueued while draining): it bounds the total of a drain,
    not a chain. -/
theorem burst_of_short_chains_is_cut_sync :
    let e : QEv := ⟨.user "E", false⟩
    let one : St := { running with queue := [e] }
    let s0 : St := { running with queue := [e, e, e, e] }
    (shortM.maxIterations, (drainRaised shortM u0 (drainFuel shortM one) 0 one).length,
      drainCut shortM u0 (drainFuel shortM one) 0 one, count "sawR@R" (drainFlagged shortM u0 one)) = (3, 1, false, 1) ∧
    (drainLog shortM u0 (drainFuel shortM s0) 0 s0).map (·.type) = ["E", "E", "E", "E", "R", "R", "R"] ∧
    count "sawR@R" (drainFlagged shortM u0 s0) = 3 ∧
    drainCut shortM u0 (drainFuel shortM s0) 0 s0 = true ∧
    ((drainFlagged shortM u0 s0).status, evTypes (drainFlagged shortM u0 s0)) = ("running", []) ∧
    (drainRaised shortM u0 (drainFuel shortM s0) 0 s0).length = 4 := shortM_runs.1.2

/-- **F10, repaired outcome.** Five plain external events queued by one call
    (`send_events`) with bound 3 — no chain at all: all five are processed (before the repair: 3, the last
    two were discarded); external events do not count, nothing is cut. -/
theorem sync_burst_not_throttled :
    let x : QEv := ⟨.user "X", false⟩
    count "sawX@X" (drainFlagged fanM u0 { running with queue := [x, x, x, x, x] }) = 5 ∧
    drainTrips fanM u0 (drainFuel fanM { running with queue := [x, x, x, x, x] }) 0
      { running with queue := [x, x, x, x, x] } = 0 ∧
    drainCut fanM u0 (drainFuel fanM { running with queue := [x, x, x, x, x] }) 0
      { running with queue := [x, x, x, x, x] } = false := fanM_sync.2.1
/-- … and a burst mixed with a runaway chain: `X E X`, `fanM` (`E` raises `E` twice, bound 3): `X E X` are
    received first, then three of the raised (marked) `E`s, then the cut — which discards raised `E`s only -/
example : let x : QEv := ⟨.user "X", false⟩
    let e : QEv := ⟨.user "E", false⟩
    (drainLog fanM u0 (drainFuel fanM { running with queue := [x, e, x] }) 0 { running with queue := [x, e, x] },
     drainCut fanM u0 (drainFuel fanM { running with queue := [x, e, x] }) 0 { running with queue := [x, e, x] },
     count "sawX@X" (drainFlagged fanM u0 { running with queue := [x, e, x] })) =
    ([.user "X", .user "E", .user "X", .user "E", .user "E", .user "E"], true, 2) := fanM_sync.2.2.1
/-- … and with MARKED leftovers in front of the external events (what a drain that raised leaves): five marked
    `E` then `X X`, bound 3 — three `E` are processed, the fourth trips the bound: every marked entry is purged
    (the fifth leftover and the six `E` raised meanwhile), both `X` are received -/
example : let x : QEv := ⟨.user "X", false⟩
    let l : QEv := ⟨.user "E", true⟩
    (drainLog fanM u0 (drainFuel fanM { running with queue := [l, l, l, l, l, x, x] }) 0
        { running with queue := [l, l, l, l, l, x, x] },
     drainTrips fanM u0 (drainFuel fanM { running with queue := [l, l, l, l, l, x, x] }) 0
        { running with queue := [l, l, l, l, l, x, x] },
     evTypes (drainFlagged fanM u0 { running with queue := [l, l, l, l, l, x, x] })) =
    ([.user "E", .user "E", .user "E", .user "X", .user "X"], 1, []) := fanM_sync.2.2.2
/-- `shortM` (`E` raises `R` once, bound 3): one event enqueued while draining, not cut; `fanM`: the hypothesis
    of `short_chain_not_cut_sync` fails (8 > 3 events enqueued while draining) and the drain is cut -/
example : ((drainRaised shortM u0 (drainFuel shortM { running with queue := [⟨.user "E", false⟩] }) 0
      { running with queue := [⟨.user "E", false⟩] }).length,
    drainCut shortM u0 (drainFuel shortM { running with queue := [⟨.user "E", false⟩] }) 0
      { running with queue := [⟨.user "E", false⟩] }) = (1, false) := shortM_runs.1.1.2.2
example : ((drainRaised fanM u0 (drainFuel fanM { running with queue := [⟨.user "E", false⟩] }) 0
      { running with queue := [⟨.user "E", false⟩] }).length,
    drainCut fanM u0 (drainFuel fanM { running with queue := [⟨.user "E", false⟩] }) 0
      { running with queue := [⟨.user "E", false⟩] }) = (8, true) := fanM_sync.1.2.2.2

/-! ## 5. … "leaving a legal configuration" -/

/-- Legality of the configuration after `send` — cut or not — is C01 (`legal_run`); for one command: -/
theorem send_leaves_legal (fl : Flavor) (m : Machine) (u : UEnv) (e : Ev) (hwf : WF m.root) (hi : InitOK m.root)
    (hsel : SelSound m) (s : St) (hl : Legal m.root s.cfg) : Legal m.root (cmd fl m u s e).cfg :=
  cmd_inv fl m u e hwf hi hsel s hl

end XSM.C13

import Xsm.Proofs.ActorsInv
import Xsm.Model.ActorsDone
/-!
# C15 — actor messaging and supervision are exact

"spawnChild, spawn_<service> actions and invoking a machine each create exactly one started child,
registered under its id and, if given, its systemId; sendTo, sendParent, forwardTo and escalate deliver
each event exactly once to exactly the addressed actor, in sending order, or drop it with a warning when
the target does not resolve or is ambiguous, and cancel(id) prevents that pending delayed send - and only
that one - from being delivered. stopChild and the parent's stop() stop the child and all its descendants
and remove them from the children map and the system registry, so they receive and emit nothing afterwards."

Statements about the executable actor-system model `Xsm/Model/Actors.lean` (namespace `XSM.Actors`): a
message-level model of `_spawn_actor`, `_resolve_actor_target`, `_system_registry`, `_register_in_system`,
`_deliver`, `_cancel_scheduled_send`, the sendTo / sendParent / forwardTo / escalate / stopChild / spawnChild
branches of `_execute_builtin_action`, and `stop()` of BOTH engines (`Flavor.sync` / `Flavor.async`).  The
same definitions are compiled into `driver_actors` and compared with the real engines on every run of
`./check C15` (`harness/xsmverif/c15.py`), observation by observation.

## Repaired defects of the library, each shown on the witness of its finding (evaluated on the same inputs)
* `registry_keeps_stopped_descendant_fixed` (F14), `async_stopped_actor_processes_queued_event_fixed` (F50),
  `respawned_id_orphans_previous_actor_fixed` (F51), `source_key_first_of_many_wins_fixed` (F53),
  `segment_match_sees_parents_own_segments_fixed` (F54)
* F71 (async engine, repaired by `06ecd9a`): an INVOKED child machine that reaches its top-level final state (or fails)
  while it owns a child was dropped from its parent's children map by the managing task WITHOUT being stopped; what it
  had spawned kept running, registered and addressable by systemId, and the parent's `stop()` no longer reached it.
  About the extension `Xsm/Model/ActorsDone.lean` (actors that end by themselves); the supervision theorems of §5 speak
  about systems in which an actor leaves `running` only through `stop()` and are untouched.
  `completed_child_is_stopped_with_its_descendants` is the library as it is (`SysD.fixed = true`: the task stops the
  child whatever its status; on the sync engine the watcher thread calls `child.stop()`);
  `completed_child_leaves_running_descendants` is the same witness BEFORE the repair (`SysD.fixed = false`). The check
  drives the model with the variant the ledger says (`F71` open / fixed).

## What is FALSE of the code, stated as a theorem about the model (= the code, by the tie): the open finding F52
* `sync_lazy_spawn_child_not_started`: sync engine, non-blocking spawn, watcher thread not yet run:
  the child is not started when the spawning action returns, an immediate send is dropped;
  `sync_lazy_respawn_previous_not_started`: for the same reason a spawn under the id of a not-yet-started
  child cannot stop it (the repair of F51 applies to started children)

## Only validated (differentially / by the monitor), not proved
* that the model IS the code (tie: 0 disagreements on every explored op sequence, both engines);
* (the hypotheses `WF`, `Settled`, `Tidy` of §5 are PROVED invariant, `reachable_inv`; the driver also
  evaluates their decidable form `invB` — sound by `invB_sound` — at every observation of every explored run
  and the check fails if it is ever false: a cross-check of the proof's reading of the model against the code);
* exactly-once / addressee-only / warnings at the level of the real interpreters: the monitor of
  `c15_impl.py` (independent reference resolution on the live objects).

## What the model cannot exhibit
Machines are reduced to "records what it receives": an event never triggers a reaction (the harness's
child machines are built that way too). uuid4 is a counter. Only the two thread schedules `eager` /
not `eager` of the sync engine's watcher threads are modelled (start at once / start after the macrostep).
An actor stopping ITSELF or an ANCESTOR through a systemId (`stopChild(systemId)`) leaves the fragment:
the model flags it (`oos`) and the comparison stops there. Delayed sends due at the same millisecond are
not generated (the engines give no order for them).
-/
namespace XSM.C15
open XSM XSM.Actors

/-! ## 1. spawn -/

/-- *spawnChild / spawn_<service> create exactly one started child, registered under its id and systemId.*
    One actor object is added; it runs (`startedAtSpawn`: always in the async engine; sync engine: blocking
    spawn, or the watcher thread scheduled at once), carries the id of the scheme `<parent id>:<explicit id>`
    / `<parent id>:<key>:<fresh>`, is the parent's child under exactly that id, is recorded with its source
    key, and the registry maps the requested systemId to it. Holds whether or not the id was in use. -/
theorem spawn_creates_one_started_registered (busy : Option Nat) (s : Sys) (p : Nat) (key : String) (eid sid : Option String)
    (blocking : Bool) (hp : p < s.actors.length) (hstart : startedAtSpawn s blocking = true) :
    (spawn busy s p key eid sid blocking).actors.length = s.actors.length + 1 ∧
    ((spawn busy s p key eid sid blocking).get s.actors.length).status = .running ∧
    ((spawn busy s p key eid sid blocking).get s.actors.length).id = mkId (s.get p).id key eid s.fresh ∧
    ((spawn busy s p key eid sid blocking).get s.actors.length).parent = some p ∧
    ((spawn busy s p key eid sid blocking).get s.actors.length).received = [] ∧
    dlookup (mkId (s.get p).id key eid s.fresh) ((spawn busy s p key eid sid blocking).get p).kids = some s.actors.length ∧
    dlookup (mkId (s.get p).id key eid s.fresh) ((spawn busy s p key eid sid blocking).get p).sources = some key ∧
    (∀ x, sid = some x → dlookup x (spawn busy s p key eid sid blocking).registry = some s.actors.length) := by
  have ⟨e, _, _, hlen, _, hreg, hg⟩ := spawn_spec busy s p key eid sid blocking hp
  have hn := hg s.actors.length
  rw [if_neg (Nat.ne_of_gt hp), if_pos rfl] at hn
  have hpp := hg p
  rw [if_pos rfl] at hpp
  rw [hn, hpp]
  exact ⟨hlen, by simp [newActor, hstart], rfl, rfl, rfl, dlookup_dinsert_self _ _ _, dlookup_dinsert_self _ _ _, hreg⟩

theorem spawn_id_scheme (pid key e : String) (n : Nat) :
    mkId pid key (some e) n = pid ++ ":" ++ e ∧ mkId pid key none n = pid ++ ":" ++ key ++ ":u" ++ toString (n + 1) :=
  ⟨rfl, rfl⟩

/-- *…and nothing else happens* (the id is free): every other actor is untouched, the spawning parent keeps
    its status and has received nothing. -/
theorem spawn_leaves_the_rest_alone (busy : Option Nat) (s : Sys) (p : Nat) (key : String) (eid sid : Option String)
    (blocking : Bool) (hp : p < s.actors.length) (hfree : dlookup (mkId (s.get p).id key eid s.fresh) (s.get p).kids = none) :
    (∀ v, v ≠ p → v < s.actors.length → (spawn busy s p key eid sid blocking).get v = s.get v) ∧
    (∀ v, v < s.actors.length → ((spawn busy s p key eid sid blocking).get v).status = (s.get v).status ∧
      ((spawn busy s p key eid sid blocking).get v).received = (s.get v).received) := by
  have ⟨e, he, _, _, _, _, hg⟩ := spawn_spec busy s p key eid sid blocking hp
  rw [evict, hfree] at he
  subst he
  refine ⟨fun v h1 h2 => by rw [hg, if_neg h1, if_neg (Nat.ne_of_lt h2)], fun v h => ?_⟩
  rw [hg]
  split
  · next e => rw [e]; exact ⟨rfl, rfl⟩
  · rw [if_neg (Nat.ne_of_lt h)]; exact ⟨rfl, rfl⟩

/-- F51 repaired — *a spawn under an id that is still in use.* From an observation point, when the id of the
    new child still names the child `old` of the spawning actor `p`:
    * `old` and every actor below it, at any depth, is completely stopped (status, run loop) and has an empty
      children map — `previous.stop()` has completed before the new child is created;
    * the id names the NEW child (uid `s.actors.length`) in `p`'s map; `p` itself keeps running and its map is
      the old one with that one entry re-pointed;
    * no other actor starts running, and every other actor that still runs has exactly the children map it
      had — the only edges that disappear are the one from `p` to `old` and those below `old`, so the only
      actors that are no longer reachable from the root are the stopped ones of `old`'s subtree. -/
theorem respawn_stops_and_replaces_previous (busy : Option Nat) (s : Sys) (p : Nat) (key : String) (eid sid : Option String)
    (blocking : Bool) (old : Nat) (hwf : WF s) (hset : Settled s) (htidy : Tidy s) (hp : p < s.actors.length)
    (hold : dlookup (mkId (s.get p).id key eid s.fresh) (s.get p).kids = some old) :
    (∀ d, Desc s old d → Dead (spawn busy s p key eid sid blocking) d ∧ ((spawn busy s p key eid sid blocking).get d).kids = []) ∧
    dlookup (mkId (s.get p).id key eid s.fresh) ((spawn busy s p key eid sid blocking).get p).kids = some s.actors.length ∧
    (R s p → R (spawn busy s p key eid sid blocking) p ∧ ((spawn busy s p key eid sid blocking).get p).kids =
      dinsert (mkId (s.get p).id key eid s.fresh) s.actors.length (derase (mkId (s.get p).id key eid s.fresh) (s.get p).kids)) ∧
    (∀ u, u < s.actors.length → R (spawn busy s p key eid sid blocking) u → R s u) ∧
    (∀ u, u < s.actors.length → u ≠ p → R (spawn busy s p key eid sid blocking) u →
      ((spawn busy s p key eid sid blocking).get u).kids = (s.get u).kids) := by
  have ⟨e, he, hst, _, hfl, _, hg⟩ := spawn_spec busy s p key eid sid blocking hp
  generalize mkId (s.get p).id key eid s.fresh = cid at hold he hg ⊢
  generalize spawn busy s p key eid sid blocking = t at hfl hg ⊢
  have hpo := hwf p (cid, old) (dlookup_mem hold)
  -- the eviction: `old` is unlinked, then stopped
  have he' : e = stop busy (popKid s p cid) old := by rw [he]; unfold evict; rw [hold]
  have h1 := shrunk_closed.popKid s p cid
  have hst1 : ∀ v, ((popKid s p cid).get v).status = (s.get v).status := fun v => (h1.get v).1
  have hm : Mono (popKid s p cid) e := he' ▸ mono_stop busy _ old
  -- the spawn itself touches the children map of `p` only
  have hold' : ∀ u, u < s.actors.length → (t.get u).status = (e.get u).status ∧ (u ≠ p → t.get u = e.get u) := by
    intro u hu
    rw [hg]
    split
    · next h => subst h; exact ⟨rfl, fun h => absurd rfl h⟩
    · rw [if_neg (Nat.ne_of_lt hu)]; exact ⟨rfl, fun _ => rfl⟩
  have hpk : (t.get p).kids = dinsert cid s.actors.length (e.get p).kids := by rw [hg, if_pos rfl]
  -- `p` is above `old`, so `old.stop()` does not touch it
  have hrp : R s p → R e p := fun hr => by
    have hnd : ¬ Desc (popKid s p cid) old p := fun hd => by
      have := (desc_bounds hwf (desc_sub (fun u kv m => (h1.get u).2.2.2 kv m) hd)).1
      omega
    unfold R; rw [he', stop_frame busy _ old p hnd, hst1]; exact hr
  refine ⟨fun d hd => ?_, by rw [hpk]; exact dlookup_dinsert_self _ _ _, fun hr => ?_, fun u hu h => ?_, fun u hu hne h => ?_⟩
  · have hb := desc_bounds hwf hd
    have ⟨dd, dk⟩ := stop_unlinked_down busy hwf hset htidy h1.flavor h1.n h1.get
      (fun v hv => congrArg Actor.kids (get_upd_ne s _ (Nat.ne_of_gt hv))) hpo.1 hpo.2 hd
    rw [← he'] at dd dk
    have hge : t.get d = e.get d := (hold' d (hb.2 hpo.2)).2 (by omega)
    rw [Dead, hge]
    exact ⟨⟨dd.1, fun ha => dd.2 (hst.flavor.trans (hfl.symm.trans ha))⟩, dk⟩
  · have hre := hrp hr
    refine ⟨by unfold R at *; rw [(hold' p hp).1]; exact hre, ?_⟩
    rw [hpk, hm.frame p hre]; exact congrArg _ (congrArg Actor.kids (get_upd_self s _ hp))
  · have hre : R e u := by unfold R at *; rw [← (hold' u hu).1]; exact h
    have := hm.run u hre
    unfold R at *; rw [← hst1]; exact this
  · have hre : R e u := by unfold R at *; rw [← (hold' u hu).1]; exact h
    rw [(hold' u hu).2 hne, hm.frame u hre]; exact congrArg Actor.kids (get_upd_ne s _ hne)

/-- F51 (repaired), on the finding's witness: spawning twice under one explicit id. The first child (uid 1) is
    stopped by the second spawn, the children map holds uid 2 under the id, and after the parent's `stop()`
    nothing runs. -/
theorem respawned_id_orphans_previous_actor_fixed (fl : Flavor) :
    let s2 := spawn none (spawn none (init fl true []) 0 "k1" (some "a") none true) 0 "k1" (some "a") none true
    (s2.get 1).id = (s2.get 2).id ∧ (s2.get 0).kids = [("r:a", 2)] ∧ (s2.get 1).status = .stopped ∧
    (s2.get 2).status = .running ∧
    ((settle (stop none s2 0)).get 0).status = .stopped ∧ ((settle (stop none s2 0)).get 2).status = .stopped ∧
    ((settle (stop none s2 0)).get 1).status = .stopped := by
  cases fl <;> decide +kernel

/-- F52 (sync engine): a non-blocking spawn whose watcher thread has not run yet returns an UNSTARTED
    child; `sendTo` right after the spawn is dropped ("notrunning") and the child has received nothing
    when it finally starts. -/
theorem sync_lazy_spawn_child_not_started :
    let s1 := spawn none (init .sync false []) 0 "k1" (some "a") none false
    (s1.get 1).status = .uninit ∧
    (runAction none "C0" 0 s1 (.sendTo "a" "M1" 0 none)).warns = ["notrunning"] ∧
    ((settle (runAction none "C0" 0 s1 (.sendTo "a" "M1" 0 none))).get 1).status = .running ∧
    ((settle (runAction none "C0" 0 s1 (.sendTo "a" "M1" 0 none))).get 1).received = [] := by
  decide +kernel

/-- F52, another face of it (sync engine, watcher thread not yet run): a spawn under an id whose previous
    holder is still UNSTARTED. `previous.stop()` is a no-op on an unstarted interpreter, so the repair of F51 has
    nothing to stop: the first child (uid 1) is unlinked, still unstarted, and starts running when its thread is
    finally scheduled. (`respawn_stops_and_replaces_previous` speaks about observation points, where every
    child has been started.) -/
theorem sync_lazy_respawn_previous_not_started :
    let s2 := spawn none (spawn none (init .sync false []) 0 "k1" (some "a") none false) 0 "k1" (some "a") none false
    (s2.get 1).status = .uninit ∧ (s2.get 0).kids = [("r:a", 2)] ∧
    ((settle s2).get 1).status = .running ∧ ((settle s2).get 0).kids = [("r:a", 2)] := by
  decide +kernel

/-! ## 2. addressing: the resolution order of `_resolve_actor_target` -/

/-- step 1: a registered systemId wins over everything -/
theorem resolve_systemId_first (s : Sys) (p : Nat) (spec : String) (u : Nat) (h : dlookup spec s.registry = some u) :
    resolve s p spec = .found u := by
  simp [resolve, h]

/-- step 2: then the exact actor id among the sender's children -/
theorem resolve_exact_id_second (s : Sys) (p : Nat) (spec : String) (u : Nat) (h1 : dlookup spec s.registry = none)
    (h2 : dlookup spec (s.get p).kids = some u) : resolve s p spec = .found u := by
  simp [resolve, h1, h2]

/-- step 3: then a UNIQUE child one of whose OWN id segments — those after the id of the sender, its parent — is the key -/
theorem resolve_unique_segment_third (s : Sys) (p : Nat) (spec : String) (u : Nat) (h1 : dlookup spec s.registry = none)
    (h2 : dlookup spec (s.get p).kids = none) (h3 : segMatches (s.get p).id (s.get p).kids spec = [u]) :
    resolve s p spec = .found u := by
  simp [resolve, h1, h2, h3]

/-- …several such children: ambiguous, nothing is addressed -/
theorem ambiguous_is_dropped (s : Sys) (p : Nat) (spec : String) (u v : Nat) (r : List Nat) (h1 : dlookup spec s.registry = none)
    (h2 : dlookup spec (s.get p).kids = none) (h3 : segMatches (s.get p).id (s.get p).kids spec = u :: v :: r) :
    resolve s p spec = .ambiguous := by
  simp [resolve, h1, h2, h3]

/-- F54 repaired — *which segments count.* A child takes part in the bare-key match of the actor with id `pid`
    iff the key is among the segments of its id AFTER `pid:`; for the ids a spawn produces
    (`spawn_id_scheme`: `pid:<explicit id>` and `pid:<key>:u<n>`) these are the segments of the explicit id,
    resp. `<key>` and `u<n>` — the segments of `pid` itself play no role, however many it has. -/
theorem segment_match_looks_only_below_the_parent (pid : String) (kids : List (String × Nat)) (spec : String) (u : Nat) :
    (u ∈ segMatches pid kids spec ↔ ∃ kv ∈ kids, spec ∈ ownSegs pid kv.1 ∧ kv.2 = u) ∧
    (∀ rest, ownSegs pid (pid ++ ":" ++ rest) = segs rest) ∧
    (∀ key e n, ownSegs pid (mkId pid key (some e) n) = segs e) ∧
    (∀ key n, ownSegs pid (mkId pid key none n) = segs (key ++ ":u" ++ toString (n + 1))) := by
  refine ⟨mem_segMatches pid kids spec u, ownSegs_prefix pid, fun key e n => ownSegs_prefix pid e, fun key n => ?_⟩
  have : mkId pid key none n = pid ++ ":" ++ (key ++ ":u" ++ toString (n + 1)) := by
    simp [mkId, String.append_assoc]
  rw [this]; exact ownSegs_prefix pid _

/-- step 4: then the UNIQUE child still in the map that was spawned from the service `spec` (F53 repaired:
    the fallback counts its matches) -/
theorem resolve_source_key_fourth (s : Sys) (p : Nat) (spec : String) (u : Nat) (h1 : dlookup spec s.registry = none)
    (h2 : dlookup spec (s.get p).kids = none) (h3 : segMatches (s.get p).id (s.get p).kids spec = [])
    (h4 : sourceMatches (s.get p) spec = [u]) : resolve s p spec = .found u := by
  simp [resolve, h1, h2, h3, h4]

/-- …several children spawned from that service: ambiguous, nothing is addressed; `sendTo` / `forwardTo` /
    `stopChild` then only warn ("ambiguous", "unresolved") and change nothing -/
theorem ambiguous_source_key_is_dropped (s : Sys) (p : Nat) (spec : String) (u v : Nat) (r : List Nat)
    (h1 : dlookup spec s.registry = none) (h2 : dlookup spec (s.get p).kids = none)
    (h3 : segMatches (s.get p).id (s.get p).kids spec = []) (h4 : sourceMatches (s.get p) spec = u :: v :: r) :
    resolve s p spec = .ambiguous ∧
    (∀ busy cur ev delay sid, runAction busy cur p s (.sendTo spec ev delay sid) = (s.warn "ambiguous").warn "unresolved") ∧
    (∀ busy cur, runAction busy cur p s (.forwardTo spec) = (s.warn "ambiguous").warn "unresolved") ∧
    (∀ busy cur, runAction busy cur p s (.stopChild spec) = (s.warn "ambiguous").warn "unresolved") := by
  have hr : resolve s p spec = .ambiguous := by simp [resolve, h1, h2, h3, h4]
  exact ⟨hr, fun _ _ _ _ _ => by simp [runAction, hr], fun _ _ => by simp [runAction, hr], fun _ _ => by simp [runAction, hr]⟩

/-- what the source-key matches are: the children still in the map whose recorded source key is the key -/
theorem source_key_matches (a : Actor) (spec : String) (u : Nat) :
    u ∈ sourceMatches a spec ↔ ∃ kv ∈ a.sources, kv.2 = spec ∧ dlookup kv.1 a.kids = some u := by
  unfold sourceMatches
  simp only [List.mem_filterMap, List.mem_filter, decide_eq_true_eq]
  constructor
  · rintro ⟨kv, ⟨h1, h2⟩, h3⟩; exact ⟨kv, h1, h2, h3⟩
  · rintro ⟨kv, h1, h2, h3⟩; exact ⟨kv, ⟨h1, h2⟩, h3⟩

/-- step 5: then `parent` / `#parent` -/
theorem resolve_parent_last (s : Sys) (p : Nat) (spec : String) (q : Nat) (h1 : dlookup spec s.registry = none)
    (h2 : dlookup spec (s.get p).kids = none) (h3 : segMatches (s.get p).id (s.get p).kids spec = [])
    (h4 : sourceMatches (s.get p) spec = []) (h5 : spec = "parent" ∨ spec = "#parent") (h6 : (s.get p).parent = some q) :
    resolve s p spec = .found q := by
  simp [resolve, h1, h2, h3, h4, parentMatch, h5, h6]

/-- otherwise nothing is addressed -/
theorem resolve_nothing (s : Sys) (p : Nat) (spec : String) (h1 : dlookup spec s.registry = none)
    (h2 : dlookup spec (s.get p).kids = none) (h3 : segMatches (s.get p).id (s.get p).kids spec = [])
    (h4 : sourceMatches (s.get p) spec = []) (h5 : ¬ (spec = "parent" ∨ spec = "#parent") ∨ (s.get p).parent = none) :
    resolve s p spec = .none := by
  rcases h5 with h5 | h5 <;> simp [resolve, h1, h2, h3, h4, parentMatch, h5]

/-- *…or drop it with a warning when the target does not resolve or is ambiguous*: `sendTo` / `forwardTo` /
    `stopChild` with such a target change no actor, no timer and no registry entry; they only warn. -/
theorem sendTo_ambiguous_or_unresolved_changes_nothing (busy : Option Nat) (cur : String) (p : Nat) (s : Sys)
    (target ev : String) (delay : Nat) (sid : Option String) (h : ∀ u, resolve s p target ≠ .found u) :
    (runAction busy cur p s (.sendTo target ev delay sid)).actors = s.actors ∧
    (runAction busy cur p s (.sendTo target ev delay sid)).timers = s.timers ∧
    (runAction busy cur p s (.sendTo target ev delay sid)).registry = s.registry ∧
    (runAction busy cur p s (.sendTo target ev delay sid)).warns ≠ s.warns ∧
    (runAction busy cur p s (.forwardTo target)).actors = s.actors ∧
    (runAction busy cur p s (.stopChild target)).actors = s.actors ∧
    (runAction busy cur p s (.stopChild target)).registry = s.registry := by
  cases hr : resolve s p target with
  | found u => exact absurd hr (h u)
  | ambiguous => simp [runAction, hr, Sys.warn]
  | none => simp [runAction, hr, Sys.warn]

/-- F53 (repaired), on the finding's witness: two children spawned from the same service under explicit ids:
    the bare service key is ambiguous (as it always was with auto ids), a `sendTo` only warns and nobody
    receives anything. -/
theorem source_key_first_of_many_wins_fixed (fl : Flavor) :
    let s2 := spawn none (spawn none (init fl true []) 0 "k1" (some "a") none true) 0 "k1" (some "b") none true
    let s3 := spawn none (spawn none (init fl true []) 0 "k1" none none true) 0 "k1" none none true
    resolve s2 0 "k1" = .ambiguous ∧ resolve s3 0 "k1" = .ambiguous ∧
    (runAction none "C" 0 s2 (.sendTo "k1" "M1" 0 none)).warns = ["ambiguous", "unresolved"] ∧
    (runAction none "C" 0 s2 (.sendTo "k1" "M1" 0 none)).actors = s2.actors := by
  cases fl <;> decide +kernel

/-- F54 (repaired), on the finding's witness: `r:a` has the single child `r:a:b`. Nothing is called `a` below
    `r:a`: `sendTo("a")` issued by `r:a` does not resolve (while `b` still does). -/
theorem segment_match_sees_parents_own_segments_fixed (fl : Flavor) :
    let s2 := spawn none (spawn none (init fl true []) 0 "k1" (some "a") none true) 1 "k2" (some "b") none true
    (s2.get 2).id = "r:a:b" ∧ resolve s2 1 "a" = .none ∧ resolve s2 1 "b" = .found 2 := by
  cases fl <;> decide +kernel

/-! ## 3. delivery: exactly once, to the addressee only, in sending order -/

theorem deliver_touches_only_the_recipient (s : Sys) (t : Nat) (ev : String) (v : Nat) (h : v ≠ t) :
    (deliverNow s t ev).get v = s.get v :=
  deliverNow_frame s t ev v h

/-- *each event exactly once, in sending order* (per sender/recipient pair, undelayed sends).
    Sync engine: a running recipient outside its own macrostep has processed exactly the events sent, in
    order, nothing is left queued. Async engine: they are queued in order behind what was queued, and the
    next hand-over (`settle`, the end of the macrostep) moves the whole queue, in order, to the processed
    events of a running recipient. -/
theorem deliver_exactly_once_in_order (s : Sys) (t : Nat) (evs : List String) (ht : t < s.actors.length) :
    (s.flavor = .sync → (s.get t).status = .running → (s.get t).busy = false →
      ((deliverAll s t evs).get t).received = (s.get t).received ++ evs ∧ ((deliverAll s t evs).get t).inbox = (s.get t).inbox) ∧
    (s.flavor = .async → (s.get t).status = .running → (s.get t).alive = true →
      ((deliverAll s t evs).get t).inbox = (s.get t).inbox ++ evs ∧
      ((settle (deliverAll s t evs)).get t).received = (s.get t).received ++ ((s.get t).inbox ++ evs) ∧
      ((settle (deliverAll s t evs)).get t).inbox = []) ∧
    (∀ v, v ≠ t → (deliverAll s t evs).get v = s.get v) := by
  refine ⟨fun hfl hr hb => deliverAll_sync s t evs hfl hr hb ht, fun hfl hr hal => ?_, fun v hv => deliverAll_frame s t evs v hv⟩
  have ⟨i1, i2, i3, i4⟩ := deliverAll_async s t evs hfl (by rw [hr]; decide) ht
  have hfl' : (deliverAll s t evs).flavor = .async := by
    have : Quiet s (deliverAll s t evs) := quiet_closed.foldl _ (fun s e => quiet_closed.deliverNow s t e) evs s
    rw [this.1]; exact hfl
  refine ⟨i1, ?_, ?_⟩
  · unfold settle; simp only [hfl']; rw [get_drainAll]
    simp [drainActor, i1, i2, i3, i4, hr, hal]
  · unfold settle; simp only [hfl']; rw [get_drainAll]
    simp [drainActor, i3, i4, hr, hal]

/-- the same at the level of an action list: consecutive `sendTo` actions to one resolvable target ARE that
    ordered delivery (resolution is not disturbed by the deliveries in between) -/
theorem sendTo_actions_deliver_in_order (busy : Option Nat) (cur : String) (p : Nat) (s : Sys) (tgt : String) (t : Nat)
    (evs : List String) (h : resolve s p tgt = .found t) :
    runActions busy cur p s (evs.map (fun e => Action.sendTo tgt e 0 none)) = deliverAll s t evs := by
  unfold runActions deliverAll
  induction evs generalizing s with
  | nil => rfl
  | cons e r ih =>
    simp only [List.map_cons, List.foldl_cons]
    have h1 : runAction busy cur p s (Action.sendTo tgt e 0 none) = deliverNow s t e := by
      simp [runAction, h, deliver]
    rw [h1]
    exact ih (deliverNow s t e) (by rw [resolve_deliverNow]; exact h)

/-! ## 4. delayed sends: cancel, reused ids -/

/-- *cancel(id) prevents that pending delayed send — and only that one.* The timer registered under the id
    is dead, every other timer is exactly as before, the id is free again. -/
theorem cancel_cancels_only_that_id (s : Sys) (p : Nat) (k : String) (j : Nat) (h : dlookup k (s.get p).sends = some j)
    (hp : p < s.actors.length) :
    (timerAt (cancelSend s p k) j).live = false ∧ (∀ i, i ≠ j → timerAt (cancelSend s p k) i = timerAt s i) ∧
    dlookup k ((cancelSend s p k).get p).sends = none :=
  ⟨(cancelSend_spec s p k j h).1, (cancelSend_spec s p k j h).2.1, cancelSend_sends s p k hp⟩

/-- the timers `advance` fires are the live due ones (`mem_dueLive`): after the cancel the cancelled one is
    never among them, every other one is fired exactly when it would have been -/
theorem cancelled_send_never_fires (s : Sys) (p : Nat) (k : String) (j : Nat) (h : dlookup k (s.get p).sends = some j) (t : Nat) :
    j ∉ dueLive (cancelSend s p k) t ∧ ∀ i, i ≠ j → (i ∈ dueLive (cancelSend s p k) t ↔ i ∈ dueLive s t) := by
  have ⟨c1, c2, c3⟩ := cancelSend_spec s p k j h
  refine ⟨fun hm => ?_, fun i hi => ?_⟩
  · have := ((mem_dueLive _ t j).mp hm).2.1; rw [c1] at this; cases this
  · rw [mem_dueLive, mem_dueLive, c2 i hi, c3]

theorem cancel_unknown_id_is_noop (s : Sys) (p : Nat) (k : String) (h : dlookup k (s.get p).sends = none) :
    cancelSend s p k = s := by
  unfold cancelSend; simp [h]

/-- *a reused id supersedes*: a delayed send under an id that still has a pending send kills that one,
    creates exactly one new live timer with the new event and due time, registers it under the id, and
    leaves every other timer alone. -/
theorem reused_id_supersedes (s : Sys) (p t : Nat) (ev : String) (delay : Nat) (k : String) (j : Nat) (hd : delay ≠ 0)
    (hj : dlookup k (s.get p).sends = some j) (hjl : j < s.timers.length) (hp : p < s.actors.length) :
    (timerAt (deliver s p t ev delay (some k)) j).live = false ∧
    timerAt (deliver s p t ev delay (some k)) s.timers.length = { owner := p, target := t, ev := ev, due := s.now + delay, live := true } ∧
    (∀ i, i < s.timers.length → i ≠ j → timerAt (deliver s p t ev delay (some k)) i = timerAt s i) ∧
    dlookup k ((deliver s p t ev delay (some k)).get p).sends = some s.timers.length := by
  unfold deliver schedule setSend
  simp only [hd, if_false]
  have hg : (addTimer s { owner := p, target := t, ev := ev, due := s.now + delay, live := true }).get p = s.get p := rfl
  rw [hg, hj]
  simp only
  refine ⟨?_, ?_, fun i hi hne => ?_, ?_⟩
  · rw [timerAt_upd, timerAt_killTimer]; simp
  · rw [timerAt_upd, timerAt_killTimer]
    have : s.timers.length ≠ j := by omega
    simp only [this, if_false]; exact timerAt_addTimer_new s _
  · rw [timerAt_upd, timerAt_killTimer]; simp only [hne, if_false]; exact timerAt_addTimer_lt s _ i hi
  · have hp' : p < (killTimer (addTimer s { owner := p, target := t, ev := ev, due := s.now + delay, live := true }) j).actors.length := hp
    rw [get_upd_self _ _ hp']; exact dlookup_dinsert_self _ _ _

theorem fresh_id_disturbs_no_other_send (s : Sys) (p t : Nat) (ev : String) (delay : Nat) (k : String) (hd : delay ≠ 0)
    (hj : dlookup k (s.get p).sends = none) :
    (∀ i, i < s.timers.length → timerAt (deliver s p t ev delay (some k)) i = timerAt s i) ∧
    timerAt (deliver s p t ev delay (some k)) s.timers.length = { owner := p, target := t, ev := ev, due := s.now + delay, live := true } := by
  unfold deliver schedule setSend
  simp only [hd, if_false]
  have hg : (addTimer s { owner := p, target := t, ev := ev, due := s.now + delay, live := true }).get p = s.get p := rfl
  rw [hg, hj]
  simp only
  exact ⟨fun i hi => by rw [timerAt_upd]; exact timerAt_addTimer_lt s _ i hi, by rw [timerAt_upd]; exact timerAt_addTimer_new s _⟩

/-! ## 5. supervision -/

/-- `stop()` of a running actor completes: status `stopped` and (async) no run loop left -/
theorem stop_makes_dead (busy : Option Nat) (s : Sys) (x : Nat) (hwf : WF s) (hx : x < s.actors.length)
    (hr : (s.get x).status = .running) : Dead (stop busy s x) x :=
  (stopA_spec busy s.actors.length s x hwf (by omega) hx hr).1

/-- *the parent's stop() stops the child and all its descendants and removes them from the children map*:
    from an observation point (`WF`, `Settled`, `Tidy`), after `stop()` of a running actor `x` every actor
    `d` below `x` in the children maps — at any depth — is completely stopped and its own children map is
    empty; actors that were already stopped stay so; nobody starts running. -/
theorem parent_stop_stops_subtree (busy : Option Nat) (s : Sys) (x : Nat) (hwf : WF s) (hset : Settled s) (htidy : Tidy s)
    (hx : x < s.actors.length) (hr : (s.get x).status = .running) :
    (∀ d, Desc s x d → Dead (stop busy s x) d ∧ ((stop busy s x).get d).kids = []) ∧
    (∀ u, (s.get u).status = .stopped → ((stop busy s x).get u).status = .stopped) ∧
    (∀ u, ((stop busy s x).get u).status = .running → (s.get u).status = .running) := by
  have ⟨hm, hc, hd⟩ := stop_spec busy s x hwf
  exact ⟨fun d hdesc => desc_down hwf hset htidy hm hc hdesc hx (hd hr), hm.stopped, hm.run⟩

/-- F14 repaired — *…and the system registry*, in full generality: when the registry holds no stopped actor
    (`RegLive`: true of every reachable state, `registry_never_holds_a_stopped_actor`), after `stop()` of a
    running actor `x` NO registry entry points to `x` or to any actor below `x`, at any depth. -/
theorem stop_unregisters_subtree (busy : Option Nat) (s : Sys) (x : Nat) (hwf : WF s) (hset : Settled s) (htidy : Tidy s)
    (hreg : RegLive s) (hx : x < s.actors.length) (hr : (s.get x).status = .running) :
    RegLive (stop busy s x) ∧ ∀ d, Desc s x d → ∀ kv ∈ (stop busy s x).registry, kv.2 ≠ d := by
  have hl : RegLive (stop busy s x) := hreg.step (reg_closed.stop busy s x)
  refine ⟨hl, fun d hd kv hkv e => ?_⟩
  have := ((parent_stop_stops_subtree busy s x hwf hset htidy hx hr).1 d hd).1.1
  exact hl kv hkv (by rw [e]; exact this)

/-- *stopChild stops the child and all its descendants and removes them from the children map and the
    system registry*: for the child `x` found under `cid` in the caller's map, the entry (and its source
    record) is gone, and `x` with EVERYTHING below it is completely stopped, has an empty children map and is
    no longer in the registry under any systemId. -/
theorem stop_child_removes_subtree (busy : Option Nat) (s : Sys) (p x : Nat) (cid : String)
    (hwf : WF s) (hset : Settled s) (htidy : Tidy s) (hreg : RegLive s) (hp : p < s.actors.length)
    (hfind : (s.get p).kids.find? (fun kv => kv.2 = x) = some (cid, x)) (hr : (s.get x).status = .running) :
    dlookup cid ((stopChildTo busy s p x).get p).kids = none ∧
    (∀ d, Desc s x d → Dead (stopChildTo busy s p x) d ∧ ((stopChildTo busy s p x).get d).kids = [] ∧
      ∀ kv ∈ (stopChildTo busy s p x).registry, kv.2 ≠ d) := by
  have hpx := hwf p (cid, x) (List.mem_of_find?_eq_some hfind)
  have hl : RegLive (stopChildTo busy s p x) := hreg.step (reg_closed.stopChildTo busy s p x)
  have ⟨t, heq, htf, htn, htc, htne, htk⟩ := stopChildTo_spec busy s p x cid hp hfind
  have hdown : ∀ d, Desc s x d → Dead (stop busy t x) d ∧ ((stop busy t x).get d).kids = [] := fun d hdesc =>
    stop_unlinked_down busy hwf hset htidy htf htn htc (fun v hv => by rw [htne v (Nat.ne_of_gt hv)]) hpx.1 hpx.2 hdesc
  rw [heq] at hl ⊢
  refine ⟨?_, fun d hdesc => ⟨(hdown d hdesc).1, (hdown d hdesc).2, fun kv hkv e =>
    hl kv hkv (by rw [e]; exact (hdown d hdesc).1.1)⟩⟩
  rcases (mono_stop busy t x).kids p with e | e
  · rw [e]; exact htk
  · rw [e]; rfl

/-- F14 repaired, as an invariant: in EVERY state the model can reach — whatever commands, whatever
    operations, both engines, also in runs that leave the fragment — the system registry holds no stopped
    actor. (`stop()` sets the status and drops the systemIds together; nothing else stops an actor.) -/
theorem registry_never_holds_a_stopped_actor (cmds : List (String × List Action)) (fl : Flavor) (eager : Bool)
    (invoke : List (String × String)) (ops : List Op) : RegLive (run cmds (init fl eager invoke) ops) :=
  RegLive.step (s := init fl eager invoke) (fun _ h => by cases h) (reg_closed.run cmds _ ops)

/-- …and it is an invariant of every single operation and of every action inside a macrostep -/
theorem registry_invariant_is_inductive (cmds : List (String × List Action)) (s : Sys) (h : RegLive s) :
    (∀ op, RegLive (step cmds s op)) ∧ (∀ busy cur p acts, RegLive (runActions busy cur p s acts)) ∧
    (∀ busy x, RegLive (stop busy s x)) :=
  ⟨fun op => h.step (reg_closed.step cmds s op), fun busy cur p acts => h.step (reg_closed.runActions busy cur p s acts),
    fun busy x => h.step (reg_closed.stop busy s x)⟩

/-- hence a systemId never addresses a stopped actor: whatever `resolve` finds through the registry is not stopped -/
theorem systemId_never_addresses_a_stopped_actor (s : Sys) (h : RegLive s) (p : Nat) (spec : String) (u : Nat)
    (hreg : dlookup spec s.registry = some u) : resolve s p spec = .found u ∧ (s.get u).status ≠ .stopped :=
  ⟨resolve_systemId_first s p spec u hreg, h (spec, u) (dlookup_mem hreg)⟩

/-- F14 (repaired), on the finding's witness: `r` spawns `a`, `a` spawns `b` with systemId `S2`, `r` does
    stopChild(`a`). `b` (uid 2) is stopped — and no longer registered. The same after a plain `stop()`. -/
theorem registry_keeps_stopped_descendant_fixed (fl : Flavor) :
    let s2 := spawn none (spawn none (init fl true []) 0 "k1" (some "a") none true) 1 "k2" (some "b") (some "S2") true
    let s3 := settle (runAction none "C2" 0 s2 (.stopChild "a"))
    dlookup "S2" s2.registry = some 2 ∧
    (s3.get 2).status = .stopped ∧ (s3.get 0).kids = [] ∧ s3.registry = [] ∧
    (settle (stop none s2 0)).registry = [] := by
  cases fl <;> decide +kernel

/-! ## 5b. the hypotheses of §5 hold in every reachable state -/

/-- one operation preserves the observation-point invariant `I`: the run has left the fragment (`oos`), or
    `Pre` (`WF`, `Tidy`, parent links = children maps, every actor unstarted / running / completely stopped)
    and `Settled` hold -/
theorem observation_invariant_is_inductive (cmds : List (String × List Action)) (s : Sys) (h : I s) (op : Op) :
    I (step cmds s op) :=
  i_stepOn cmds _ op (h.shrunk (shrunk_closed.side s _ _ _ _ : Shrunk s (clearWarns s)))

/-- *every reachable state*: from the started root, after any operations with any commands, on either engine
    and with either thread schedule, as long as no actor has stopped itself or an ancestor through a systemId
    (`oos`, the one thing the model does not follow), the observation point satisfies `WF`, `Settled`, `Tidy`
    and `RegLive`. -/
theorem reachable_inv (cmds : List (String × List Action)) (fl : Flavor) (eager : Bool) (invoke : List (String × String))
    (ops : List Op) (ho : (run cmds (init fl eager invoke) ops).oos = false) :
    WF (run cmds (init fl eager invoke) ops) ∧ Settled (run cmds (init fl eager invoke) ops) ∧
    Tidy (run cmds (init fl eager invoke) ops) ∧ RegLive (run cmds (init fl eager invoke) ops) :=
  (foldl_inv _ (fun s op h => observation_invariant_is_inductive cmds s h op) ops _ (i_init fl eager invoke)).elim
    (fun h => absurd (ho.symm.trans h) Bool.false_ne_true)
    fun ⟨h1, h2⟩ => ⟨h1.wf, h2, h1.tidy, registry_never_holds_a_stopped_actor cmds fl eager invoke ops⟩

/-- §5 without hypotheses about the state: in every reachable state, `stop()` of a running actor `x` leaves
    every actor below `x` — at any depth — completely stopped, with an empty children map, and in no registry
    entry. -/
theorem reachable_stop_stops_and_unregisters_subtree (cmds : List (String × List Action)) (fl : Flavor) (eager : Bool)
    (invoke : List (String × String)) (ops : List Op) (busy : Option Nat) (x : Nat)
    (ho : (run cmds (init fl eager invoke) ops).oos = false) (hx : x < (run cmds (init fl eager invoke) ops).actors.length)
    (hr : ((run cmds (init fl eager invoke) ops).get x).status = .running) :
    ∀ d, Desc (run cmds (init fl eager invoke) ops) x d →
      Dead (stop busy (run cmds (init fl eager invoke) ops) x) d ∧
      ((stop busy (run cmds (init fl eager invoke) ops) x).get d).kids = [] ∧
      ∀ kv ∈ (stop busy (run cmds (init fl eager invoke) ops) x).registry, kv.2 ≠ d := by
  have ⟨hwf, hset, htidy, hreg⟩ := reachable_inv cmds fl eager invoke ops ho
  intro d hd
  have h1 := (parent_stop_stops_subtree busy _ x hwf hset htidy hx hr).1 d hd
  exact ⟨h1.1, h1.2, (stop_unregisters_subtree busy _ x hwf hset htidy hreg hx hr).2 d hd⟩

/-- …and `stopChild` of a running child found in the caller's map -/
theorem reachable_stop_child_removes_subtree (cmds : List (String × List Action)) (fl : Flavor) (eager : Bool)
    (invoke : List (String × String)) (ops : List Op) (busy : Option Nat) (p x : Nat) (cid : String)
    (ho : (run cmds (init fl eager invoke) ops).oos = false) (hp : p < (run cmds (init fl eager invoke) ops).actors.length)
    (hfind : ((run cmds (init fl eager invoke) ops).get p).kids.find? (fun kv => kv.2 = x) = some (cid, x))
    (hr : ((run cmds (init fl eager invoke) ops).get x).status = .running) :
    dlookup cid ((stopChildTo busy (run cmds (init fl eager invoke) ops) p x).get p).kids = none ∧
    (∀ d, Desc (run cmds (init fl eager invoke) ops) x d →
      Dead (stopChildTo busy (run cmds (init fl eager invoke) ops) p x) d ∧
      ((stopChildTo busy (run cmds (init fl eager invoke) ops) p x).get d).kids = [] ∧
      ∀ kv ∈ (stopChildTo busy (run cmds (init fl eager invoke) ops) p x).registry, kv.2 ≠ d) := by
  have ⟨hwf, hset, htidy, hreg⟩ := reachable_inv cmds fl eager invoke ops ho
  exact stop_child_removes_subtree busy _ p x cid hwf hset htidy hreg hp hfind hr

/-! ## 6. nothing after stop -/

/-- *…so they receive nothing afterwards.* F50 repaired: the clause holds from the moment `stop()` has set the
    status — not only once `stop()` has completed, and whatever is still in the actor's queue. Whatever
    operations follow, the actor stays stopped, its record of processed events never changes, and once its
    run loop has ended (`Dead`) it stays ended. -/
theorem nothing_delivered_after_stop (cmds : List (String × List Action)) (s : Sys) (u : Nat)
    (h : (s.get u).status = .stopped) (ops : List Op) :
    ((run cmds s ops).get u).status = .stopped ∧ ((run cmds s ops).get u).received = (s.get u).received ∧
    (Dead s u → Dead (run cmds s ops) u) :=
  have q := quiet_closed.run cmds s ops
  ⟨q.stopped h, q.received h, fun hd => (q.dead hd).1⟩

/-- the same INSIDE a macrostep, where the async engine hands queues over (`drainAll`: every `await` that
    really suspends) while some `stop()` is still under way: a stopped actor processes nothing of what is
    queued for it — at a hand-over, during the rest of the action list, during anybody's `stop()` -/
theorem stopped_actor_is_frozen_inside_a_macrostep (s : Sys) (u : Nat) (h : (s.get u).status = .stopped) :
    (∀ busy, ((drainAll busy s).get u).received = (s.get u).received) ∧
    (∀ busy cur p acts, ((runActions busy cur p s acts).get u).received = (s.get u).received) ∧
    (∀ busy x, ((stop busy s x).get u).received = (s.get u).received) :=
  ⟨fun busy => (quiet_drainAll busy s).received h, fun busy cur p acts => (quiet_closed.runActions busy cur p s acts).received h,
    fun busy x => (quiet_closed.stop busy s x).received h⟩

/-- *events already in the inbox at stop time*: `stop()` of a running actor `x` — whatever `x` has in its
    queue, whatever its children do while they are stopped — leaves the record of what `x` has processed
    exactly as it was, and so does everything that follows. -/
theorem stop_discards_the_queue (cmds : List (String × List Action)) (busy : Option Nat) (s : Sys) (x : Nat)
    (hx : x < s.actors.length) (hr : (s.get x).status = .running) (ops : List Op) :
    ((stop busy s x).get x).received = (s.get x).received ∧
    ((run cmds (stop busy s x) ops).get x).received = (s.get x).received := by
  have ⟨h1, h2⟩ := stop_own_queue busy s x hx hr
  exact ⟨h2, (nothing_delivered_after_stop cmds _ x h1 ops).2.1.trans h2⟩

/-- …in particular for every actor of a stopped subtree -/
theorem stopped_subtree_receives_nothing (cmds : List (String × List Action)) (busy : Option Nat) (s : Sys) (x : Nat)
    (hwf : WF s) (hset : Settled s) (htidy : Tidy s) (hx : x < s.actors.length) (hr : (s.get x).status = .running)
    (d : Nat) (hd : Desc s x d) (ops : List Op) :
    ((run cmds (stop busy s x) ops).get d).received = ((stop busy s x).get d).received :=
  (nothing_delivered_after_stop cmds _ d ((parent_stop_stops_subtree busy s x hwf hset htidy hx hr).1 d hd).1.1 ops).2.1

/-- single operations and single deliveries too (a send to a stopped actor only warns) -/
theorem send_to_stopped_actor_is_dropped (s : Sys) (t : Nat) (ev : String) (h : (s.get t).status = .stopped) :
    ((deliverNow s t ev).get t).received = (s.get t).received ∧ (deliverNow s t ev).warns = s.warns ++ ["notrunning"] := by
  refine ⟨(quiet_closed.deliverNow s t ev).received h, ?_⟩
  unfold deliverNow
  cases hfl : s.flavor <;> simp [h, Sys.warn]

/-- F50 (repaired), on the finding's witness (async engine). `a` (uid 1) has a child `b`; `r` does
    sendTo(a, M1), sendTo(a, M2), stopChild(a). While `a.stop()` awaits `b.stop()`, a's run loop — already woken
    for M1 — finds the status `stopped` after `get()`, discards M1 and ends: `a` has processed nothing, exactly
    as without the grandchild. -/
theorem async_stopped_actor_processes_queued_event_fixed :
    let s2 := spawn none (spawn none (init .async true []) 0 "k1" (some "a") none true) 1 "k2" (some "b") none true
    let acts := [Action.sendTo "a" "M1" 0 none, Action.sendTo "a" "M2" 0 none, Action.stopChild "a"]
    ((cmdOp s2 0 "C" acts).get 1).status = .stopped ∧ ((cmdOp s2 0 "C" acts).get 1).received = [] ∧
    ((cmdOp s2 0 "C" acts).get 1).alive = false ∧ ((cmdOp s2 0 "C" acts).get 2).status = .stopped ∧
    (let s1 := spawn none (init .async true []) 0 "k1" (some "a") none true
     ((cmdOp s1 0 "C" acts).get 1).received = []) := by
  decide +kernel

/-! ## 7. actors that end by themselves (`Xsm/Model/ActorsDone.lean`) -/

/-- the commands of the witness: the child spawns `g` under the systemId `S2`; the root sends `M1` to `S2` -/
def doneCmds : List (String × List Action) :=
  [("C0", [Action.spawn "k2" (some "g") (some "S2") false]), ("C1", [Action.sendTo "S2" "M1" 0 none])]

/-- `r` enters its invoking state (`invoke: {src: k1}`), the invoked child `aid` spawns `g`, then the child's machine
    ENDS BY ITSELF (`failed`: in the error status instead of a final state) and the watchers' poll interval passes -/
def doneRun (fl : Flavor) (fixed failed : Bool) (aid : String) : SysD :=
  runD doneCmds (initD fl true [("r", "k1")] fixed) [.base (.cmd "r" "GOINV"), .base (.cmd aid "C0"), .fin aid failed]

/-- F71 (async engine) BEFORE its repair (`fixed = false`; the library today is `fixed = true`, next theorem). The invoked child (uid 1) has reached its final state
    (resp. failed): the managing task has told the parent (`done.invoke.iv` / `error.platform.iv`) and removed the child
    from the parent's children map — but has NOT stopped it: its status is `done` (`error`), it still lists `g`
    (uid 2), and `g` is still RUNNING and still registered under its systemId.  The root can still reach `g`
    through the systemId (`M1` is delivered), and after `stop()` of the root — which stops everything it lists —
    `g` is STILL running and registered: no `stop()` reaches it any more.  (The run stays inside the modelled
    fragment.) -/
theorem completed_child_leaves_running_descendants (failed : Bool) :
    let d3 := doneRun .async false failed "r:k1:u1"
    let d5 := runD doneCmds d3 [.base (.cmd "r" "C1"), .base (.stop "r")]
    d3.status 1 = (if failed then StatusD.error else StatusD.done) ∧
    (d3.base.get 0).kids = [] ∧ (d3.base.get 0).received = ["GOINV", if failed then "error.platform.iv" else "done.invoke.iv"] ∧
    (d3.base.get 1).kids = [("r:k1:u1:g", 2)] ∧ d3.status 2 = .running ∧ d3.base.registry = [("S2", 2)] ∧
    d5.status 0 = .stopped ∧ d5.status 2 = .running ∧ (d5.base.get 2).received = ["M1"] ∧
    d5.base.registry = [("S2", 2)] ∧ d5.base.oos = false := by
  -- decided for both values of `failed` at once: the kernel goes through what the two runs share only once
  revert failed
  decide +kernel

/-- the same witness where the child IS stopped when it ends by itself: the async engine as it is, F71 repaired
    (`fixed = true`: the managing task stops the child whatever its status) and the sync engine (the watcher thread
    calls `child.stop()`; there the invoked child is `r:iv`).  The child and `g` are completely stopped, nothing is
    registered, the parent's map is empty; `M1` is not delivered to anybody (the systemId no longer resolves). -/
theorem completed_child_is_stopped_with_its_descendants (failed : Bool) :
    (let d3 := doneRun .async true failed "r:k1:u1"
     let d4 := runD doneCmds d3 [.base (.cmd "r" "C1")]
     d3.status 1 = .stopped ∧ d3.status 2 = .stopped ∧ (d3.base.get 0).kids = [] ∧ (d3.base.get 1).kids = [] ∧
     d3.base.registry = [] ∧ d3.fin = [] ∧ invB d3.base = true ∧
     d4.base.warns = ["unresolved"] ∧ (d4.base.get 2).received = []) ∧
    (∀ fixed, let d3 := doneRun .sync fixed failed "r:iv"
     d3.status 1 = .stopped ∧ d3.status 2 = .stopped ∧ (d3.base.get 0).kids = [] ∧ (d3.base.get 1).kids = [] ∧
     d3.base.registry = [] ∧ d3.fin = [] ∧ invB d3.base = true) := by
  revert failed
  decide +kernel

/-! ## non-vacuity: a concrete three-level system satisfies every hypothesis used above -/

example (fl : Flavor) : invB (exSys fl) = true := (exSys_facts fl).1
example (fl : Flavor) : WF (exSys fl) ∧ Settled (exSys fl) ∧ Tidy (exSys fl) := invB_sound (exSys_facts fl).1
example (fl : Flavor) : ((exSys fl).get 2).id = "r:k2:u1" ∧ resolve (exSys fl) 0 "S1" = .found 1 ∧ resolve (exSys fl) 0 "k2" = .found 2 ∧
    resolve (exSys fl) 1 "parent" = .found 0 ∧ resolve (exSys fl) 0 "zz" = .none := (exSys_facts fl).2.1
example (fl : Flavor) : Desc (exSys fl) 1 3 :=
  have ⟨_, _, hkid, _, _⟩ := exSys_facts fl
  Desc.kid ("r:a:b", 3) hkid (Desc.self 3)
example (fl : Flavor) : Dead (stop none (exSys fl) 1) 3 :=
  have ⟨hinv, _, hkid, hlen, hrun⟩ := exSys_facts fl
  have ⟨hwf, hset, htidy⟩ := invB_sound hinv
  ((parent_stop_stops_subtree none (exSys fl) 1 hwf hset htidy hlen hrun).1 3 (Desc.kid ("r:a:b", 3) hkid (Desc.self 3))).1

end XSM.C15
